import CfrVerif.Model.Parallel
/-!
# The mutexes of `solve_external_multi` (src/solve/external.rs) as an interleaving model

In the multi-threaded external-sampling solver every infoset sits in a `std::sync::Mutex`:

* `ChanceRecurse for Mutex<_>`   : `self.lock().unwrap().next(chance)` — a blocking lock held for
  the draw only (the guard is dropped before the recursion continues);
* `ExternalRecurse for Mutex<_>` : `self.lock().unwrap().next_update(player)` — the same for the
  sampled player's infoset;
* `ActiveRecurse for Mutex<_>`   : `self.try_lock().unwrap().recurse(player, rec)` — the updating
  player's infoset is locked **without waiting** and the guard lives across the recursion into
  all children; if the mutex is held (by another worker, or further up the same recursion) the
  `unwrap` panics.

`Model/Parallel.lean` has the *effects* of the pool's tasks; this file has what the tasks do to
the mutexes, and a small-step semantics of the pool in which any worker may move next.  The
theorems (`Proofs/Locks.lean`, quoted by C05 and C07) are over every such interleaving.
-/
namespace Cfr

/-- the mutexes: chance infosets, and both players' infosets -/
inductive LockId where
  | chance (i : Nat)
  | player (one : Bool) (i : Nat)
  deriving DecidableEq, Repr, Inhabited

/-- what a worker does to a mutex -/
inductive LEv where
  /-- `try_lock().unwrap()` : acquires, or panics when the mutex is held -/
  | tryAcq (l : LockId)
  /-- `lock().unwrap()` : acquires, waiting while the mutex is held -/
  | acq (l : LockId)
  /-- the guard is dropped -/
  | rel (l : LockId)
  deriving DecidableEq, Repr, Inhabited

section
variable {α : Type} [Zero α] [One α] [Add α] [Sub α] [Mul α] [Div α] [Neg α]
  [LT α] [DecidableLT α] [BEq α] [NatCast α] [FloatLike α] [Transc α]

mutual
/-- the mutex events of `recurse_regret::<FIRST>` without a payoff cache (`&()`), in program
order; the draws are the ones `erec` makes -/
def etrace (c : ECtx α) : Node α → DrawSt α → List LEv × DrawSt α
  | .term _, d => ([], d)
  | .chance i ks, d =>
    let (k, d) := sampleChance c.draw c.chancePass (c.ch.getD i []) i d
    let (t, d) := etraceNth c ks k d
    (.acq (.chance i) :: .rel (.chance i) :: t, d)
  | .player one i ks, d =>
    let σ := c.strat one i
    if one == c.first then
      let (t, d) := etraceActs c σ ks d
      (.tryAcq (.player one i) :: t ++ [.rel (.player one i)], d)
    else
      let (k, d) := samplePlayer c.draw (if one then 1 else 2) c.playerPass σ i d
      let (t, d) := etraceNth c ks k d
      (.acq (.player one i) :: .rel (.player one i) :: t, d)
def etraceNth (c : ECtx α) : List (Node α) → Nat → DrawSt α → List LEv × DrawSt α
  | [], _, d => ([], d)
  | k :: _, 0, d => etrace c k d
  | _ :: ks, n + 1, d => etraceNth c ks n d
/-- the children visited by `ActiveInfo::recurse` (zipped with the strategy vector) -/
def etraceActs (c : ECtx α) : List α → List (Node α) → DrawSt α → List LEv × DrawSt α
  | _ :: σ, k :: ks, d =>
    let (t, d) := etrace c k d
    let (t', d') := etraceActs c σ ks d
    (t ++ t', d')
  | _, _, d => ([], d)
end

mutual
/-- the mutex events of the closing `recurse_regret::<FIRST>` from the root on the calling thread,
which stops at the nodes whose payoff the pool has cached -/
def etraceC (c : ECtx α) (cache : List (Path × α)) : Node α → Path → DrawSt α → List LEv × DrawSt α
  | n, path, d =>
    match cacheGet cache path with
    | some _ => ([], d)
    | none =>
      match n with
      | .term _ => ([], d)
      | .chance i ks =>
        let (k, d) := sampleChance c.draw c.chancePass (c.ch.getD i []) i d
        let (t, d) := etraceCNth c cache ks k (path ++ [k]) d
        (.acq (.chance i) :: .rel (.chance i) :: t, d)
      | .player one i ks =>
        let σ := c.strat one i
        if one == c.first then
          let (t, d) := etraceCActs c cache σ ks path d 0
          (.tryAcq (.player one i) :: t ++ [.rel (.player one i)], d)
        else
          let (k, d) := samplePlayer c.draw (if one then 1 else 2) c.playerPass σ i d
          let (t, d) := etraceCNth c cache ks k (path ++ [k]) d
          (.acq (.player one i) :: .rel (.player one i) :: t, d)
def etraceCNth (c : ECtx α) (cache : List (Path × α)) :
    List (Node α) → Nat → Path → DrawSt α → List LEv × DrawSt α
  | [], _, _, d => ([], d)
  | k :: _, 0, path, d => etraceC c cache k path d
  | _ :: ks, n + 1, path, d => etraceCNth c cache ks n path d
def etraceCActs (c : ECtx α) (cache : List (Path × α)) :
    List α → List (Node α) → Path → DrawSt α → Nat → List LEv × DrawSt α
  | _ :: σ, k :: ks, path, d, a =>
    let (t, d) := etraceC c cache k (path ++ [a]) d
    let (t', d') := etraceCActs c cache σ ks path d (a + 1)
    (t ++ t', d')
  | _, _, _, d, _ => ([], d)
end

/-- one trace per task handed to the pool (`work.queue.par_drain(..)`), draws as in `eRunTasks` -/
def eTaskTraces (c : ECtx α) : List (EItem α) → DrawSt α → List (List LEv) × DrawSt α
  | [], d => ([], d)
  | it :: rest, d =>
    let (t, d) := etrace c it.node d
    let (ts, d') := eTaskTraces c rest d
    (t :: ts, d')

/-- the tasks of one pass of `single_player_iter::<FIRST>` -/
def externalPoolTraces (g : Game α) (c : ECtx α) (target : Nat) (log : List (DrawRec α)) :
    List (List LEv) :=
  let size := g.root.size
  let (queue, _, d) := eThreshold c target size (2 * size + 2) [⟨[], g.root⟩] [] { log := log }
  (eTaskTraces c queue d).1

/-- the closing recursion of the same pass on the calling thread (after the pool has finished) -/
def externalClosingTrace (g : Game α) (c : ECtx α) (target : Nat) (log : List (DrawRec α)) :
    List LEv :=
  let size := g.root.size
  let (queue, _, d) := eThreshold c target size (2 * size + 2) [⟨[], g.root⟩] [] { log := log }
  let (cache, _, d) := eRunTasks c queue d
  (etraceC c cache g.root [] d).1

end

/-! ## the pool: any worker may move next -/

/-- remaining events of every task, and who holds which mutex -/
structure LCfg where
  tasks : List (List LEv)
  held : List (LockId × Nat)
  deriving Repr

def LCfg.init (ts : List (List LEv)) : LCfg := ⟨ts, []⟩

def LCfg.isHeld (cfg : LCfg) (l : LockId) : Bool := cfg.held.any (fun h => h.1 == l)

def LCfg.finished (cfg : LCfg) : Bool := cfg.tasks.all List.isEmpty

/-- outcome of letting task `j` take its next step -/
inductive LOut where
  | ok (cfg : LCfg)
  /-- `lock()` on a held mutex: the worker waits -/
  | blocked
  /-- `try_lock().unwrap()` on a held mutex -/
  | panic
  /-- the task has finished (or there is no such task) -/
  | idle
  deriving Repr

def lstep (cfg : LCfg) (j : Nat) : LOut :=
  match cfg.tasks[j]? with
  | none => .idle
  | some [] => .idle
  | some (e :: rest) =>
    match e with
    | .tryAcq l => if cfg.isHeld l then .panic else .ok ⟨cfg.tasks.set j rest, (l, j) :: cfg.held⟩
    | .acq l => if cfg.isHeld l then .blocked else .ok ⟨cfg.tasks.set j rest, (l, j) :: cfg.held⟩
    | .rel l => .ok ⟨cfg.tasks.set j rest, cfg.held.filter (fun h => !(h.1 == l && h.2 == j))⟩

/-- `LReach a n b` : `b` is reached from `a` by `n` steps of some thread schedule -/
inductive LReach : LCfg → Nat → LCfg → Prop where
  | refl (a : LCfg) : LReach a 0 a
  | step {a b c : LCfg} {n : Nat} (j : Nat) : LReach a n b → lstep b j = .ok c → LReach a (n + 1) c

/-- number of events still to be executed -/
def LCfg.remaining (cfg : LCfg) : Nat := (cfg.tasks.map List.length).sum

/-- run a given schedule (list of task numbers), stopping at the first panic; steps of blocked or
finished tasks are skipped (the scheduler picks another worker) -/
def lrun : LCfg → List Nat → Option LCfg
  | cfg, [] => some cfg
  | cfg, j :: js =>
    match lstep cfg j with
    | .ok cfg' => lrun cfg' js
    | .panic => none
    | .blocked => lrun cfg js
    | .idle => lrun cfg js

/-! ## decidable form of the hypotheses `Lk.PoolOK` (Proofs/LocksGeneric.lean)

`poolOKb` is run by the driver on the traces *observed* in the crate (feature `verif` logs every
`lock`, `try_lock` and guard drop per thread and pass); `Proofs/LocksCheck.lean` proves
`poolOKb ts = true → Lk.PoolOK ts`, so a positive answer puts the observed traces under the
theorems: no interleaving of them panics on a `try_lock` or deadlocks. -/

def tryLocksOf : List LEv → List LockId
  | [] => []
  | .tryAcq l :: t => l :: tryLocksOf t
  | _ :: t => tryLocksOf t

def blockLocksOf : List LEv → List LockId
  | [] => []
  | .acq l :: t => l :: blockLocksOf t
  | _ :: t => blockLocksOf t

def leafCSb : List LEv → Bool
  | [] => true
  | .acq l :: .rel l' :: t => l == l' && leafCSb t
  | .acq _ :: _ => false
  | _ :: t => leafCSb t

def relOKb : List LEv → Bool
  | [] => true
  | .tryAcq l :: t => t.contains (.rel l) && relOKb t
  | .acq l :: t => t.contains (.rel l) && relOKb t
  | .rel _ :: t => relOKb t

def nodupb : List LockId → Bool
  | [] => true
  | l :: ls => !ls.contains l && nodupb ls

def poolOKb (ts : List (List LEv)) : Bool :=
  let tr := ts.flatMap tryLocksOf
  let bl := ts.flatMap blockLocksOf
  nodupb tr && ts.all leafCSb && tr.all (fun l => !bl.contains l) && ts.all relOKb

/-- which hypothesis fails first (for the report) -/
def poolOKwhy (ts : List (List LEv)) : String :=
  let tr := ts.flatMap tryLocksOf
  let bl := ts.flatMap blockLocksOf
  if !nodupb tr then "a mutex is try_locked twice in one pass"
  else if !ts.all leafCSb then "a blocking lock() is not released by the thread's next mutex operation"
  else if !tr.all (fun l => !bl.contains l) then "a mutex is try_locked by one worker and lock()ed by another in the same pass"
  else if !ts.all relOKb then "an acquisition is never released"
  else "ok"

/-! ### the wider hypotheses `Lk.PoolOK2` (Proofs/LocksGeneric.lean)

A mutex that is acquired only once in the whole pass (by whatever call) is never contended, so it
may be held across other acquisitions whether it was taken by `try_lock` or by `lock`; every other
acquisition must be a blocking `lock()` released by the thread's next operation. -/

/-- every mutex some task acquires, with multiplicity -/
def acqLocksOf : List LEv → List LockId
  | [] => []
  | .tryAcq l :: t => l :: acqLocksOf t
  | .acq l :: t => l :: acqLocksOf t
  | .rel _ :: t => acqLocksOf t

/-- `wideOKb all t` : every acquisition in `t` is of a mutex acquired once in the pass (`all` lists
every acquisition of the pass), or a `lock()` released by the next operation -/
def wideOKb (all : List LockId) : List LEv → Bool
  | [] => true
  | .tryAcq l :: t => all.count l == 1 && wideOKb all t
  | .acq l :: .rel l' :: t =>
    if l == l' then wideOKb all t else all.count l == 1 && wideOKb all (.rel l' :: t)
  | .acq l :: t => all.count l == 1 && wideOKb all t
  | .rel _ :: t => wideOKb all t

def poolOK2b (ts : List (List LEv)) : Bool :=
  let all := ts.flatMap acqLocksOf
  ts.all (wideOKb all) && ts.all relOKb

def poolOK2why (ts : List (List LEv)) : String :=
  let all := ts.flatMap acqLocksOf
  if !ts.all (wideOKb all) then
    "a mutex acquired more than once in the pass is try_locked, or lock()ed and not released by the thread's next mutex operation"
  else if !ts.all relOKb then "an acquisition is never released"
  else "ok"

section
variable {α : Type} [Zero α] [One α] [Add α] [Sub α] [Mul α] [Div α] [Neg α]
  [LT α] [DecidableLT α] [BEq α] [NatCast α] [FloatLike α] [Transc α]

/-- the pass context `externalPass` builds -/
def externalCtx (g : Game α) (first : Bool) (draw : DrawFn α) (it : Nat) (s : SolveSt α) : ECtx α :=
  ⟨g.chance, first, s.strat, draw, 2 * (it - 1) + (if first then 0 else 1), if first then it - 1 else it⟩

/-- the mutex events of every pass of `n` iterations of external sampling from iteration `it`
(all nodes of the sampled tree: what the pool's tasks and the closing recursion do together) -/
def externalLockPasses (g : Game α) (p : RegretParams α) (draw : DrawFn α) :
    Nat → Nat → SolveSt α → List (DrawRec α) → List (List LEv)
  | 0, _, _, _ => []
  | n + 1, it, s, log =>
    let t1 := (etrace (externalCtx g true draw it s) g.root { log := log }).1
    match externalPass g true p draw it s log with
    | (s, _, log) =>
      let t2 := (etrace (externalCtx g false draw it s) g.root { log := log }).1
      match externalPass g false p draw it s log with
      | (s, _, log) => t1 :: t2 :: externalLockPasses g p draw n (it + 1) s log

end

end Cfr
