import CfrVerif.Model.Eval
/-!
# `optimal_deviations` with its work-list, as the crate schedules it (src/regret.rs)

`Model/Eval.lean` resolves the infosets in decreasing index order.  The crate instead keeps, per
infoset, the reached nodes (`prob_nodes`), the number of reached nodes of *later* infosets whose
previous infoset it is (`future_nodes`) and the resolved value (`max_utility`), and drives a LIFO
work-list: an infoset is resolved once its `future_nodes` counter has dropped to zero; resolving
it takes its nodes, decrements the counter of its previous infoset by their number and pushes that
infoset when the counter reaches zero.  This file models that bookkeeping literally;
`Proofs/WorklistEq.lean` proves that on every well-formed game it computes the same value.
-/
namespace Cfr

/-- `DeviationInfo` -/
structure DevInfo (α : Type) where
  future : Nat
  nodes : List (Reached α)
  maxU : α

section
variable {α : Type} [Zero α] [One α] [Add α] [Sub α] [Mul α] [Div α] [Neg α]
  [LT α] [DecidableLT α] [FloatLike α]

/-- the first loop: every reached own node is filed under its infoset, and counts as a future
node of that infoset's previous infoset -/
def wlCollect (prev : Nat → Option Nat) : List (Reached α) → List (DevInfo α) → List (DevInfo α)
  | [], infos => infos
  | h :: hs, infos =>
    let infos := infos.modify h.info (fun d => { d with nodes := d.nodes ++ [h] })
    let infos := match prev h.info with
      | some j => infos.modify j (fun d => { d with future := d.future + 1 })
      | none => infos
    wlCollect prev hs infos

/-- the initial work-list: infosets without future nodes that were reached, in index order -/
def wlInitial (infos : List (DevInfo α)) : List Nat :=
  (List.range infos.length).filter (fun i =>
    match infos[i]? with
    | some d => d.future == 0 && !d.nodes.isEmpty
    | none => false)

/-- one turn of `while let Some(info) = info_queue.pop()` -/
def wlStep (prev : Nat → Option Nat) (nActs : Nat → Nat) (I : Nat) (queue : List Nat)
    (infos : List (DevInfo α)) : List Nat × List (DevInfo α) :=
  match infos[I]? with
  | none => (queue, infos)
  | some d =>
    let nodes := d.nodes
    let infos := infos.set I { d with nodes := [] }
    let total := lsum (nodes.map (·.reach))
    let (queue, infos) :=
      match prev I with
      | none => (queue, infos)
      | some j =>
        match infos[j]? with
        | none => (queue, infos)
        | some dj =>
          let f := dj.future - nodes.length
          (if f == 0 then queue ++ [j] else queue, infos.set j { dj with future := f })
    let mu := infos.map (·.maxU)
    let payoffs := nodes.foldl (fun acc n => addPayoffs mu n.reach acc n.kids) (List.replicate (nActs I) 0)
    match maxList payoffs with
    | some m => (queue, infos.modify I (fun d => { d with maxU := m / total }))
    | none => (queue, infos)

/-- the work-list loop; the caller passes `fuel` = number of infosets plus one (each is resolved at
most once) -/
def wlLoop (prev : Nat → Option Nat) (nActs : Nat → Nat) :
    Nat → List Nat → List (DevInfo α) → List (DevInfo α)
  | 0, _, infos => infos
  | fuel + 1, queue, infos =>
    match queue.getLast? with
    | none => infos
    | some I =>
      let (queue, infos) := wlStep prev nActs I queue.dropLast infos
      wlLoop prev nActs fuel queue infos

/-- `optimal_deviations::<me>` with the crate's work-list -/
def optimalDeviationsWL (g : Game α) (me : Bool) (σo : Strat α) : α :=
  let infos := g.infos me
  let prev : Nat → Option Nat := fun i => ((infos.getD i default).prev).map (·.1)
  let nActs : Nat → Nat := fun i => (infos.getD i default).actions.length
  let v := view g.chance σo me g.root
  let table := wlCollect prev (collect v 1) (List.replicate infos.length ⟨0, [], 0⟩)
  let table := wlLoop prev nActs (infos.length + 1) (wlInitial table) table
  search (table.map (·.maxU)) v

/-- `regret::regret` with the crate's work-list -/
def getInfoWL (g : Game α) (σ : Bool → Strat α) : StrategiesInfo α :=
  let e := expected g.chance σ g.root
  let one := optimalDeviationsWL g true (σ false)
  let two := optimalDeviationsWL g false (σ true)
  ⟨e, fmax (one - e) 0, fmax (two + e) 0⟩

end
end Cfr
