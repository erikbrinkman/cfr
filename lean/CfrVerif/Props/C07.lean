import CfrVerif.Proofs.Frontier
import CfrVerif.Proofs.FrontierExt
import CfrVerif.Proofs.GameWF
import CfrVerif.Model.Dispatch
import CfrVerif.Proofs.LocksWide
import CfrVerif.Proofs.LocksPerm
import CfrVerif.Proofs.LocksVanillaPerm
import CfrVerif.Proofs.LocksVanillaRun
--! audit CfrVerif/Proofs/LocksVanilla.lean
--! audit CfrVerif/Proofs/LocksVanillaPerm.lean
--! audit CfrVerif/Proofs/LocksVanillaRun.lean
--! audit CfrVerif/Proofs/LocksGeneric.lean
--! audit CfrVerif/Proofs/LocksTrace.lean
--! audit CfrVerif/Proofs/Locks.lean
--! audit CfrVerif/Proofs/LocksCheck.lean
--! audit CfrVerif/Proofs/LocksWide.lean
--! audit CfrVerif/Proofs/LocksPerm.lean
/-!
# C07 — the sampled solvers are thread-count invariant once the random choices are fixed

The draw oracle `draw : (kind, infoset, pass, weights) ↦ index` *is* "the outcome drawn at each
chance infoset and the action drawn at each opponent infoset in each pass, held fixed".  With it
the chance-sampled and the external-sampled multi-threaded solvers return, for every task target
and every fair schedule, the strategies, bounds and iteration count of the single-threaded
solvers, and make the same draws (as a multiset: the order in which workers reach an infoset
first is up to the schedule).

"Never fails because two workers meet at one infoset" is proved twice: as a count of visits
(`active_infoset_visited_once` below) and, in `Proofs/Locks.lean` (audited with this property),
over the interleaving model of the pool's mutexes (`Model/Locks.lean`): in every configuration
any thread schedule can reach, no `try_lock().unwrap()` finds its mutex held
(`external_workers_never_meet`, `external_closing_never_panics`), no configuration is a deadlock
and every schedule ends (`external_pool_never_deadlocks`).

For the chance-sampled method "visits exactly the sampled part of the tree once per pass" is also
a count: the frontier's tasks and the closing recursion together update the average strategy of
every infoset (take its mutex) exactly once per node of the infoset on the sampled part of the tree,
for every task target (`vanilla_multi_locks_eq_visits_run`, for every accepted game and
well-formed solver state, from `vanilla_multi_locks_eq_visits` and `vtrace_acqCount` in
`Proofs/LocksVanilla*.lean`, audited with this property), and no schedule of those mutex operations
panics or deadlocks (`vanilla_pool_never_deadlocks`).
-/
set_option linter.unusedSectionVars false
namespace Cfr
variable {α : Type} [Field α] [LinearOrder α] [IsStrictOrderedRing α] [Transc α]

/-- chance-sampled: multi = single for every target and every fair schedule -/
theorem sampled_multi_eq_single (sched : Sched α) (hs : sched.Fair) (g : Game α)
    (p : RegretParams α) (draw : DrawFn α) (T : Nat) (thr : Option (Ext α)) (target : Nat) :
    (solveVanillaMultiS sched g true p draw T thr target).Same
      (solveVanillaSingle g true p draw T thr) := by
  unfold solveVanillaMultiS solveVanillaSingle solveWith
  refine solveLoop_same _ _ thr (fun _ => True) ?_ T 1 _ _ _ [] [] trivial (List.Perm.refl _)
  intro it s log log' _ hl
  obtain ⟨h1, h2, h3, h4, -⟩ := Van.vanillaMultiIterS_rel sched hs g true p draw target it s log log'
  exact ⟨h1, h2, h3, h4 hl, trivial⟩

/-- external-sampled: multi = single for every target and every fair schedule.

**Hypothesis `hg : GameWF g`** (only `hg.nodes`, the arity part, is used): `next_nodes`
hands *all* children of a node of the updating player to the frontier, while the traversal visits
one child per entry of the infoset's strategy vector; in a game where a node has more children
than its infoset has actions (never produced by `Game::from_root`) the surplus children become
tasks whose traversals the single-threaded pass never makes — see the counterexample below. -/
theorem external_multi_eq_single (sched : Sched α) (hs : sched.Fair) (g : Game α) (hg : GameWF g)
    (p : RegretParams α) (draw : DrawFn α) (T : Nat) (thr : Option (Ext α)) (target : Nat) :
    (solveExternalMultiS sched g p draw T thr target).Same
      (solveExternalSingle g p draw T thr) :=
  solveExternalMultiS_same sched hs g hg.nodes p draw T thr target

section Counterexample
/-! Why `GameWF` is needed in `external_multi_eq_single`: infoset `0` of player one has two
actions but the root (of that infoset) has three children.  With task target `6` (two threads)
the third child's subtree is expanded by `thread_threshold`, the node `y0` ends up in the drained
queue and its task accumulates regrets at infoset `0` that the single-threaded pass never sees. -/

local instance : Transc ℚ := ⟨id, id, id, fun x _ => x, 0⟩

private def cexY0 : Node ℚ := .player true 0 [.term 5, .term 0]
private def cexY1 : Node ℚ := .player true 2 [.term 0, .term 0, .term 0, .term 0, .term 0]
private def cexRoot : Node ℚ :=
  .player true 0 [.term 1, .term 1, .player true 1 [cexY0, cexY1]]
private def cexGame : Game ℚ :=
  ⟨[], [⟨0, [0, 1], none⟩, ⟨1, [0, 1], none⟩, ⟨2, [0, 1, 2, 3, 4], none⟩], [], [], [], cexRoot⟩

example :
    (solveExternalMultiS Sched.seq cexGame RegretParams.vanilla (fun _ _ _ _ => 0) 1 none 6).regOne
      = .fin 5 ∧
    (solveExternalSingle cexGame RegretParams.vanilla (fun _ _ _ _ => 0) 1 none).regOne = .fin 0 ∧
    (solveExternalMultiS Sched.seq cexGame RegretParams.vanilla (fun _ _ _ _ => 0) 1 none 6).stratOne
      ≠ (solveExternalSingle cexGame RegretParams.vanilla (fun _ _ _ _ => 0) 1 none).stratOne := by
  decide +kernel

end Counterexample

theorem SolveOut.Same.refl (o : SolveOut α) : o.Same o :=
  ⟨rfl, rfl, rfl, rfl, rfl, List.Perm.refl _⟩

/-- through `Game::solve`, both sampled methods (well-formedness is needed for the external
method only, see the counterexample above) -/
theorem sampled_thread_count_invariant (env : Env) (sched : Sched α) (hs : sched.Fair) (g : Game α)
    (hg : GameWF g)
    (m : Method) (hm : m ≠ .full) (T : Nat) (thr : Option (Ext α)) (threads : Nat)
    (params : Option (RegretParams α)) (draw : DrawFn α) (out : SolveOut α)
    (h : gameSolve env sched g m T thr threads params draw = .ok out) :
    out.Same (match m with
      | .external => solveExternalSingle g (params.getD RegretParams.default) draw T thr
      | _ => solveVanillaSingle g true (params.getD RegretParams.default) draw T thr) := by
  unfold gameSolve at h
  by_cases h1 : env.threads threads = 1
  · simp only [h1, if_true] at h
    cases m with
    | full => exact absurd rfl hm
    | sampled => simp only [Except.ok.injEq] at h; subst h; exact SolveOut.Same.refl _
    | external => simp only [Except.ok.injEq] at h; subst h; exact SolveOut.Same.refl _
  · simp only [h1, if_false] at h
    by_cases h2 : env.usizeMax < 3 * env.threads threads
    · simp [h2] at h
    · simp only [h2, if_false] at h
      by_cases h3 : (!env.spawnOk (env.threads threads)) = true
      · simp [h3] at h
      · simp only [h3] at h
        cases m with
        | full => exact absurd rfl hm
        | sampled =>
          simp only [Bool.false_eq_true, if_false, Except.ok.injEq] at h; subst h
          exact sampled_multi_eq_single sched hs g _ draw T thr _
        | external =>
          simp only [Bool.false_eq_true, if_false, Except.ok.injEq] at h; subst h
          exact external_multi_eq_single sched hs g hg _ draw T thr _

/-- **two workers never meet at one infoset** (`try_lock().unwrap()` in `external.rs`).  The
statement is a count: in a well-formed game (perfect recall) one external-sampling pass makes at
most two accumulations on regret slot `0` of any infoset `i` of the updating player.  A visit to
infoset `i` makes exactly two of them (the action's utility, then minus the expectation); that
step, which turns the count into "visited at most once", is read off `erec` here and is not part
of the statement. -/
theorem active_infoset_visited_once (g : Game α) (hg : GameWF g) (c : ECtx α) (d : DrawSt α)
    (i : Nat) :
    (((erec c g.root d).2.1).filter
      (fun e => e.one == c.first && e.info == i && e.slot == Slot.regret && e.act == 0)).length ≤ 2 := by
  obtain ⟨hist, hpr, -⟩ := hg.recall c.first
  rw [← List.countP_eq_length_filter]
  exact erec_hit_le_two c hist i g.root d hpr

end Cfr
