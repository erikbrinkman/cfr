import CfrVerif.Proofs.InvCompile
import CfrVerif.Proofs.InvScale
import CfrVerif.Proofs.InvShiftSwap
import CfrVerif.Proofs.InvChanceName
/-!
# C12 — results do not depend on how the game is presented

The theorems are proved in `Proofs/InvCompile.lean` (presentations that compile to the same
game), `Proofs/InvScale.lean` (payoff scale), `Proofs/InvShiftSwap.lean` (payoff shift, player
exchange) and `Proofs/InvChanceName.lean` (renumbered chance infosets); this file states the
property-level consequences.  Transformations are defined in
`Proofs/Transforms.lean`.

* rescaling chance weights: **identical** result of `from_root`, hence identical evaluation and
  identical results of every solver;
* inserting single-outcome chance nodes (without an infoset name) and single-action decision
  nodes (with labels the tree does not use): the same game up to the single-action table, which
  neither evaluation nor any solver reads;
* injective renaming: the same game with renamed labels (same indices), hence the same numbers
  and the same strategies up to the renaming;
* payoffs `× c`, `c > 0`: utilities, regrets and bounds `× c`, same strategies (for the scale-free
  fall-back rules: every preset and the default; for a finite non-zero soft-max weight the
  documented rule is *not* scale invariant — known finding F17);
* payoffs `+ k`: utilities `+ k`, everything else unchanged;
* exchanging the players and negating payoffs: mirrored strategies, negated utility, exchanged
  regrets and bounds.

Inserting a single-outcome chance node *with a fresh infoset name* shifts the numbering of later
chance infosets: the compiled games are then equal up to that renumbering
(`Game.ChanceReindexed`), which neither evaluation nor the unsampled solver can observe
(`c12_named_chance_padding`).
-/
set_option linter.unusedSectionVars false
namespace Cfr
variable {α : Type} [Field α] [LinearOrder α] [IsStrictOrderedRing α]

/-- rescaling chance weights by positive constants changes nothing at all -/
theorem c12_rescale (r r' : Raw α) (h : Rescaled r r') : fromRoot r' = fromRoot r :=
  rescale_chance_weights r r' h

/-- degenerate nodes are transparent: same errors; on success the same tree, chance table and
decision-infoset tables — so (`Game.SameShape`) the same evaluation and the same results of the
unsampled single-threaded solver -/
theorem c12_degenerate [Transc α] (fresh : Bool → Nat → Bool) (act : Bool → Nat → Nat)
    (r r' : Raw α) (hp : Padded fresh act r r') (hav : r.AvoidsFresh fresh) (g g' : Game α)
    (hg : fromRoot r = .ok g) (hg' : fromRoot r' = .ok g') (σ : Bool → Strat α)
    (p : RegretParams α) (draw : DrawFn α) (T : Nat) (thr : Option (Ext α)) :
    (getInfo g σ).util = (getInfo g' σ).util ∧ (getInfo g σ).regretOne = (getInfo g' σ).regretOne ∧
    (getInfo g σ).regretTwo = (getInfo g' σ).regretTwo ∧
    solveVanillaSingle g false p draw T thr = solveVanillaSingle g' false p draw T thr := by
  have h := degenerate_nodes_transparent fresh act r r' hp hav
  rw [hg, hg'] at h
  obtain ⟨h1, h2, h3, h4, -⟩ := h
  have hs : g.SameShape g' := ⟨h1.symm, h2.symm, by rw [h3], by rw [h4]⟩
  obtain ⟨a, b, c⟩ := getInfo_sameShape g g' hs σ
  exact ⟨a, b, c, (solve_sameShape g g' hs p draw T thr false 0 Sched.seq).1⟩

/-- the padded tree is accepted exactly when the original is, with the same error otherwise -/
theorem c12_degenerate_acceptance (fresh : Bool → Nat → Bool) (act : Bool → Nat → Nat)
    (r r' : Raw α) (hp : Padded fresh act r r') (hav : r.AvoidsFresh fresh) (e : GameError) :
    fromRoot r = .error e ↔ fromRoot r' = .error e := by
  have h := degenerate_nodes_transparent fresh act r r' hp hav
  cases h1 : fromRoot r <;> cases h2 : fromRoot r' <;> rw [h1, h2] at h
  · rw [show _ = _ from h]
  · exact h.elim
  · exact h.elim
  · exact ⟨fun h' => (nomatch h'), fun h' => (nomatch h')⟩

/-- injective renaming: same construction outcome with renamed labels; same evaluation and the
same results of the unsampled single-threaded solver (strategies are indexed, so "up to the
renaming" is literal equality) -/
theorem c12_rename [Transc α] (ρ : Renaming) (hρ : ρ.Injective) (r : Raw α) :
    fromRoot (r.rename ρ) = (fromRoot r).map (Game.rename ρ) ∧
    ∀ g, fromRoot r = .ok g → ∀ (σ : Bool → Strat α) (p : RegretParams α) (draw : DrawFn α) (T : Nat)
      (thr : Option (Ext α)),
      (getInfo g σ).util = (getInfo (g.rename ρ) σ).util ∧
      (getInfo g σ).regretOne = (getInfo (g.rename ρ) σ).regretOne ∧
      (getInfo g σ).regretTwo = (getInfo (g.rename ρ) σ).regretTwo ∧
      solveVanillaSingle g false p draw T thr = solveVanillaSingle (g.rename ρ) false p draw T thr := by
  refine ⟨rename_equivariant ρ hρ r, ?_⟩
  intro g _ σ p draw T thr
  have hs := sameShape_rename ρ g
  obtain ⟨a, b, c⟩ := getInfo_sameShape g (g.rename ρ) hs σ
  exact ⟨a, b, c, (solve_sameShape g (g.rename ρ) hs p draw T thr false 0 Sched.seq).1⟩

/-- payoffs `× c` (`c > 0`): evaluation and the unsampled solver are homogeneous -/
theorem c12_scale [Transc α] (c : α) (hc : 0 < c) (g : Game α) (σ : Bool → Strat α)
    (p : RegretParams α) (hp : p.ScaleFree) (draw : DrawFn α) (T : Nat) (thr : Option (Ext α)) :
    (getInfo (g.mapPay (fun x => c * x)) σ).util = c * (getInfo g σ).util ∧
    (getInfo (g.mapPay (fun x => c * x)) σ).regretOne = c * (getInfo g σ).regretOne ∧
    (getInfo (g.mapPay (fun x => c * x)) σ).regretTwo = c * (getInfo g σ).regretTwo ∧
    solveVanillaSingle (g.mapPay (fun x => c * x)) false p draw T (thr.map (Ext.scale c))
      = (solveVanillaSingle g false p draw T thr).scale c := by
  obtain ⟨a, b, d⟩ := getInfo_scale c hc g σ
  exact ⟨a, b, d, solve_full_scale c hc g p hp draw T thr⟩

/-- every preset and the default have a scale-free fall-back rule -/
theorem c12_presets_scaleFree [Transc α] :
    (RegretParams.vanilla : RegretParams α).ScaleFree ∧ (RegretParams.lcfr : RegretParams α).ScaleFree ∧
    (RegretParams.cfrPlus : RegretParams α).ScaleFree ∧ (RegretParams.dcfr : RegretParams α).ScaleFree ∧
    (RegretParams.dcfrPrune : RegretParams α).ScaleFree ∧ (RegretParams.default : RegretParams α).ScaleFree := by
  simp [RegretParams.ScaleFree, RegretParams.vanilla, RegretParams.lcfr, RegretParams.cfrPlus,
    RegretParams.dcfr, RegretParams.dcfrPrune, RegretParams.default]

/-- exchanging the players and negating the payoffs -/
theorem c12_swap [Transc α] (g : Game α) (σ : Bool → Strat α) (p : RegretParams α) (draw : DrawFn α)
    (T : Nat) (thr : Option (Ext α)) :
    (getInfo g.swap (fun one => σ (!one))).util = -(getInfo g σ).util ∧
    (getInfo g.swap (fun one => σ (!one))).regretOne = (getInfo g σ).regretTwo ∧
    (getInfo g.swap (fun one => σ (!one))).regretTwo = (getInfo g σ).regretOne ∧
    solveVanillaSingle g.swap false p draw T thr = (solveVanillaSingle g false p draw T thr).swap := by
  obtain ⟨a, b, c⟩ := getInfo_swap g σ
  exact ⟨a, b, c, solve_full_swap g p draw T thr⟩

/-- payoffs `+ k`: the utility moves, nothing else does -/
theorem c12_shift (k : ℝ) (g : Game ℝ) (hg : GameWF g) (σ : Profile ℝ) (hσ : ProfileOK g σ)
    (p : RegretParams ℝ) (draw : DrawFn ℝ) (T : Nat) (thr : Option (Ext ℝ)) :
    (getInfo (g.mapPay (fun x => x + k)) σ).util = (getInfo g σ).util + k ∧
    (getInfo (g.mapPay (fun x => x + k)) σ).regretOne = (getInfo g σ).regretOne ∧
    (getInfo (g.mapPay (fun x => x + k)) σ).regretTwo = (getInfo g σ).regretTwo ∧
    solveVanillaSingle (g.mapPay (fun x => x + k)) false p draw T thr
      = solveVanillaSingle g false p draw T thr := by
  obtain ⟨a, b, c⟩ := getInfo_shift k g hg σ hσ
  exact ⟨a, b, c, solve_full_shift k g hg p draw T thr⟩

/-- single-outcome chance nodes inserted WITH a (fresh) infoset name: same acceptance and errors;
on success the games are equal up to a renumbering of the chance infosets, hence the same
evaluation and the same results of the unsampled solver -/
theorem c12_named_chance_padding [Transc α] (fresh : Nat → Bool) (r r' : Raw α)
    (hp : PaddedNamed fresh r r') (hav : r.AvoidsChanceName fresh) (hs : Raw.Shape r)
    (g g' : Game α) (hg : fromRoot r = .ok g) (hg' : fromRoot r' = .ok g') (σ : Bool → Strat α)
    (p : RegretParams α) (draw : DrawFn α) (T : Nat) (thr : Option (Ext α)) :
    (getInfo g σ).util = (getInfo g' σ).util ∧ (getInfo g σ).regretOne = (getInfo g' σ).regretOne ∧
    (getInfo g σ).regretTwo = (getInfo g' σ).regretTwo ∧
    solveVanillaSingle g false p draw T thr = solveVanillaSingle g' false p draw T thr := by
  have h := named_chance_padding_transparent fresh r r' hp hav hs
  rw [hg, hg'] at h
  have hn : NodeOK g g.root := (compile_ok_wf r hs g hg).nodes
  obtain ⟨a, b, c⟩ := getInfo_chanceReindexed g g' h.1 hn σ
  exact ⟨a, b, c, solve_full_chanceReindexed g g' h.1 hn p draw T thr⟩

theorem c12_named_chance_padding_acceptance (fresh : Nat → Bool) (r r' : Raw α)
    (hp : PaddedNamed fresh r r') (hav : r.AvoidsChanceName fresh) (hs : Raw.Shape r)
    (e : GameError) : fromRoot r = .error e ↔ fromRoot r' = .error e := by
  have h := named_chance_padding_transparent fresh r r' hp hav hs
  cases h1 : fromRoot r <;> cases h2 : fromRoot r' <;> rw [h1, h2] at h
  · rw [show _ = _ from h]
  · exact h.elim
  · exact h.elim
  · exact ⟨fun h' => (nomatch h'), fun h' => (nomatch h')⟩

end Cfr
