import CfrVerif.Proofs.PresetGameInv
import CfrVerif.Proofs.ExternalAvg
import CfrVerif.Proofs.SampledIter
import CfrVerif.Proofs.ParamSemantics
--! audit CfrVerif/Proofs/ParamSemantics.lean
/-!
# C08 — the solvers compute the documented discounted-CFR iterates

Two layers.

* **Parameter semantics** (`Proofs/ParamSemantics.lean`, audited with this property): the discount
  factors in closed form (`t^a/(t^a+1)`; `0, 1/2, 1` at `−∞, 0, +∞`), the average-strategy weights
  (`t^γ`), every branch of the next-strategy rule (proportional to positive cumulative regret;
  uniform / best / worst / soft-max fall-backs), the preset tuples, the default, the order inside
  `advance` (match on the *pre-discount* regrets, then discount).
* **The iterates themselves** (this file, for the unsampled method; from `Proofs/Trajectory`,
  `Proofs/PresetGameInv`): one iteration of the solver maps every infoset's state exactly as the
  textbook says —
  `Q_t = disc_t (Q_{t−1} + r_t)`, `S_t = (t/(t+1))^γ · (S_{t−1} + s_t)`, `σ_{t+1} = RM(Q_{t−1} + r_t)`,
  where `r_t(I, a) = Σ_{h∈I} π_{−i}(h)·(v(h·a) − v(h))` is the instantaneous counterfactual regret
  under the current profile (`regAdd`, player two's in player two's own utility) and
  `s_t(I, a) = Σ_{h∈I} π_i(h)·σ_t(I, a)` the own-reach-weighted strategy (`stratAdd`); the returned
  profile is the normalised `S_T`, in which iteration `k` carries weight `k^γ`.
  For the sampled methods the same update holds with the increments the sampled traversal makes
  (`sampled_iterate_textbook`, `external_pass_textbook`), `external_average_weights` shows that
  both players of external sampling weigh iteration `t` by `t^γ`; C10 states the draw discipline and
  C04 proves the sampled increments unbiased.
-/
set_option linter.unusedSectionVars false
namespace Cfr
open PG

/-- the state of the unsampled solver after `t` iterations (no early termination) -/
noncomputable abbrev fullRun (g : Game ℝ) (p : RegretParams ℝ) (draw : DrawFn ℝ) (t : Nat) : SolveSt ℝ :=
  (PG.run g p draw t).1

/-- the run starts from zero accumulators and uniform strategies, and what `solve` returns after
`T` iterations is the normalised average-strategy accumulator of that state -/
theorem full_run_returns (g : Game ℝ) (p : RegretParams ℝ) (draw : DrawFn ℝ) (T : Nat) :
    fullRun g p draw 0 = SolveSt.init g ∧
    (solveVanillaSingle g false p draw T none).profile = (fullRun g p draw T).avg :=
  ⟨rfl, PG.solve_profile g p draw T⟩

/-- **one iteration = the textbook DCFR update**, at every infoset of either player -/
theorem full_iterate_textbook (g : Game ℝ) (hg : GameWF g) (p : RegretParams ℝ) (hp : 0 ≤ p.strat)
    (draw : DrawFn ℝ) (t : Nat) (me : Bool) (I : Nat) (x x' : InfoSt ℝ)
    (hx : ((fullRun g p draw t).get me)[I]? = some x)
    (hx' : ((fullRun g p draw (t + 1)).get me)[I]? = some x') :
    x'.cumRegret = discountCumRegret p (t + 1)
        (vadd x.cumRegret (PG.rvec g (fullRun g p draw t).profile me I)) ∧
    x'.cumStrat = discountAverageStrat p (t + 1)
        (vadd x.cumStrat (PG.svec g (fullRun g p draw t).profile me I)) ∧
    x'.strat = regretMatch p.noPositive
        (vadd x.cumRegret (PG.rvec g (fullRun g p draw t).profile me I)) := by
  obtain ⟨y, hy, e⟩ := PG.run_step g hg p hp draw t me I x' hx'
  obtain rfl : y = x := Option.some.inj (hy.symm.trans hx)
  exact e

/-- **average-strategy weights**: after `t` iterations the accumulator holds, up to the common
factor `(t+1)^γ`, the `k^γ`-weighted sum of the own-reach-weighted strategies of the iterations -/
theorem full_average_weights (g : Game ℝ) (hg : GameWF g) (p : RegretParams ℝ) (hp : 0 ≤ p.strat)
    (draw : DrawFn ℝ) (t : Nat) (me : Bool) (I : Nat) (x : InfoSt ℝ)
    (hx : ((fullRun g p draw t).get me)[I]? = some x) (a : Nat) (ha : a < nActsOf g me I) :
    x.cumStrat.getD a 0 * ((t + 1 : Nat) : ℝ) ^ p.strat
      = ((List.range t).map (fun k => ((k + 1 : Nat) : ℝ) ^ p.strat *
          stratAdd ((fullRun g p draw k).profile me) I a
            (viewOf g (fullRun g p draw k).profile me) 1)).sum :=
  PG.cumStrat_closed g hg p hp draw t me I x hx a ha

/-- **external sampling weighs iteration `t` by `t^γ` for BOTH players**: the first player is
advanced with the average index `t − 1`, which exactly compensates that its additions of iteration
`t` arrive (during the second player's pass) after its advance of iteration `t` -/
theorem external_average_weights (g : Game ℝ) (hg : GameWF g) (p : RegretParams ℝ) (hp : 0 ≤ p.strat)
    (draw : DrawFn ℝ) (t : Nat) (I : Nat) :
    (∀ x, ((extRun g p draw t).1.get false)[I]? = some x → ∀ a, a < x.cumStrat.length →
      x.cumStrat.getD a 0 * ((t + 1 : Nat) : ℝ) ^ p.strat
        = ((List.range t).map (fun k => ((k + 1 : Nat) : ℝ) ^ p.strat *
            extStratInc g p draw k false I a)).sum) ∧
    (∀ x, ((extRun g p draw t).1.get true)[I]? = some x → ∀ a, a < x.cumStrat.length →
      x.cumStrat.getD a 0 * ((t : Nat) : ℝ) ^ p.strat
        = ((List.range t).map (fun k => ((k + 1 : Nat) : ℝ) ^ p.strat *
            extStratInc g p draw k true I a)).sum) ∧
    (solveExternalSingle g p draw t none).stratOne = (extRun g p draw t).1.avg true ∧
    (solveExternalSingle g p draw t none).stratTwo = (extRun g p draw t).1.avg false :=
  ⟨fun x hx a ha => external_avg_weights g p hp draw t false I x hx a ha,
   fun x hx a ha => external_avg_weights g p hp draw t true I x hx a ha,
   (extRun_returns g p draw t).1, (extRun_returns g p draw t).2⟩

/-- **chance-sampled CFR, one iteration**: the same DCFR update, with the increments the sampled
traversal makes (every draw oracle); C04 proves these increments unbiased -/
theorem sampled_iterate_textbook (g : Game ℝ) (hg : GameWF g) (p : RegretParams ℝ) (draw : DrawFn ℝ)
    (it : Nat) (s : SolveSt ℝ) (log : List (DrawRec ℝ)) (hs : StOK g s) (me : Bool) (I : Nat)
    (x : InfoSt ℝ) (hx : (s.get me)[I]? = some x) :
    let es := (vrec ⟨g.chance, true, s.strat, draw, it - 1⟩ g.root 1 1 1 { log := log }).2.1
    ∃ x', ((vanillaIter g true p draw it s log).1.get me)[I]? = some x' ∧
      x'.cumRegret = discountCumRegret p it
        (vadd x.cumRegret (incVec es me I Slot.regret x.cumRegret.length)) ∧
      x'.cumStrat = discountAverageStrat p it
        (vadd x.cumStrat (incVec es me I Slot.strat x.cumStrat.length)) ∧
      x'.strat = regretMatch p.noPositive
        (vadd x.cumRegret (incVec es me I Slot.regret x.cumRegret.length)) :=
  vanillaIter_cell g true p draw it s log me I x hx

/-- **external sampling, one pass**: the updating player's infosets get the DCFR regret update with
the sampled increments (their average accumulator is only discounted, with the average index of
`external_average_weights`); the other player's infosets only receive the sampled strategy mass -/
theorem external_pass_textbook (g : Game ℝ) (hg : GameWF g) (first : Bool) (p : RegretParams ℝ)
    (draw : DrawFn ℝ) (it : Nat) (s : SolveSt ℝ) (log : List (DrawRec ℝ)) (hs : StOK g s)
    (me : Bool) (I : Nat) (x : InfoSt ℝ) (hx : (s.get me)[I]? = some x) :
    let c : ECtx ℝ := ⟨g.chance, first, s.strat, draw, 2 * (it - 1) + (if first then 0 else 1),
      if first then it - 1 else it⟩
    let es := (erec c g.root { log := log }).2.1
    ∃ x', ((externalPass g first p draw it s log).1.get me)[I]? = some x' ∧
      (me = first →
        x'.cumRegret = discountCumRegret p it
          (vadd x.cumRegret (incVec es me I Slot.regret x.cumRegret.length)) ∧
        x'.cumStrat = discountAverageStrat p (if first then it - 1 else it) x.cumStrat ∧
        x'.strat = regretMatch p.noPositive
          (vadd x.cumRegret (incVec es me I Slot.regret x.cumRegret.length))) ∧
      (me ≠ first →
        x'.cumRegret = x.cumRegret ∧ x'.strat = x.strat ∧
        x'.cumStrat = vadd x.cumStrat (incVec es me I Slot.strat x.cumStrat.length)) :=
  external_pass_update g first p draw it s log me I x hx

end Cfr
