import CfrVerif.Proofs.Frontier
import CfrVerif.Model.Dispatch
/-!
# C06 — the unsampled solve gives the same answer for every thread count

`solveVanillaMultiS sched g false …` is `solve_full_multi`: in every iteration a breadth-first
frontier of at least `target` nodes is grown (`vThreshold`), one task per drained frontier node
runs the plain traversal, the main thread traverses from the root again stopping at the nodes
whose value a task recorded; the atomic accumulations of all of them reach memory in the order
the schedule `sched` chooses (any rearrangement, a different one in every iteration).

The theorems hold for **every** game tree (no well-formedness needed), parameter set, budget,
threshold, task target (`0` included), and every fair schedule; the scalar type is any ordered
field, i.e. "up to floating-point summation order" for doubles.
-/
set_option linter.unusedSectionVars false
namespace Cfr
variable {α : Type} [Field α] [LinearOrder α] [IsStrictOrderedRing α] [Transc α]

/-- one multi-threaded iteration leaves exactly the state, bounds and log of the single-threaded
iteration -/
theorem full_multi_iter_eq_single (sched : Sched α) (hs : sched.Fair) (g : Game α)
    (p : RegretParams α) (draw : DrawFn α) (target it : Nat) (s : SolveSt α)
    (log : List (DrawRec α)) :
    vanillaMultiIterS sched g false p draw target it s log = vanillaIter g false p draw it s log := by
  obtain ⟨h1, h2, h3, -, h5⟩ := Van.vanillaMultiIterS_rel sched hs g false p draw target it s log log
  exact Prod.ext h1 (Prod.ext h2 (Prod.ext h3 (h5 rfl rfl)))

/-- **thread-count invariance of the unsampled solver**: for every task target and every fair
schedule the multi-threaded solve returns exactly what the single-threaded solve returns -/
theorem full_multi_eq_single (sched : Sched α) (hs : sched.Fair) (g : Game α)
    (p : RegretParams α) (draw : DrawFn α) (T : Nat) (thr : Option (Ext α)) (target : Nat) :
    solveVanillaMultiS sched g false p draw T thr target = solveVanillaSingle g false p draw T thr := by
  have hstep : vanillaMultiIterS sched g false p draw target = vanillaIter g false p draw := by
    funext it s log
    exact full_multi_iter_eq_single sched hs g p draw target it s log
  unfold solveVanillaMultiS solveVanillaSingle
  rw [hstep]

/-- through `Game::solve`: whatever thread count is requested (`0` = ask the operating system),
a solve that does not return the thread-count error returns the single-threaded result -/
theorem full_thread_count_invariant (env : Env) (sched : Sched α) (hs : sched.Fair) (g : Game α)
    (T : Nat) (thr : Option (Ext α)) (threads : Nat) (params : Option (RegretParams α))
    (draw : DrawFn α) (out : SolveOut α)
    (h : gameSolve env sched g .full T thr threads params draw = .ok out) :
    out = solveVanillaSingle g false (params.getD RegretParams.default) draw T thr := by
  unfold gameSolve at h
  simp only at h
  split_ifs at h with h1 h2 h3
  · simp only [Except.ok.injEq] at h
    exact h.symm
  · simp only [Except.ok.injEq] at h
    rw [← h]
    exact full_multi_eq_single sched hs g _ draw T thr _

end Cfr
