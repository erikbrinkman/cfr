import CfrVerif.Model.Solve
import CfrVerif.Model.Vanilla
import CfrVerif.Model.External
import CfrVerif.Model.Parallel
/-!
# C09 — early termination stops exactly at the first iteration below the threshold

All four solver loops of the crate (`solve_generic_single` and `solve_generic_multi` in
`vanilla.rs`, shared by the full and the chance-sampled method, `solve_external_single` and
`solve_external_multi`; external sampling tests after *both* passes) are instances of `solveLoop`
with a different iteration function, and the `break` test never influences the
iteration function.  The theorem is therefore proved once, for every
iteration function, every threshold (NaN = `none`, `±∞`, finite), every
budget, and every scalar type (no arithmetic is involved).
-/
namespace Cfr

variable {α : Type} [Zero α] [One α] [Add α] [Sub α] [Mul α] [Div α] [Neg α]
  [LT α] [DecidableLT α] [BEq α] [NatCast α] [FloatLike α] [Transc α]

/-- does the loop stop right after an iteration that reported `(r1, r2)` -/
def stopsAfter (step : IterFn α) (thr : Option (Ext α)) (it : Nat) (s : SolveSt α)
    (log : List (DrawRec α)) : Bool :=
  belowThreshold (step it s log).2.1 (step it s log).2.2.1 thr

/-- number of iterations the loop actually runs when `n` remain: the first one after which the
total bound is strictly below the threshold, or all `n` -/
def runLength (step : IterFn α) (thr : Option (Ext α)) :
    Nat → Nat → SolveSt α → List (DrawRec α) → Nat
  | 0, _, _, _ => 0
  | n + 1, it, s, log =>
    if stopsAfter step thr it s log then 1
    else 1 + runLength step thr n (it + 1) (step it s log).1 (step it s log).2.2.2

theorem solveLoop_succ (step : IterFn α) (thr : Option (Ext α)) (n it : Nat) (s : SolveSt α)
    (r1 r2 : Ext α) (log : List (DrawRec α)) :
    solveLoop step thr (n + 1) it s r1 r2 log =
      if belowThreshold (step it s log).2.1 (step it s log).2.2.1 thr = true then
        ⟨.fin (step it s log).2.1, .fin (step it s log).2.2.1, (step it s log).1.avg true,
          (step it s log).1.avg false, it, (step it s log).2.2.2⟩
      else solveLoop step thr n (it + 1) (step it s log).1 (.fin (step it s log).2.1)
        (.fin (step it s log).2.2.1) (step it s log).2.2.2 := by
  rw [solveLoop]

/-- **induction over the loop.**  `Q it s r1 r2 log` speaks of the loop's variables when `it` is the
number of the next iteration.  If every iteration carries `Q` on (with the bounds it reports), the
loop started where `Q` holds returns the record of variables satisfying `Q`, reached after `k`
iterations: `k ≤ n`, and `k = 0` only when the budget is `0`. -/
theorem solveLoop_induct (step : IterFn α) (thr : Option (Ext α))
    (Q : Nat → SolveSt α → Ext α → Ext α → List (DrawRec α) → Prop)
    (hstep : ∀ it s r1 r2 log, Q it s r1 r2 log → Q (it + 1) (step it s log).1
      (.fin (step it s log).2.1) (.fin (step it s log).2.2.1) (step it s log).2.2.2) :
    ∀ (n it : Nat) (s : SolveSt α) (r1 r2 : Ext α) (log : List (DrawRec α)), Q it s r1 r2 log →
      ∃ k s' r1' r2' log', Q (it + k) s' r1' r2' log' ∧ k ≤ n ∧ (k = 0 → n = 0) ∧
        solveLoop step thr n it s r1 r2 log
          = ⟨r1', r2', s'.avg true, s'.avg false, it + k - 1, log'⟩ := by
  intro n
  induction n with
  | zero => exact fun it s r1 r2 log h => ⟨0, s, r1, r2, log, h, Nat.le_refl 0, fun _ => rfl, rfl⟩
  | succ n ih =>
    intro it s r1 r2 log h
    have h' := hstep it s r1 r2 log h
    rw [solveLoop_succ]
    split
    · exact ⟨1, _, _, _, _, h', Nat.succ_le_succ (Nat.zero_le n), nofun, rfl⟩
    · obtain ⟨k, s', r1', r2', log', hq, hk, -, ho⟩ := ih (it + 1) _ _ _ _ h'
      rw [Nat.add_right_comm] at hq ho
      exact ⟨k + 1, s', r1', r2', log', hq, Nat.succ_le_succ hk, nofun, ho⟩

theorem belowThreshold_none (a b : α) : belowThreshold a b (none : Option (Ext α)) = false := rfl

theorem runLength_succ_stop (step : IterFn α) (thr : Option (Ext α)) (n it : Nat) (s : SolveSt α)
    (log : List (DrawRec α)) (h : stopsAfter step thr it s log = true) :
    runLength step thr (n + 1) it s log = 1 := by
  rw [runLength, if_pos h]

theorem runLength_succ_go (step : IterFn α) (thr : Option (Ext α)) (n it : Nat) (s : SolveSt α)
    (log : List (DrawRec α)) (h : ¬ stopsAfter step thr it s log = true) :
    runLength step thr (n + 1) it s log
      = runLength step thr n (it + 1) (step it s log).1 (step it s log).2.2.2 + 1 := by
  rw [runLength, if_neg h, Nat.add_comm]

/-- **threshold = prefix** : a run with threshold `thr` and `n` remaining iterations returns
exactly what the run without threshold returns with `runLength` remaining iterations. -/
theorem solveLoop_threshold_eq_prefix (step : IterFn α) (thr : Option (Ext α)) :
    ∀ (n it : Nat) (s : SolveSt α) (r1 r2 : Ext α) (log : List (DrawRec α)),
      solveLoop step thr n it s r1 r2 log
        = solveLoop step none (runLength step thr n it s log) it s r1 r2 log := by
  intro n
  induction n with
  | zero => intro it s r1 r2 log; rfl
  | succ n ih =>
    intro it s r1 r2 log
    rw [solveLoop_succ]
    by_cases hb : belowThreshold (step it s log).2.1 (step it s log).2.2.1 thr = true
    · rw [runLength_succ_stop step thr n it s log hb, solveLoop_succ, if_pos hb, belowThreshold_none,
        if_neg Bool.false_ne_true, solveLoop, Nat.add_sub_cancel]
    · rw [runLength_succ_go step thr n it s log hb, solveLoop_succ, if_neg hb, belowThreshold_none,
        if_neg Bool.false_ne_true, ih]

theorem runLength_le (step : IterFn α) (thr : Option (Ext α)) :
    ∀ (n it : Nat) (s : SolveSt α) (log : List (DrawRec α)), runLength step thr n it s log ≤ n := by
  intro n
  induction n with
  | zero => intro it s log; exact Nat.le_refl 0
  | succ n ih =>
    intro it s log
    by_cases hb : stopsAfter step thr it s log = true
    · rw [runLength_succ_stop step thr n it s log hb]; exact Nat.succ_le_succ (Nat.zero_le n)
    · rw [runLength_succ_go step thr n it s log hb]; exact Nat.succ_le_succ (ih _ _ _)

/-- the un-thresholded loop runs its whole budget and reports its length -/
theorem solveLoop_none_iters (step : IterFn α) :
    ∀ (n it : Nat) (s : SolveSt α) (r1 r2 : Ext α) (log : List (DrawRec α)),
      (solveLoop step none n it s r1 r2 log).iters = it + n - 1 := by
  intro n
  induction n with
  | zero => intro it s r1 r2 log; rfl
  | succ n ih =>
    intro it s r1 r2 log
    rw [solveLoop_succ, belowThreshold_none, if_neg Bool.false_ne_true, ih, Nat.add_right_comm,
      Nat.add_assoc]

/-- a threshold that no pair of bounds is below never shortens a run -/
theorem runLength_of_never (step : IterFn α) (thr : Option (Ext α))
    (h : ∀ a b, belowThreshold a b thr = false) (n it : Nat) (s : SolveSt α)
    (log : List (DrawRec α)) : runLength step thr n it s log = n := by
  induction n generalizing it s log with
  | zero => rfl
  | succ n ih =>
    rw [runLength_succ_go step thr n it s log (by rw [stopsAfter, h]; exact Bool.false_ne_true), ih]

/-- a NaN threshold never shortens a run -/
theorem nan_threshold_never_stops (step : IterFn α) (n it : Nat) (s : SolveSt α)
    (log : List (DrawRec α)) : runLength step none n it s log = n :=
  runLength_of_never step none belowThreshold_none n it s log

/-- a threshold of `-∞` never shortens a run -/
theorem neg_inf_threshold_never_stops (step : IterFn α) (n it : Nat) (s : SolveSt α)
    (log : List (DrawRec α)) : runLength step (some .negInf) n it s log = n :=
  runLength_of_never step (some .negInf) (fun _ _ => rfl) n it s log

/-- if the loop ran fewer iterations than its budget, the bounds it returns are below the
threshold (they are the bounds of the iteration it stopped after) -/
theorem stopped_early_below_threshold (step : IterFn α) (thr : Option (Ext α)) :
    ∀ (n it : Nat) (s : SolveSt α) (r1 r2 : Ext α) (log : List (DrawRec α)),
      runLength step thr n it s log < n →
      ∃ b1 b2, (solveLoop step thr n it s r1 r2 log).regOne = .fin b1 ∧
        (solveLoop step thr n it s r1 r2 log).regTwo = .fin b2 ∧ belowThreshold b1 b2 thr = true := by
  intro n
  induction n with
  | zero => intro it s r1 r2 log h; exact absurd h (Nat.not_lt_zero _)
  | succ n ih =>
    intro it s r1 r2 log h
    rw [solveLoop_succ]
    by_cases hb : belowThreshold (step it s log).2.1 (step it s log).2.2.1 thr = true
    · rw [if_pos hb]
      exact ⟨_, _, rfl, rfl, hb⟩
    · rw [runLength_succ_go step thr n it s log hb] at h
      rw [if_neg hb]
      exact ih _ _ _ _ _ (Nat.lt_of_succ_lt_succ h)

/-! ## the solvers -/

/-- budget `t*` of the equivalent un-thresholded run -/
def tstar (g : Game α) (step : IterFn α) (maxIter : Nat) (thr : Option (Ext α)) : Nat :=
  runLength step thr maxIter 1 (SolveSt.init g) []

theorem solveWith_threshold_eq_prefix (g : Game α) (step : IterFn α) (N : Nat) (thr : Option (Ext α)) :
    solveWith g step N thr = solveWith g step (tstar g step N thr) none :=
  solveLoop_threshold_eq_prefix step thr N 1 _ _ _ _

/-- a run without threshold makes all its iterations -/
theorem solveWith_none_iters (g : Game α) (step : IterFn α) (N : Nat) :
    (solveWith g step N none).iters = N :=
  (solveLoop_none_iters step N 1 _ _ _ _).trans (Nat.add_sub_cancel_left ..)

theorem tstar_le (g : Game α) (step : IterFn α) (N : Nat) (thr : Option (Ext α)) :
    tstar g step N thr ≤ N := runLength_le step thr N 1 _ _

/-- Full / chance-sampled, one thread -/
theorem vanilla_single_threshold_eq_prefix (g : Game α) (sampled : Bool) (p : RegretParams α)
    (draw : DrawFn α) (N : Nat) (thr : Option (Ext α)) :
    solveVanillaSingle g sampled p draw N thr
      = solveVanillaSingle g sampled p draw (tstar g (vanillaIter g sampled p draw) N thr) none :=
  solveWith_threshold_eq_prefix g _ N thr

/-- external sampling, one thread -/
theorem external_single_threshold_eq_prefix (g : Game α) (p : RegretParams α)
    (draw : DrawFn α) (N : Nat) (thr : Option (Ext α)) :
    solveExternalSingle g p draw N thr
      = solveExternalSingle g p draw (tstar g (externalIter g p draw) N thr) none :=
  solveWith_threshold_eq_prefix g _ N thr

/-- Full / chance-sampled, frontier + tasks + cached traversal -/
theorem vanilla_multi_threshold_eq_prefix (g : Game α) (sampled : Bool) (p : RegretParams α)
    (draw : DrawFn α) (N : Nat) (thr : Option (Ext α)) (target : Nat) :
    solveVanillaMulti g sampled p draw N thr target
      = solveVanillaMulti g sampled p draw
          (tstar g (vanillaMultiIter g sampled p draw target) N thr) none target :=
  solveWith_threshold_eq_prefix g _ N thr

/-- external sampling, frontier + tasks + cached traversal -/
theorem external_multi_threshold_eq_prefix (g : Game α) (p : RegretParams α)
    (draw : DrawFn α) (N : Nat) (thr : Option (Ext α)) (target : Nat) :
    solveExternalMulti g p draw N thr target
      = solveExternalMulti g p draw (tstar g (externalMultiIter g p draw target) N thr) none target :=
  solveWith_threshold_eq_prefix g _ N thr

/-! ## non-vacuity: a concrete iteration function whose "bounds" fall below the threshold after
the third iteration — `runLength` is neither `0` nor the budget `7`, and the run with the threshold
and the run with budget `3` and no threshold both report `3` iterations -/

section Example
local instance : FloatLike Int := ⟨fun _ => true, fun _ => false⟩
local instance : Transc Int := ⟨id, id, id, fun x _ => x, 0⟩

def exStep : IterFn Int := fun it s log => (s, 10 - 3 * (it : Int), 0, log)

example : runLength exStep (some (.fin 2)) 7 1 ⟨[], []⟩ [] = 3 := by decide
example : (solveLoop exStep (some (.fin 2)) 7 1 ⟨[], []⟩ .posInf .posInf []).iters = 3 := by decide
example : (solveLoop exStep none 3 1 ⟨[], []⟩ .posInf .posInf []).iters = 3 := by decide
end Example

end Cfr
