import CfrVerif.Proofs.Traversal
import CfrVerif.Model.Named
import CfrVerif.Model.Vanilla
import CfrVerif.Model.External
import CfrVerif.Props.C09
/-!
# C10 — sampling follows the declared distributions and is shared per chance infoset

* the categorical sampler as a function of its uniform variate (all weight vectors, all variates);
* the draw discipline of the three solvers, read off the draw log the model keeps
  (`DrawSt.log`, newest first): which sites draw, with which weights, how often.
-/
set_option linter.unusedSectionVars false
namespace Cfr

section Sampler
variable {α : Type} [Field α] [LinearOrder α] [IsStrictOrderedRing α]

/-- partial sums `c_k = w_0 + … + w_{k-1}` -/
def cum (l : List α) (k : Nat) : α := (l.take k).sum

theorem cum_zero (l : List α) : cum l 0 = 0 := by simp [cum]

theorem cum_cons_succ (v : α) (vs : List α) (k : Nat) : cum (v :: vs) (k + 1) = v + cum vs k := by
  simp [cum]

theorem cum_nonneg (l : List α) (hp : ∀ x ∈ l, 0 ≤ x) (k : Nat) : 0 ≤ cum l k :=
  List.sum_nonneg (fun x hx => hp x (List.mem_of_mem_take hx))

theorem go_shift (l : List α) (rem : α) (res : Nat) :
    multinomialSample.go l rem res = res + multinomialSample.go l rem 0 := by
  induction l generalizing rem res with
  | nil => simp [multinomialSample.go]
  | cons v vs ih =>
    simp only [multinomialSample.go]
    split_ifs with h
    · rw [ih (rem - v) (res + 1), ih (rem - v) (0 + 1)]; omega
    · rfl

theorem go_le (l : List α) (rem : α) (res : Nat) :
    multinomialSample.go l rem res ≤ res + l.length := by
  induction l generalizing rem res with
  | nil => simp [multinomialSample.go]
  | cons v vs ih =>
    simp only [multinomialSample.go, List.length_cons]
    split_ifs with h
    · have := ih (rem - v) (res + 1); omega
    · omega

theorem go_zero_iff (l : List α) (hp : ∀ x ∈ l, 0 ≤ x) : ∀ (u : α) (k : Nat),
    multinomialSample.go l u 0 = k ↔
      k ≤ l.length ∧ (0 < k → cum l k < u) ∧ (k < l.length → u ≤ cum l (k + 1)) := by
  induction l with
  | nil =>
    intro u k
    exact ⟨fun h => h ▸ ⟨le_rfl, fun h => absurd h (lt_irrefl _), fun h => absurd h (lt_irrefl _)⟩,
      fun h => (Nat.le_zero.mp h.1).symm⟩
  | cons v vs ih =>
    intro u k
    have hvs : ∀ x ∈ vs, 0 ≤ x := fun x hx => hp x (List.mem_cons_of_mem _ hx)
    rw [multinomialSample.go]
    by_cases h : v < u
    · -- the head is passed: the answer is one more than the answer of the tail at `u - v`
      rw [if_pos h, go_shift]
      cases k with
      | zero =>
        refine ⟨fun h' => absurd h' (by omega), fun h' => ?_⟩
        have h3 := h'.2.2 (Nat.succ_pos _)
        rw [cum_cons_succ, cum_zero, add_zero] at h3
        exact absurd h (not_lt.mpr h3)
      | succ j =>
        rw [Nat.add_comm, Nat.succ_inj, ih hvs, cum_cons_succ, cum_cons_succ, List.length_cons,
          Nat.succ_le_succ_iff, Nat.succ_lt_succ_iff]
        refine and_congr_right fun _ => and_congr ⟨fun h2 _ => ?_, fun h2 _ => ?_⟩
          (imp_congr_right fun _ => sub_le_iff_le_add')
        · rcases j.eq_zero_or_pos with rfl | hj
          · rw [cum_zero, add_zero]; exact h
          · exact lt_sub_iff_add_lt'.mp (h2 hj)
        · exact lt_sub_iff_add_lt'.mpr (h2 (Nat.succ_pos _))
    · -- the head stops the loop: the answer is `0`, and no later interval can hold `u ≤ v`
      rw [if_neg h]
      cases k with
      | zero =>
        refine ⟨fun _ => ⟨Nat.zero_le _, fun h0 => absurd h0 (lt_irrefl _), fun _ => ?_⟩, fun _ => rfl⟩
        rw [cum_cons_succ, cum_zero, add_zero]
        exact not_lt.mp h
      | succ j =>
        refine ⟨fun h' => absurd h' (Nat.succ_ne_zero j).symm, fun h' => ?_⟩
        have h2 := h'.2.1 (Nat.succ_pos _)
        rw [cum_cons_succ] at h2
        exact absurd h2 (not_lt.mpr ((not_lt.mp h).trans (le_add_of_nonneg_right (cum_nonneg vs hvs j))))

/-- `Multinomial::sample` returns index `k` exactly when the variate lies in the `k`-th
cumulative interval of all but the last weight: `c_k < u ≤ c_{k+1}` (for `k = 0` the lower
end is open to the left: every `u ≤ c_1` gives `0`; for the last index there is no upper end).
Holds for every list of non-negative weights (their sum is irrelevant) and every `u`. -/
theorem multinomial_interval (probs : List α) (u : α) (hp : ∀ x ∈ probs, 0 ≤ x) (k : Nat) :
    multinomialSample probs u = k ↔
      k ≤ probs.dropLast.length ∧ (0 < k → cum probs.dropLast k < u) ∧
        (k < probs.dropLast.length → u ≤ cum probs.dropLast (k + 1)) := by
  unfold multinomialSample
  exact go_zero_iff probs.dropLast (fun x hx => hp x (List.mem_of_mem_dropLast hx)) u k

theorem multinomial_lt_length (probs : List α) (u : α) (hne : probs ≠ []) :
    multinomialSample probs u < probs.length := by
  unfold multinomialSample
  have h1 := go_le probs.dropLast u 0
  have h2 : 0 < probs.length := List.length_pos_iff.mpr hne
  rw [List.length_dropLast] at h1
  omega

theorem cum_succ_sub (l : List α) (k : Nat) (hk : k < l.length) :
    cum l (k + 1) - cum l k = l[k] := by
  unfold cum
  rw [List.take_succ_eq_append_getElem hk, List.sum_append]
  simp

/-- **the `k`-th interval has length `p_k`**: so a uniform variate selects index `k` with
probability `p_k` (all but the last index) -/
theorem multinomial_interval_length (probs : List α) (k : Nat) (hk : k < probs.dropLast.length) :
    cum probs.dropLast (k + 1) - cum probs.dropLast k = probs.getD k 0 := by
  rw [cum_succ_sub _ _ hk]
  have hk' : k < probs.length := by
    rw [List.length_dropLast] at hk; omega
  rw [List.getElem_dropLast]
  simp [List.getD_eq_getElem?_getD, hk']

/-- the last index gets the rest of `[0, 1)`, which has length `p_last` when the weights sum to
one -/
theorem multinomial_last_length (probs : List α) (hne : probs ≠ []) (hsum : probs.sum = 1) :
    1 - cum probs.dropLast probs.dropLast.length = probs.getLast hne := by
  rw [cum, List.take_length, sub_eq_iff_eq_add', ← hsum]
  conv_lhs => rw [← List.dropLast_append_getLast hne]
  rw [List.sum_append, List.sum_singleton]

/-- non-vacuity: weights `[1/4, 1/2, 1/4]`, variate `1/2` lies in `(1/4, 3/4]` -/
example : multinomialSample ([1/4, 1/2, 1/4] : List ℚ) (1/2) = 1 := by
  norm_num [multinomialSample, multinomialSample.go, List.dropLast]

end Sampler

section Draws
variable {α : Type} [Zero α] [One α] [Add α] [Sub α] [Mul α] [Div α] [Neg α]
  [LT α] [DecidableLT α] [BEq α] [NatCast α] [FloatLike α] [Transc α]

/-- after a request the outcome is cached, so every later chance node of that infoset follows it -/
theorem sampleChance_caches (draw : DrawFn α) (pass : Nat) (probs : List α) (i : Nat) (d : DrawSt α) :
    assocGet (sampleChance draw pass probs i d).2.chance i = some (sampleChance draw pass probs i d).1 := by
  cases h : assocGet d.chance i with
  | some k => rw [sampleChance_cached draw pass probs i k d h]; exact h
  | none =>
    rw [sampleChance_fresh draw pass probs i d h]
    exact (assocGet_cons _ _ _ _).trans (if_pos rfl)

/-! ### a traversal composes sampler steps

Every relation between draw states that is reflexive, transitive and holds across one
`sampleChance` request holds across a whole vanilla traversal (and across each of its loops). -/

mutual
theorem vrec_rel (c : VCtx α) (R : DrawSt α → DrawSt α → Prop) (hr : ∀ d, R d d)
    (ht : ∀ a b e, R a b → R b e → R a e)
    (hs : c.sampled = true → ∀ i d, R d (sampleChance c.draw c.pass (c.ch.getD i []) i d).2) :
    ∀ (n : Node α) (pc p1 p2 : α) (d : DrawSt α), R d (vrec c n pc p1 p2 d).2.2
  | .term p, pc, p1, p2, d => by simp only [vrec]; exact hr d
  | .chance i ks, pc, p1, p2, d => by
    simp only [vrec]
    split_ifs with h
    · exact ht _ _ _ (hs h i d) (vrecNth_rel c R hr ht hs ks _ pc p1 p2 _)
    · exact vrecChance_rel c R hr ht hs _ ks pc p1 p2 d 0
  | .player one i ks, pc, p1, p2, d => by
    simp only [vrec]
    exact vrecActs_rel c R hr ht hs one i _ _ ks pc p1 p2 d 0 0 0
theorem vrecNth_rel (c : VCtx α) (R : DrawSt α → DrawSt α → Prop) (hr : ∀ d, R d d)
    (ht : ∀ a b e, R a b → R b e → R a e)
    (hs : c.sampled = true → ∀ i d, R d (sampleChance c.draw c.pass (c.ch.getD i []) i d).2) :
    ∀ (ks : List (Node α)) (k : Nat) (pc p1 p2 : α) (d : DrawSt α),
      R d (vrecNth c ks k pc p1 p2 d).2.2
  | [], _, _, _, _, d => by simp only [vrecNth]; exact hr d
  | k :: _, 0, pc, p1, p2, d => by simp only [vrecNth]; exact vrec_rel c R hr ht hs k pc p1 p2 d
  | _ :: ks, n + 1, pc, p1, p2, d => by
    simp only [vrecNth]; exact vrecNth_rel c R hr ht hs ks n pc p1 p2 d
theorem vrecChance_rel (c : VCtx α) (R : DrawSt α → DrawSt α → Prop) (hr : ∀ d, R d d)
    (ht : ∀ a b e, R a b → R b e → R a e)
    (hs : c.sampled = true → ∀ i d, R d (sampleChance c.draw c.pass (c.ch.getD i []) i d).2) :
    ∀ (ps : List α) (ks : List (Node α)) (pc p1 p2 : α) (d : DrawSt α) (acc : α),
      R d (vrecChance c ps ks pc p1 p2 d acc).2.2
  | p :: ps, k :: ks, pc, p1, p2, d, acc => by
    simp only [vrecChance]
    exact ht _ _ _ (vrec_rel c R hr ht hs k (pc * p) p1 p2 d)
      (vrecChance_rel c R hr ht hs ps ks pc p1 p2 _ _)
  | [], _, _, _, _, d, _ => by simp only [vrecChance]; exact hr d
  | _ :: _, [], _, _, _, d, _ => by simp only [vrecChance]; exact hr d
theorem vrecActs_rel (c : VCtx α) (R : DrawSt α → DrawSt α → Prop) (hr : ∀ d, R d d)
    (ht : ∀ a b e, R a b → R b e → R a e)
    (hs : c.sampled = true → ∀ i d, R d (sampleChance c.draw c.pass (c.ch.getD i []) i d).2)
    (one : Bool) (i : Nat) (mult : α) :
    ∀ (σ : List α) (ks : List (Node α)) (pc p1 p2 : α) (d : DrawSt α) (a : Nat) (eo ex : α),
      R d (vrecActs c one i mult σ ks pc p1 p2 d a eo ex).2.2.2
  | s :: σ, k :: ks, pc, p1, p2, d, a, eo, ex => by
    simp only [vrecActs]
    cases one with
    | true =>
      exact ht _ _ _ (vrec_rel c R hr ht hs k pc (p1 * s) p2 d)
        (vrecActs_rel c R hr ht hs true i mult σ ks pc p1 p2 _ _ _ _)
    | false =>
      exact ht _ _ _ (vrec_rel c R hr ht hs k pc p1 (p2 * s) d)
        (vrecActs_rel c R hr ht hs false i mult σ ks pc p1 p2 _ _ _ _)
  | [], _, _, _, _, d, _, _, _ => by simp only [vrecActs]; exact hr d
  | _ :: _, [], _, _, _, d, _, _, _ => by simp only [vrecActs]; exact hr d
end

def LogRel (P : DrawRec α → Prop) (d d' : DrawSt α) : Prop :=
  ∃ new, d'.log = new ++ d.log ∧ ∀ r ∈ new, P r

theorem LogRel.refl (P : DrawRec α → Prop) (d : DrawSt α) : LogRel P d d :=
  ⟨[], rfl, fun _ h => nomatch h⟩

theorem LogRel.trans (P : DrawRec α → Prop) (a b e : DrawSt α) (h1 : LogRel P a b)
    (h2 : LogRel P b e) : LogRel P a e := by
  obtain ⟨n1, l1, o1⟩ := h1
  obtain ⟨n2, l2, o2⟩ := h2
  refine ⟨n2 ++ n1, by rw [l2, l1, List.append_assoc], fun r hr => ?_⟩
  rcases List.mem_append.mp hr with h | h
  · exact o2 r h
  · exact o1 r h

theorem LogRel.sampleChance (P : DrawRec α → Prop) (draw : DrawFn α) (pass : Nat) (probs : List α)
    (i : Nat) (d : DrawSt α) (h : P ⟨0, i, pass, probs, draw 0 i pass probs⟩) :
    LogRel P d (sampleChance draw pass probs i d).2 := by
  cases hc : assocGet d.chance i with
  | some k => rw [sampleChance_cached _ _ _ _ k d hc]; exact LogRel.refl P d
  | none =>
    rw [sampleChance_fresh _ _ _ _ d hc]
    exact ⟨[_], rfl, fun r hr => List.mem_singleton.mp hr ▸ h⟩

theorem LogRel.samplePlayer (P : DrawRec α → Prop) (draw : DrawFn α) (kind pass : Nat)
    (strat : List α) (i : Nat) (d : DrawSt α) (h : P ⟨kind, i, pass, strat, draw kind i pass strat⟩) :
    LogRel P d (samplePlayer draw kind pass strat i d).2 := by
  cases hc : assocGet d.player i with
  | some k => rw [samplePlayer_cached _ _ _ _ _ k d hc]; exact LogRel.refl P d
  | none =>
    rw [samplePlayer_fresh _ _ _ _ _ d hc]
    exact ⟨[_], rfl, fun r hr => List.mem_singleton.mp hr ▸ h⟩

/-- what a well-formed log entry of a vanilla traversal looks like: a chance draw (kind `0`)
of this pass, with the infoset's declared (normalised) probabilities, answered by the oracle -/
def VDrawOk (c : VCtx α) (r : DrawRec α) : Prop :=
  r.kind = 0 ∧ r.pass = c.pass ∧ r.weights = c.ch.getD r.id [] ∧
    r.result = c.draw 0 r.id c.pass r.weights

/-- the log only grows, and every entry a vanilla traversal adds is a chance draw with the
declared weights; the unsampled method adds nothing at all -/
theorem vrec_log (c : VCtx α) (n : Node α) (pc p1 p2 : α) (d : DrawSt α) :
    ∃ new, (vrec c n pc p1 p2 d).2.2.log = new ++ d.log ∧ (∀ r ∈ new, VDrawOk c r) ∧
      (c.sampled = false → new = []) := by
  -- every new entry also records that the method samples: so the other method adds none
  obtain ⟨new, h1, h2⟩ := vrec_rel c (LogRel fun r => VDrawOk c r ∧ c.sampled = true)
    (LogRel.refl _) (LogRel.trans _)
    (fun hs i d => LogRel.sampleChance _ _ _ _ i d ⟨⟨rfl, rfl, rfl, rfl⟩, hs⟩) n pc p1 p2 d
  refine ⟨new, h1, fun r hr => (h2 r hr).1, fun hf => List.eq_nil_iff_forall_not_mem.mpr ?_⟩
  intro r hr
  exact absurd ((h2 r hr).2.symm.trans hf) (by decide)

/-- one fresh chance draw: the infoset had no cached sample; the outcome is cached and logged -/
def FreshDraw (d d' : DrawSt α) : Prop :=
  ∃ r : DrawRec α, assocGet d.chance r.id = none ∧
    d'.chance = (r.id, r.result) :: d.chance ∧ d'.log = r :: d.log

/-- a request is no step (cached) or one fresh draw -/
theorem sampleChance_chain (draw : DrawFn α) (pass : Nat) (probs : List α) (i : Nat) (d : DrawSt α) :
    Relation.ReflTransGen FreshDraw d (sampleChance draw pass probs i d).2 := by
  cases h : assocGet d.chance i with
  | some k => rw [sampleChance_cached _ _ _ _ k d h]
  | none =>
    rw [sampleChance_fresh _ _ _ _ d h]
    exact .single ⟨⟨0, i, pass, probs, draw 0 i pass probs⟩, h, rfl, rfl⟩

/-- **one draw per chance infoset and pass**: the infosets drawn by a traversal are pairwise
distinct and none of them had a cached sample before; cached samples are never changed -/
theorem vrec_one_draw_per_infoset (c : VCtx α) (n : Node α) (pc p1 p2 : α) (d : DrawSt α) :
    ∃ new, (vrec c n pc p1 p2 d).2.2.log = new ++ d.log ∧ (new.map (·.id)).Nodup ∧
      (∀ r ∈ new, assocGet d.chance r.id = none) ∧
      (∀ i k, assocGet d.chance i = some k → assocGet (vrec c n pc p1 p2 d).2.2.chance i = some k) := by
  -- a traversal is a chain of fresh draws; peel off the first one
  have h := vrec_rel c (Relation.ReflTransGen FreshDraw) (fun _ => .refl) (fun _ _ _ => .trans)
    (fun _ i d => sampleChance_chain c.draw c.pass (c.ch.getD i []) i d) n pc p1 p2 d
  generalize (vrec c n pc p1 p2 d).2.2 = d' at h ⊢
  induction h using Relation.ReflTransGen.head_induction_on with
  | refl => exact ⟨[], rfl, List.nodup_nil, nofun, fun _ _ h => h⟩
  | @head a _ hstep _ ih =>
    obtain ⟨r, hr, hc, hl⟩ := hstep
    obtain ⟨new, h1, h2, h3, h4⟩ := ih
    -- a later draw was fresh although `r.id` was cached by then: so it is another infoset
    have hlater : ∀ x ∈ new, r.id ≠ x.id ∧ assocGet a.chance x.id = none := fun x hx => by
      have hx' := h3 x hx
      rw [hc, assocGet_cons] at hx'
      split_ifs at hx' with hid
      exact ⟨hid, hx'⟩
    refine ⟨new ++ [r], by rw [h1, hl, List.append_assoc]; rfl, ?_, fun x hx => ?_, fun i k hi => ?_⟩
    · rw [List.map_append, List.nodup_append]
      refine ⟨h2, List.nodup_singleton _, fun i hi j hj hij => ?_⟩
      obtain ⟨x, hx, rfl⟩ := List.mem_map.mp hi
      exact (hlater x hx).1 ((List.mem_singleton.mp hj).symm.trans hij.symm)
    · rcases List.mem_append.mp hx with hx | hx
      · exact (hlater x hx).2
      · exact List.mem_singleton.mp hx ▸ hr
    · refine h4 i k ?_
      rw [hc, assocGet_cons, if_neg fun hid => ?_]
      · exact hi
      · rw [hid, hi] at hr
        cases hr

/-- what holds of the empty log and survives the entries one traversal may add holds of the
solver's log -/
theorem vanilla_log_inv (g : Game α) (sampled : Bool) (p : RegretParams α) (draw : DrawFn α) (T : Nat)
    (thr : Option (Ext α)) (P : List (DrawRec α) → Prop) (h0 : P [])
    (hadd : ∀ new log, (∀ r ∈ new, r.kind = 0) → (sampled = false → new = []) → P log →
      P (new ++ log)) : P (solveVanillaSingle g sampled p draw T thr).log := by
  have hstep (it : Nat) (s : SolveSt α) (log : List (DrawRec α)) (hlog : P log) :
      P (vanillaIter g sampled p draw it s log).2.2.2 := by
    obtain ⟨new, h1, h2, h3⟩ :=
      vrec_log ⟨g.chance, sampled, s.strat, draw, it - 1⟩ g.root 1 1 1 { log := log }
    simp only [vanillaIter, h1]
    exact hadd new log (fun r hr => (h2 r hr).1) h3 hlog
  obtain ⟨k, s', r1', r2', log', hq, -, -, ho⟩ := solveLoop_induct _ thr
    (fun _ _ _ _ log => P log) (fun it s _ _ log => hstep it s log) T 1 (SolveSt.init g)
    .posInf .posInf [] h0
  unfold solveVanillaSingle solveWith
  rw [ho]
  exact hq

/-- **the unsampled method makes no random draws** -/
theorem full_draws_nothing (g : Game α) (p : RegretParams α) (draw : DrawFn α) (T : Nat)
    (thr : Option (Ext α)) : (solveVanillaSingle g false p draw T thr).log = [] :=
  vanilla_log_inv g false p draw T thr (· = []) rfl fun _ _ _ hnew hlog => by
    rw [hnew rfl, hlog]
    rfl

/-- **the chance-sampled method never samples player actions**: every logged draw is of kind `0` -/
theorem sampled_draws_only_chance (g : Game α) (p : RegretParams α) (draw : DrawFn α) (T : Nat)
    (thr : Option (Ext α)) : ∀ r ∈ (solveVanillaSingle g true p draw T thr).log, r.kind = 0 :=
  vanilla_log_inv g true p draw T thr (fun log => ∀ r ∈ log, r.kind = 0) nofun
    fun _ _ hkind _ hlog r hr => (List.mem_append.mp hr).elim (hkind r) (hlog r)

/-- a well-formed log entry of an external-sampling pass: a chance draw with the declared
probabilities, or a draw at an infoset of the *non-updating* player from that player's current
strategy -/
def EDrawOk (c : ECtx α) (r : DrawRec α) : Prop :=
  (r.kind = 0 ∧ r.pass = c.chancePass ∧ r.weights = c.ch.getD r.id [] ∧
      r.result = c.draw 0 r.id c.chancePass r.weights) ∨
  (r.kind = (if c.first then 2 else 1) ∧ r.pass = c.playerPass ∧
      r.weights = c.strat (!c.first) r.id ∧ r.result = c.draw r.kind r.id c.playerPass r.weights)

mutual
theorem erec_rel (c : ECtx α) (R : DrawSt α → DrawSt α → Prop) (hr : ∀ d, R d d)
    (ht : ∀ a b e, R a b → R b e → R a e)
    (hs : ∀ i d, R d (sampleChance c.draw c.chancePass (c.ch.getD i []) i d).2)
    (hp : ∀ one, ¬ (one == c.first) = true → ∀ i d,
      R d (samplePlayer c.draw (if one then 1 else 2) c.playerPass (c.strat one i) i d).2) :
    ∀ (n : Node α) (d : DrawSt α), R d (erec c n d).2.2
  | .term p, d => by simp only [erec]; exact hr d
  | .chance i ks, d => by
    simp only [erec]
    exact ht _ _ _ (hs i d) (erecNth_rel c R hr ht hs hp ks _ _)
  | .player one i ks, d => by
    simp only [erec]
    by_cases h : (one == c.first) = true
    · rw [if_pos h]
      exact erecActs_rel c R hr ht hs hp one i _ ks d 0 0
    · rw [if_neg h]
      exact ht _ _ _ (hp one h i d) (erecNth_rel c R hr ht hs hp ks _ _)
theorem erecNth_rel (c : ECtx α) (R : DrawSt α → DrawSt α → Prop) (hr : ∀ d, R d d)
    (ht : ∀ a b e, R a b → R b e → R a e)
    (hs : ∀ i d, R d (sampleChance c.draw c.chancePass (c.ch.getD i []) i d).2)
    (hp : ∀ one, ¬ (one == c.first) = true → ∀ i d,
      R d (samplePlayer c.draw (if one then 1 else 2) c.playerPass (c.strat one i) i d).2) :
    ∀ (ks : List (Node α)) (k : Nat) (d : DrawSt α), R d (erecNth c ks k d).2.2
  | [], _, d => by simp only [erecNth]; exact hr d
  | k :: _, 0, d => by simp only [erecNth]; exact erec_rel c R hr ht hs hp k d
  | _ :: ks, n + 1, d => by simp only [erecNth]; exact erecNth_rel c R hr ht hs hp ks n d
theorem erecActs_rel (c : ECtx α) (R : DrawSt α → DrawSt α → Prop) (hr : ∀ d, R d d)
    (ht : ∀ a b e, R a b → R b e → R a e)
    (hs : ∀ i d, R d (sampleChance c.draw c.chancePass (c.ch.getD i []) i d).2)
    (hp : ∀ one, ¬ (one == c.first) = true → ∀ i d,
      R d (samplePlayer c.draw (if one then 1 else 2) c.playerPass (c.strat one i) i d).2)
    (one : Bool) (i : Nat) :
    ∀ (σ : List α) (ks : List (Node α)) (d : DrawSt α) (a : Nat) (ex : α),
      R d (erecActs c one i σ ks d a ex).2.2
  | s :: σ, k :: ks, d, a, ex => by
    simp only [erecActs]
    exact ht _ _ _ (erec_rel c R hr ht hs hp k d) (erecActs_rel c R hr ht hs hp one i σ ks _ _ _)
  | [], _, d, _, _ => by simp only [erecActs]; exact hr d
  | _ :: _, [], d, _, _ => by simp only [erecActs]; exact hr d
end

/-- every entry an external-sampling pass adds to the log is well formed -/
theorem erec_log (c : ECtx α) (n : Node α) (d : DrawSt α) :
    ∃ new, (erec c n d).2.2.log = new ++ d.log ∧ ∀ r ∈ new, EDrawOk c r := by
  refine erec_rel c (LogRel (EDrawOk c)) (LogRel.refl _) (LogRel.trans _)
    (fun i d => LogRel.sampleChance _ _ _ _ i d (Or.inl ⟨rfl, rfl, rfl, rfl⟩))
    (fun one hne i d => LogRel.samplePlayer _ _ _ _ _ i d (Or.inr ⟨?_, rfl, ?_, rfl⟩)) n d
  -- the sampled player is the one that is not updated
  all_goals
    have hone : one = !c.first := Bool.eq_not_of_ne fun h => hne (beq_iff_eq.mpr h)
    subst hone
  · cases c.first <;> rfl
  · rfl

end Draws
end Cfr
