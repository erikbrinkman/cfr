import CfrVerif.Proofs.Lookup
import CfrVerif.Proofs.Dist
--! audit CfrVerif/Proofs/Lookup.lean
/-!
# C14 — import validates, normalises, and both routes agree

`stratIntoBox` looks infosets and actions up as a `HashMap` built by successive
`insert`s does (the *last* inserted entry with that key), `stratIntoBoxSlow` by
a linear scan (the *first* match).  `importWith` is the code the two routes
share, parameterised by the three look-up functions.
-/
set_option linter.unusedSectionVars false
namespace Cfr
variable {α : Type} [Field α] [LinearOrder α] [IsStrictOrderedRing α]

theorem importActions_congr (f1 f2 : (Nat → Bool) → List Nat → Option Nat) (acts : List Nat) (i : Nat)
    (h : ∀ a, f1 (· == a) acts = f2 (· == a) acts) (l : List (Nat × α)) (dense : Strat α) :
    importActions f1 acts i l dense = importActions f2 acts i l dense := by
  induction l generalizing dense with
  | nil => rfl
  | cons x rest ih =>
    obtain ⟨a, p⟩ := x
    simp only [importActions, h a]
    split
    · split
      · exact ih _
      · rfl
    · rfl

theorem importLoop_congr
    (fI1 fI2 : (PInfo → Bool) → List PInfo → Option Nat)
    (fA1 fA2 : (Nat → Bool) → List Nat → Option Nat)
    (fS1 fS2 : ((Nat × Nat) → Bool) → List (Nat × Nat) → Option Nat)
    (infos : List PInfo) (singles : List (Nat × Nat))
    (hI : ∀ l, fI1 (·.label == l) infos = fI2 (·.label == l) infos)
    (hA : ∀ i a, fA1 (· == a) (infos.getD i default).actions = fA2 (· == a) (infos.getD i default).actions)
    (hS : ∀ l, fS1 (·.1 == l) singles = fS2 (·.1 == l) singles)
    (named : Named α) (dense : Strat α) (seen : List Bool) :
    importLoop fI1 fA1 fS1 infos singles named dense seen
      = importLoop fI2 fA2 fS2 infos singles named dense seen := by
  induction named generalizing dense seen with
  | nil => rfl
  | cons e rest ih =>
    obtain ⟨l, acts⟩ := e
    simp only [importLoop, hI l, hS l]
    split
    · rename_i i _
      rw [importActions_congr fA1 fA2 _ i (hA i)]
      split
      · exact ih _ _
      · rfl
    · split
      · split
        · exact ih _ _
        · rfl
      · rfl

/-- the import does not depend on how the look-ups are done, as long as they are right on tables
with distinct keys -/
theorem importWith_lookup_irrel
    {fI1 fI2 : (PInfo → Bool) → List PInfo → Option Nat}
    {fA1 fA2 : (Nat → Bool) → List Nat → Option Nat}
    {fS1 fS2 : ((Nat × Nat) → Bool) → List (Nat × Nat) → Option Nat}
    (hI1 : LookupOK fI1) (hA1 : LookupOK fA1) (hS1 : LookupOK fS1)
    (hI2 : LookupOK fI2) (hA2 : LookupOK fA2) (hS2 : LookupOK fS2)
    (infos : List PInfo) (singles : List (Nat × Nat)) (hw : TablesWF infos singles) (named : Named α) :
    importWith fI1 fA1 fS1 infos singles named = importWith fI2 fA2 fS2 infos singles named := by
  simp only [importWith, importLoop_congr fI1 fI2 fA1 fA2 fS1 fS2 infos singles
    (fun l => hI1.key_eq hI2 (·.label) hw.labelsNodup l)
    (fun i a => hA1.key_eq hA2 (fun x => x) ((List.map_id' _).symm ▸ hw.getD_actionsNodup i) a)
    (fun l => hS1.key_eq hS2 (·.1) hw.singlesNodup l)]

/-- **the hashing and the non-hashing import give identical outcomes on every input**: every
candidate (any order, duplicates, foreign infosets, illegal actions, any weights), `Ok` and `Err`
alike, for every well-formed infoset table -/
theorem stratIntoBox_eq_slow (infos : List PInfo) (singles : List (Nat × Nat)) (named : Named α)
    (hw : TablesWF infos singles) :
    stratIntoBox infos singles named = stratIntoBoxSlow infos singles named :=
  importWith_lookup_irrel lookupOK_findLastIdx lookupOK_findLastIdx lookupOK_findLastIdx
    lookupOK_findIdx? lookupOK_findIdx? lookupOK_findIdx? infos singles hw named

theorem fromNamed_eq_fromNamedEq (g : Game α) (one two : Named α)
    (h1 : TablesWF g.p1 g.s1) (h2 : TablesWF g.p2 g.s2) :
    fromNamed g one two = fromNamedEq g one two := by
  unfold fromNamed fromNamedEq
  rw [stratIntoBox_eq_slow _ _ _ h1, stratIntoBox_eq_slow _ _ _ h2]

/-! ## the documented semantics (stated for the scan-based route; the other follows) -/

/-- the weight a candidate gives to action `a` of infoset label `l`: the *last* well-formed
entry wins, unspecified means `0` -/
def lastWeight (named : Named α) (l a : Nat) : α :=
  match (named.flatMap (fun e => if e.1 == l then e.2 else [])).reverse.find? (fun x => x.1 == a) with
  | some x => x.2
  | none => 0

/-- the rules a candidate must satisfy -/
structure ImportOk (infos : List PInfo) (singles : List (Nat × Nat)) (named : Named α) : Prop where
  /-- only existing infosets are mentioned -/
  knownInfosets : ∀ e ∈ named, e.1 ∈ infos.map (·.label) ∨ e.1 ∈ singles.map (·.1)
  /-- only legal actions are mentioned -/
  legalActions : ∀ e ∈ named, ∀ x ∈ e.2,
    (∀ i ∈ infos, i.label = e.1 → x.1 ∈ i.actions) ∧ (∀ s ∈ singles, s.1 = e.1 → x.1 = s.2)
  /-- all weights are non-negative (finite is automatic in exact arithmetic) -/
  nonneg : ∀ e ∈ named, ∀ x ∈ e.2, 0 ≤ x.2
  /-- every multi-action infoset receives a positive total -/
  positive : ∀ i ∈ infos, 0 < (i.actions.map (lastWeight named i.label)).sum
  /-- every single-action infoset is covered -/
  covered : ∀ s ∈ singles, ∃ e ∈ named, e.1 = s.1 ∧ e.2 ≠ []

/-! ### "the last entry wins" as a recursion -/

def ovr : List (Nat × α) → Nat → α → α
  | [], _, d => d
  | (b, p) :: xs, a, d => ovr xs a (if b = a then p else d)

theorem ovr_append (xs ys : List (Nat × α)) (a : Nat) (d : α) :
    ovr (xs ++ ys) a d = ovr ys a (ovr xs a d) := by
  induction xs generalizing d with
  | nil => rfl
  | cons x xs ih => obtain ⟨b, p⟩ := x; simp only [List.cons_append, ovr, ih]

theorem ovr_ite_cons (c : Bool) (x : Nat × α) (xs : List (Nat × α)) (a : Nat) (d : α) :
    ovr (if c then xs else []) a (ovr (if c then [x] else []) a d) = ovr (if c then x :: xs else []) a d := by
  cases c <;> rfl

theorem ovr_of_not_mem (xs : List (Nat × α)) (a : Nat) (d : α) (h : a ∉ xs.map (·.1)) :
    ovr xs a d = d := by
  induction xs generalizing d with
  | nil => rfl
  | cons x xs ih =>
    obtain ⟨b, p⟩ := x
    rw [List.map_cons, List.mem_cons, not_or] at h
    rw [ovr, if_neg (Ne.symm h.1), ih d h.2]

theorem ovr_eq_find (xs : List (Nat × α)) (a : Nat) (d : α) :
    ovr xs a d = match xs.reverse.find? (fun x => x.1 == a) with
      | some x => x.2
      | none => d := by
  induction xs generalizing d with
  | nil => rfl
  | cons x xs ih =>
    obtain ⟨b, p⟩ := x
    rw [ovr, ih, List.reverse_cons, List.find?_append]
    cases xs.reverse.find? (fun x => x.1 == a) with
    | some y => simp
    | none =>
      by_cases hb : b = a
      · simp [hb]
      · simp [hb]

theorem lastWeight_eq_ovr (named : Named α) (l a : Nat) :
    lastWeight named l a = ovr (named.flatMap (fun e => if e.1 == l then e.2 else [])) a 0 := by
  rw [ovr_eq_find]; rfl

theorem ovr_nonneg (xs : List (Nat × α)) (a : Nat) (d : α) (hx : ∀ x ∈ xs, 0 ≤ x.2) (hd : 0 ≤ d) :
    0 ≤ ovr xs a d := by
  induction xs generalizing d with
  | nil => exact hd
  | cons x xs ih =>
    obtain ⟨b, p⟩ := x
    rw [ovr]
    apply ih _ (fun y hy => hx y (List.mem_cons_of_mem _ hy))
    split
    · exact hx (b, p) List.mem_cons_self
    · exact hd

/-! ### the two state components in closed form -/

def denseOf (infos : List PInfo) (W : Nat → Nat → α) : Strat α :=
  infos.map (fun i => i.actions.map (W i.label))

def seenOf (singles : List (Nat × Nat)) (S : Nat → Bool) : List Bool := singles.map (fun s => S s.1)

theorem denseOf_congr (infos : List PInfo) (W W' : Nat → Nat → α)
    (h : ∀ i ∈ infos, ∀ a ∈ i.actions, W i.label a = W' i.label a) :
    denseOf infos W = denseOf infos W' := by
  unfold denseOf
  exact List.map_congr_left (fun i hi => List.map_congr_left (fun a ha => h i hi a ha))

theorem seenOf_congr (singles : List (Nat × Nat)) (S S' : Nat → Bool)
    (h : ∀ s ∈ singles, S s.1 = S' s.1) : seenOf singles S = seenOf singles S' := by
  unfold seenOf
  exact List.map_congr_left h

/-- `dense[i][ai] = p` overrides the weight of one action of one infoset -/
theorem setWeight_denseOf (infos : List PInfo) (singles : List (Nat × Nat)) (hw : TablesWF infos singles)
    (W : Nat → Nat → α) (i : Nat) (hi : i < infos.length) (ai : Nat) (hai : ai < infos[i].actions.length)
    (p : α) :
    setWeight (denseOf infos W) i ai p = denseOf infos (fun l a =>
      ovr (if infos[i].label == l then [(infos[i].actions[ai], p)] else []) a (W l a)) := by
  unfold setWeight denseOf
  dsimp only
  refine List.ext_getElem (by simp only [List.length_modify, List.length_map])
    fun j h1 h2 => ?_
  have hj : j < infos.length := by rwa [List.length_map] at h2
  rw [List.getElem_modify, List.getElem_map, List.getElem_map]
  by_cases hij : i = j
  · subst hij
    rw [if_pos rfl, beq_self_eq_true, if_pos rfl]
    refine List.ext_getElem (by simp only [List.length_set, List.length_map])
      fun k h3 h4 => ?_
    rw [List.getElem_set, List.getElem_map, List.getElem_map]
    have hnd := hw.actionsNodup _ (List.getElem_mem hi)
    by_cases hk : ai = k
    · subst hk; rw [if_pos rfl]; exact (if_pos rfl).symm
    · rw [if_neg hk]; exact (if_neg fun h => hk (hnd.getElem_inj_iff.mp h)).symm
  · have hne : (infos[i].label == infos[j].label) = false :=
      beq_false_of_ne fun h => hij (nodup_key_inj hw.labelsNodup hi hj h)
    rw [if_neg hij]
    exact List.map_congr_left fun a _ => by rw [hne]; rfl

/-- `seen[si] |= c` ors `c` into the flag of one single-action infoset -/
theorem seenOf_set (singles : List (Nat × Nat)) (hn : (singles.map (·.1)).Nodup) (S : Nat → Bool)
    (si : Nat) (hsi : si < singles.length) (c : Bool) :
    (seenOf singles S).set si (S singles[si].1 || c)
      = seenOf singles (fun l => S l || (singles[si].1 == l && c)) := by
  unfold seenOf
  dsimp only
  refine List.ext_getElem (by simp only [List.length_set, List.length_map])
    fun j h1 h2 => ?_
  have hj : j < singles.length := by rwa [List.length_map] at h2
  rw [List.getElem_set, List.getElem_map]
  by_cases hij : si = j
  · subst hij
    rw [if_pos rfl, List.getElem_map, beq_self_eq_true, Bool.true_and]
  · have hne : (singles[si].1 == singles[j].1) = false :=
      beq_false_of_ne fun h => hij (nodup_key_inj hn hsi hj h)
    rw [if_neg hij, List.getElem_map, hne, Bool.false_and, Bool.or_false]

theorem seenOf_getD (singles : List (Nat × Nat)) (S : Nat → Bool) (si : Nat) (hsi : si < singles.length) :
    (seenOf singles S).getD si false = S singles[si].1 := by
  rw [seenOf, List.getD_eq_getElem?_getD, List.getElem?_map, List.getElem?_eq_getElem hsi]
  rfl

/-! ### the inner loops

Each stage of the import is characterised in the form "succeeds with `d` iff `P` and `d = v`";
`except_ok_or_error` turns that into the two cases a later stage has to look at. -/

theorem except_ok_or_error {ε β : Type} {e : Except ε β} {P : Prop} {v : β}
    (h : ∀ d, e = .ok d ↔ P ∧ d = v) : (P ∧ e = .ok v) ∨ (¬ P ∧ ∃ x, e = .error x) := by
  cases e with
  | ok d => obtain ⟨hP, rfl⟩ := (h d).mp rfl; exact Or.inl ⟨hP, rfl⟩
  | error x => exact Or.inr ⟨fun hP => (nomatch (h v).mpr ⟨hP, rfl⟩), x, rfl⟩

theorem probOk_iff (p : α) : probOk p = true ↔ 0 ≤ p := by
  simp only [probOk, isFinite_exact, Bool.and_true, decide_eq_true_eq]

theorem importActions_spec (infos : List PInfo) (singles : List (Nat × Nat)) (hw : TablesWF infos singles)
    (i : Nat) (hi : i < infos.length) (l : List (Nat × α)) (W : Nat → Nat → α) (d : Strat α) :
    importActions (fun f l => l.findIdx? f) infos[i].actions i l (denseOf infos W) = .ok d ↔
      (∀ x ∈ l, 0 ≤ x.2 ∧ x.1 ∈ infos[i].actions) ∧
      d = denseOf infos (fun lab a => ovr (if infos[i].label == lab then l else []) a (W lab a)) := by
  induction l generalizing W with
  | nil =>
    rw [importActions, Except.ok.injEq]
    simp only [ite_self, ovr, List.not_mem_nil, false_imp_iff, implies_true, true_and]
    exact eq_comm
  | cons x rest ih =>
    obtain ⟨a, p⟩ := x
    rw [importActions, List.forall_mem_cons]
    by_cases hp : 0 ≤ p
    · rw [if_pos ((probOk_iff p).mpr hp)]
      cases hf : infos[i].actions.findIdx? (fun x => x == a) with
      | none =>
        have hnot : a ∉ infos[i].actions :=
          List.map_id' infos[i].actions ▸ (findIdx?_key_none (fun x => x) a infos[i].actions).mp hf
        dsimp only
        exact ⟨nofun, fun h => absurd h.1.1.2 hnot⟩
      | some ai =>
        obtain ⟨hai, rfl⟩ := findIdx?_key_some (fun x => x) a infos[i].actions ai hf
        simp only [setWeight_denseOf infos singles hw W i hi ai hai p, ih, ovr_ite_cons]
        exact ⟨fun h => ⟨⟨⟨hp, List.getElem_mem hai⟩, h.1⟩, h.2⟩, fun h => ⟨h.1.2, h.2⟩⟩
    · rw [if_neg (mt (probOk_iff p).mp hp)]
      exact ⟨nofun, fun h => absurd h.1.1.1 hp⟩

theorem importSingle_spec (act : Nat) (l : List (Nat × α)) (seen b : Bool) :
    importSingle act l seen = .ok b ↔
      (∀ x ∈ l, x.1 = act ∧ 0 ≤ x.2) ∧ b = (seen || !l.isEmpty) := by
  induction l generalizing seen with
  | nil =>
    rw [importSingle, Except.ok.injEq]
    simp only [List.not_mem_nil, false_imp_iff, implies_true, true_and, List.isEmpty_nil,
      Bool.not_true, Bool.or_false]
    exact eq_comm
  | cons x rest ih =>
    obtain ⟨a, p⟩ := x
    rw [importSingle, List.forall_mem_cons]
    by_cases ha : a = act
    · rw [if_neg fun h => bne_iff_ne.mp h ha]
      by_cases hp : 0 ≤ p
      · rw [if_pos ((probOk_iff p).mpr hp), ih, List.isEmpty_cons, Bool.not_false, Bool.or_true,
          Bool.true_or]
        exact ⟨fun h => ⟨⟨⟨ha, hp⟩, h.1⟩, h.2⟩, fun h => ⟨h.1.2, h.2⟩⟩
      · rw [if_neg (mt (probOk_iff p).mp hp)]
        exact ⟨nofun, fun h => absurd h.1.1.2 hp⟩
    · rw [if_pos (bne_iff_ne.mpr ha)]
      exact ⟨nofun, fun h => absurd h.1.1.1 ha⟩

/-- what the loop demands of one entry -/
def EntryOk (infos : List PInfo) (singles : List (Nat × Nat)) (e : Nat × List (Nat × α)) : Prop :=
  (∃ i ∈ infos, i.label = e.1 ∧ ∀ x ∈ e.2, 0 ≤ x.2 ∧ x.1 ∈ i.actions) ∨
  (e.1 ∉ infos.map (·.label) ∧ ∃ s ∈ singles, s.1 = e.1 ∧ ∀ x ∈ e.2, x.1 = s.2 ∧ 0 ≤ x.2)

theorem entryOk_info (infos : List PInfo) (singles : List (Nat × Nat)) (hw : TablesWF infos singles)
    (i : PInfo) (hi : i ∈ infos) (acts : List (Nat × α)) :
    EntryOk infos singles (i.label, acts) ↔ ∀ x ∈ acts, 0 ≤ x.2 ∧ x.1 ∈ i.actions := by
  refine ⟨?_, fun hx => Or.inl ⟨i, hi, rfl, hx⟩⟩
  rintro (⟨i', hi', hl', hx⟩ | ⟨hnot, _⟩)
  · exact List.inj_on_of_nodup_map hw.labelsNodup hi' hi hl' ▸ hx
  · exact absurd (List.mem_map.mpr ⟨i, hi, rfl⟩) hnot

theorem entryOk_single (infos : List PInfo) (singles : List (Nat × Nat)) (hw : TablesWF infos singles)
    (s : Nat × Nat) (hs : s ∈ singles) (acts : List (Nat × α)) :
    EntryOk infos singles (s.1, acts) ↔ ∀ x ∈ acts, x.1 = s.2 ∧ 0 ≤ x.2 := by
  have hnot : s.1 ∉ infos.map (·.label) :=
    fun h => hw.disjoint s.1 h (List.mem_map.mpr ⟨s, hs, rfl⟩)
  refine ⟨?_, fun hx => Or.inr ⟨hnot, s, hs, rfl, hx⟩⟩
  rintro (⟨i', hi', hl', _⟩ | ⟨_, s', hs', hl', hx⟩)
  · exact absurd (List.mem_map.mpr ⟨i', hi', hl'⟩) hnot
  · exact List.inj_on_of_nodup_map hw.singlesNodup hs' hs hl' ▸ hx

theorem importLoop_cons_ok (infos : List PInfo) (singles : List (Nat × Nat)) (hw : TablesWF infos singles)
    (l : Nat) (acts : List (Nat × α)) (rest : Named α) (W : Nat → Nat → α) (S : Nat → Bool)
    (r : Strat α × List Bool) :
    importLoop (fun f l => l.findIdx? f) (fun f l => l.findIdx? f) (fun f l => l.findIdx? f)
        infos singles ((l, acts) :: rest) (denseOf infos W) (seenOf singles S) = .ok r ↔
      EntryOk infos singles (l, acts) ∧
      importLoop (fun f l => l.findIdx? f) (fun f l => l.findIdx? f) (fun f l => l.findIdx? f)
        infos singles rest (denseOf infos (fun l' a => ovr (if l == l' then acts else []) a (W l' a)))
        (seenOf singles (fun l' => S l' || (l == l' && !acts.isEmpty))) = .ok r := by
  rw [importLoop]
  cases hfi : infos.findIdx? (fun x => x.label == l) with
  | some i =>
    -- a multi-action infoset: the weights change, the flags do not
    obtain ⟨hi, rfl⟩ := findIdx?_key_some (·.label) _ infos i hfi
    have hmem : infos[i].label ∈ infos.map (·.label) := List.mem_map.mpr ⟨_, List.getElem_mem hi, rfl⟩
    have hS : seenOf singles (fun l' => S l' || (infos[i].label == l' && !acts.isEmpty))
        = seenOf singles S :=
      seenOf_congr _ _ _ fun s hs => by
        rw [beq_false_of_ne fun h => hw.disjoint _ hmem (List.mem_map.mpr ⟨s, hs, h.symm⟩),
          Bool.false_and, Bool.or_false]
    dsimp only
    rw [hS, entryOk_info infos singles hw _ (List.getElem_mem hi), List.getD_eq_getElem?_getD,
      List.getElem?_eq_getElem hi, Option.getD_some]
    rcases except_ok_or_error (fun d => importActions_spec infos singles hw i hi acts W d)
      with ⟨hP, he⟩ | ⟨hP, x, he⟩ <;> rw [he]
    · exact ⟨fun h => ⟨hP, h⟩, And.right⟩
    · exact ⟨nofun, fun h => absurd h.1 hP⟩
  | none =>
    have hnot : l ∉ infos.map (·.label) := (findIdx?_key_none (·.label) l infos).mp hfi
    cases hfs : singles.findIdx? (fun x => x.1 == l) with
    | none =>
      have hnots : l ∉ singles.map (·.1) := (findIdx?_key_none (·.1) l singles).mp hfs
      refine ⟨nofun, fun h => ?_⟩
      rcases h.1 with ⟨i', hi', hl', _⟩ | ⟨_, s, hs, hl', _⟩
      · exact absurd (List.mem_map.mpr ⟨i', hi', hl'⟩) hnot
      · exact absurd (List.mem_map.mpr ⟨s, hs, hl'⟩) hnots
    | some si =>
      -- a single-action infoset: the flags change, the weights do not
      obtain ⟨hsi, rfl⟩ := findIdx?_key_some (·.1) _ singles si hfs
      have hW : denseOf infos (fun l' a => ovr (if singles[si].1 == l' then acts else []) a (W l' a))
          = denseOf infos W :=
        denseOf_congr _ _ _ fun i' hi' a _ => by
          rw [beq_false_of_ne fun h => hnot (List.mem_map.mpr ⟨i', hi', h.symm⟩)]; rfl
      dsimp only
      rw [hW, entryOk_single infos singles hw _ (List.getElem_mem hsi), ← seenOf_set singles hw.singlesNodup S si hsi, List.getD_eq_getElem?_getD,
        List.getElem?_eq_getElem hsi, Option.getD_some, seenOf_getD singles S si hsi]
      rcases except_ok_or_error (fun b => importSingle_spec singles[si].2 acts (S singles[si].1) b)
        with ⟨hP, he⟩ | ⟨hP, x, he⟩ <;> rw [he]
      · exact ⟨fun h => ⟨hP, h⟩, And.right⟩
      · exact ⟨nofun, fun h => absurd h.1 hP⟩

theorem importLoop_spec (infos : List PInfo) (singles : List (Nat × Nat)) (hw : TablesWF infos singles)
    (named : Named α) (W : Nat → Nat → α) (S : Nat → Bool) (r : Strat α × List Bool) :
    importLoop (fun f l => l.findIdx? f) (fun f l => l.findIdx? f) (fun f l => l.findIdx? f)
        infos singles named (denseOf infos W) (seenOf singles S) = .ok r ↔
      (∀ e ∈ named, EntryOk infos singles e) ∧
      r = (denseOf infos (fun l a => ovr (named.flatMap (fun e => if e.1 == l then e.2 else [])) a (W l a)),
           seenOf singles (fun l => S l || named.any (fun e => e.1 == l && !e.2.isEmpty))) := by
  induction named generalizing W S with
  | nil =>
    rw [importLoop, Except.ok.injEq]
    simp only [List.not_mem_nil, false_imp_iff, implies_true, true_and, List.flatMap_nil, ovr,
      List.any_nil, Bool.or_false]
    exact eq_comm
  | cons e rest ih =>
    obtain ⟨l, acts⟩ := e
    rw [importLoop_cons_ok infos singles hw, ih, List.forall_mem_cons, and_assoc]
    simp only [List.flatMap_cons, ovr_append, List.any_cons, Bool.or_assoc]

theorem importFinish_spec (dense σ : Strat α) :
    importFinish dense = .ok σ ↔
      (∀ v ∈ dense, v.sum ≠ 0) ∧ σ = dense.map (fun v => v.map (· / v.sum)) := by
  induction dense generalizing σ with
  | nil =>
    rw [importFinish, Except.ok.injEq]
    simp only [List.not_mem_nil, false_imp_iff, implies_true, true_and, List.map_nil]
    exact eq_comm
  | cons v vs ih =>
    rw [importFinish, List.forall_mem_cons, List.map_cons, lsum_eq_sum]
    by_cases hv : v.sum = 0
    · rw [if_pos (beq_iff_eq.mpr hv)]
      exact ⟨nofun, fun h => absurd hv h.1.1⟩
    · rw [if_neg (mt beq_iff_eq.mp hv)]
      rcases except_ok_or_error (fun r => ih r) with ⟨hP, he⟩ | ⟨hP, x, he⟩ <;> rw [he]
      · exact ⟨fun h => ⟨⟨hv, hP⟩, (Except.ok.inj h).symm⟩, fun h => congrArg _ h.2.symm⟩
      · exact ⟨nofun, fun h => absurd h.1.2 hP⟩

theorem entryOk_iff (infos : List PInfo) (singles : List (Nat × Nat)) (hw : TablesWF infos singles)
    (e : Nat × List (Nat × α)) :
    EntryOk infos singles e ↔
      (e.1 ∈ infos.map (·.label) ∨ e.1 ∈ singles.map (·.1)) ∧
      (∀ x ∈ e.2,
        (∀ i ∈ infos, i.label = e.1 → x.1 ∈ i.actions) ∧ (∀ s ∈ singles, s.1 = e.1 → x.1 = s.2)) ∧
      (∀ x ∈ e.2, 0 ≤ x.2) := by
  constructor
  · rintro (⟨i, hi, hl, hall⟩ | ⟨hnot, s, hs, hl, hall⟩)
    · have hmem : e.1 ∈ infos.map (·.label) := List.mem_map.mpr ⟨i, hi, hl⟩
      exact ⟨Or.inl hmem, fun x hx =>
        ⟨fun i' hi' hl' =>
          List.inj_on_of_nodup_map hw.labelsNodup hi' hi (hl'.trans hl.symm) ▸ (hall x hx).2,
        fun s hs hl' => absurd (List.mem_map.mpr ⟨s, hs, hl'⟩) (hw.disjoint e.1 hmem)⟩,
        fun x hx => (hall x hx).1⟩
    · exact ⟨Or.inr (List.mem_map.mpr ⟨s, hs, hl⟩), fun x hx =>
        ⟨fun i' hi' hl' => absurd (List.mem_map.mpr ⟨i', hi', hl'⟩) hnot,
        fun s' hs' hl' =>
          List.inj_on_of_nodup_map hw.singlesNodup hs' hs (hl'.trans hl.symm) ▸ (hall x hx).1⟩,
        fun x hx => (hall x hx).2⟩
  · rintro ⟨h | h, hl, hn⟩
    · obtain ⟨i, hi, hil⟩ := List.mem_map.mp h
      exact Or.inl ⟨i, hi, hil, fun x hx => ⟨hn x hx, (hl x hx).1 i hi hil⟩⟩
    · obtain ⟨s, hs, hsl⟩ := List.mem_map.mp h
      exact Or.inr ⟨fun h' => hw.disjoint e.1 h' h, s, hs, hsl,
        fun x hx => ⟨(hl x hx).2 s hs hsl, hn x hx⟩⟩

theorem stratIntoBoxSlow_spec (infos : List PInfo) (singles : List (Nat × Nat)) (named : Named α)
    (hw : TablesWF infos singles) (σ : Strat α) :
    stratIntoBoxSlow infos singles named = .ok σ ↔
      (∀ e ∈ named, EntryOk infos singles e) ∧
      (∀ i ∈ infos, (i.actions.map (lastWeight named i.label)).sum ≠ 0) ∧
      (∀ s ∈ singles, ∃ e ∈ named, e.1 = s.1 ∧ e.2 ≠ []) ∧
      σ = infos.map (fun i =>
        (i.actions.map (lastWeight named i.label)).map
          (· / (i.actions.map (lastWeight named i.label)).sum)) := by
  have hd0 : infos.map (fun i => List.replicate i.actions.length (0 : α)) = denseOf infos (fun _ _ => 0) := by
    unfold denseOf
    simp only [List.map_const']
  have hs0 : List.replicate singles.length false = seenOf singles (fun _ => false) := by
    unfold seenOf
    simp only [List.map_const']
  have hlw : (fun l a => ovr (named.flatMap (fun e => if e.1 == l then e.2 else [])) a (0 : α))
      = lastWeight named := by
    funext l a
    exact (lastWeight_eq_ovr named l a).symm
  have hseen : (seenOf singles (fun l => named.any (fun e => e.1 == l && !e.2.isEmpty))).all id = true ↔
      ∀ s ∈ singles, ∃ e ∈ named, e.1 = s.1 ∧ e.2 ≠ [] := by
    simp only [seenOf, List.all_eq_true, List.mem_map, id, forall_exists_index, and_imp,
      forall_apply_eq_imp_iff₂, List.any_eq_true, Bool.and_eq_true, beq_iff_eq, Bool.not_eq_true',
      List.isEmpty_eq_false_iff, ne_eq]
  have hsum : (∀ v ∈ denseOf infos (lastWeight named), v.sum ≠ 0) ↔
      ∀ i ∈ infos, (i.actions.map (lastWeight named i.label)).sum ≠ 0 := by
    simp only [denseOf, List.mem_map, forall_exists_index, and_imp, forall_apply_eq_imp_iff₂]
  have hmap : (denseOf infos (lastWeight named)).map (fun v => v.map (· / v.sum))
      = infos.map (fun i => (i.actions.map (lastWeight named i.label)).map
          (· / (i.actions.map (lastWeight named i.label)).sum)) := by
    simp only [denseOf, List.map_map, Function.comp_def]
  unfold stratIntoBoxSlow importWith
  simp only [hd0, hs0]
  -- the three stages in turn: the loop, the normalisation, the flags
  rcases except_ok_or_error
      (fun r => importLoop_spec infos singles hw named (fun _ _ => 0) (fun _ => false) r)
    with ⟨hent, he⟩ | ⟨hent, x, he⟩ <;> rw [he]
  · simp only [hlw, Bool.false_or]
    rcases except_ok_or_error (fun r => importFinish_spec (denseOf infos (lastWeight named)) r)
      with ⟨hfin, he'⟩ | ⟨hfin, x, he'⟩ <;> rw [he']
    · dsimp only
      rw [hmap]
      by_cases hall :
          (seenOf singles (fun l => named.any (fun e => e.1 == l && !e.2.isEmpty))).all id = true
      · rw [if_pos hall]
        exact ⟨fun h' => ⟨hent, hsum.mp hfin, hseen.mp hall, (Except.ok.inj h').symm⟩,
          fun h' => congrArg _ h'.2.2.2.symm⟩
      · rw [if_neg hall]
        exact ⟨nofun, fun h' => absurd (hseen.mpr h'.2.2.1) hall⟩
    · exact ⟨nofun, fun h' => absurd (hsum.mpr h'.2.1) hfin⟩
  · exact ⟨nofun, fun h' => absurd h'.1 hent⟩

theorem lastWeight_nonneg (named : Named α) (hn : ∀ e ∈ named, ∀ x ∈ e.2, 0 ≤ x.2) (l a : Nat) :
    0 ≤ lastWeight named l a := by
  rw [lastWeight_eq_ovr]
  apply ovr_nonneg _ _ _ _ le_rfl
  intro x hx
  obtain ⟨e, he, hxe⟩ := List.mem_flatMap.mp hx
  split at hxe
  · exact hn e he x hxe
  · simp at hxe

/-- **import succeeds exactly when the rules hold** -/
theorem import_ok_iff (infos : List PInfo) (singles : List (Nat × Nat)) (named : Named α)
    (hw : TablesWF infos singles) :
    (∃ σ, stratIntoBoxSlow infos singles named = .ok σ) ↔ ImportOk infos singles named := by
  simp only [stratIntoBoxSlow_spec infos singles named hw]
  constructor
  · rintro ⟨σ, hent, hsum, hcov, _⟩
    have h := fun e he => (entryOk_iff infos singles hw e).mp (hent e he)
    refine ⟨fun e he => (h e he).1, fun e he => (h e he).2.1, fun e he => (h e he).2.2, ?_, hcov⟩
    -- a total of non-negative weights that is not zero is positive
    intro i hi
    refine lt_of_le_of_ne (List.sum_nonneg fun x hx => ?_) (hsum i hi).symm
    obtain ⟨a, _, rfl⟩ := List.mem_map.mp hx
    exact lastWeight_nonneg named (fun e he => (h e he).2.2) _ _
  · intro h
    exact ⟨_, fun e he => (entryOk_iff infos singles hw e).mpr
        ⟨h.knownInfosets e he, h.legalActions e he, h.nonneg e he⟩,
      fun i hi => (h.positive i hi).ne', h.covered, rfl⟩

/-- **the result gives each action its weight divided by the infoset total** (unspecified
actions zero, a repeated entry overriding the earlier one) -/
theorem import_result (infos : List PInfo) (singles : List (Nat × Nat)) (named : Named α)
    (hw : TablesWF infos singles) (σ : Strat α) (h : stratIntoBoxSlow infos singles named = .ok σ) :
    σ = infos.map (fun i =>
      (i.actions.map (lastWeight named i.label)).map
        (· / (i.actions.map (lastWeight named i.label)).sum)) :=
  ((stratIntoBoxSlow_spec infos singles named hw σ).mp h).2.2.2

/-- the result of a successful import is a valid strategy that fits the table -/
theorem import_valid (infos : List PInfo) (singles : List (Nat × Nat)) (named : Named α)
    (hw : TablesWF infos singles) (σ : Strat α) (h : stratIntoBoxSlow infos singles named = .ok σ) :
    IsStrat σ ∧ Fits infos σ := by
  have hok : ImportOk infos singles named := (import_ok_iff infos singles named hw).mp ⟨σ, h⟩
  have hσ := import_result infos singles named hw σ h
  subst hσ
  constructor
  · intro v hv
    obtain ⟨i, hi, rfl⟩ := List.mem_map.mp hv
    have hpos := hok.positive i hi
    constructor
    · intro p hp
      obtain ⟨w, hwm, rfl⟩ := List.mem_map.mp hp
      obtain ⟨a, _, rfl⟩ := List.mem_map.mp hwm
      exact div_nonneg (lastWeight_nonneg named hok.nonneg _ _) hpos.le
    · rw [sum_map_div, div_self hpos.ne']
  · unfold Fits
    simp only [List.map_map, Function.comp_def, List.length_map]

/-! ## non-vacuity -/

def exInfos14 : List PInfo := [⟨7, [0, 1, 2], none⟩]
def exSingles14 : List (Nat × Nat) := [(3, 8)]

/-- unnormalised weights, a repeated entry overriding the earlier one, an unspecified action -/
example : stratIntoBoxSlow exInfos14 exSingles14 ([(7, [(0, 5), (1, 1)]), (3, [(8, 1)]), (7, [(0, 1)])] : Named ℚ)
    = .ok [[1/2, 1/2, 0]] := by
  decide +kernel
example : stratIntoBox exInfos14 exSingles14 ([(7, [(0, 5), (1, 1)]), (3, [(8, 1)]), (7, [(0, 1)])] : Named ℚ)
    = .ok [[1/2, 1/2, 0]] := by
  decide +kernel
/-- a violated rule -/
example : stratIntoBoxSlow exInfos14 exSingles14 ([(7, [(0, 5), (9, 1)])] : Named ℚ)
    = .error .invalidAction := by
  decide +kernel

end Cfr
