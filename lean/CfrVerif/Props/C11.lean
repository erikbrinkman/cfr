import CfrVerif.Proofs.CompileWF
import CfrVerif.Proofs.CompileValid
/-!
# C11 — game construction accepts exactly the documented class of games

`fromRoot` is `Game::from_root` (`init_recurse`).  It is a total function into
`Except GameError (Game α)`: it cannot panic.

* `Valid r` spells the documented contract declaratively: there is *one* assignment of
  outcome probabilities to chance infosets, of action lists to player infosets and of own
  decision histories to multi-action infosets such that **every node conforms to it**.
* `fromRoot_ok_iff_valid` : construction succeeds exactly on the documented class.
* `fromRoot_error_sound` : a returned error means the tree is not `Valid`; for the four local
  errors it names a rule that some node violates.
* `fromRoot_ok_wf` : whatever is accepted satisfies `GameWF` — everything evaluation and the
  solvers rely on (indices in range, arities, positive normalised chance probabilities,
  perfect recall in history form, well-formed label tables).
-/
set_option linter.unusedSectionVars false
namespace Cfr
variable {α : Type} [Field α] [LinearOrder α] [IsStrictOrderedRing α]

/-! ## the documented contract

The definitions `LHist`, `Assignment`, `normalise`, `Conforms` / `ConformsL` / `ConformsA`,
`Valid`, `Violates`, `AnyNode` / `AnyNodeL` live in `Proofs/CompileValid.lean` (the helper
lemmas are about them). -/

/-- **construction succeeds if and only if the tree is in the documented class**
(`Raw.Shape`: the crate iterates *pairs* `(weight, child)` / `(action, child)`, the model keeps
the two components in two lists, which therefore have equal lengths) -/
theorem fromRoot_ok_iff_valid (r : Raw α) (hs : Raw.Shape r) :
    (∃ g, fromRoot r = .ok g) ↔ Valid r :=
  ⟨fun ⟨g, h⟩ => CompileValid.fromRoot_ok_valid r hs g h, CompileValid.valid_fromRoot_ok r⟩

/-- **everything that is accepted is well formed** (proved in `Proofs/CompileWF.lean`) -/
theorem fromRoot_ok_wf (r : Raw α) (hs : Raw.Shape r) (g : Game α) (h : fromRoot r = .ok g) :
    GameWF g :=
  compile_ok_wf r hs g h

/-- **an error names a rule that the tree violates**: the four *local* rules are violated at
some node; the three *relational* rules (`ProbabilitiesNotEqual`, `ActionsNotEqual`,
`ImperfectRecall`) and any error at all imply that the tree is outside the documented class -/
theorem fromRoot_error_sound (r : Raw α) (hs : Raw.Shape r) (e : GameError)
    (h : fromRoot r = .error e) :
    ¬ Valid r ∧
    (e = .emptyChance ∨ e = .nonPositiveChance ∨ e = .emptyPlayer ∨ e = .actionsNotUnique →
      AnyNode (Violates e) r) ∧
    e ≠ .nonFinitePayoff := by
  obtain ⟨h1, h2⟩ := CompileValid.fromRoot_err r hs e h
  refine ⟨fun hv => ?_, h2, h1⟩
  obtain ⟨g, hg⟩ := CompileValid.valid_fromRoot_ok r hv
  rw [h] at hg
  cases hg

/-! ## non-vacuity -/

/-- a valid tree: chance over two player-one nodes sharing an infoset, then player two -/
def exRaw : Raw ℚ :=
  .chance none [1, 3]
    [.player true 5 [0, 1] [.term 1, .player false 2 [7, 8] [.term 0, .term 2]],
     .player true 5 [0, 1] [.term (-1), .term 3]]

example : (fromRoot exRaw).toBool = true := by decide +kernel

/-- a forgotten own action (the defect repaired by the first `fix:` commit): rejected -/
def exForget : Raw ℚ :=
  .player true 0 [0, 1]
    [.player true 1 [0, 1] [.term 1, .term 0], .player true 1 [0, 1] [.term 0, .term 1]]

example : (match fromRoot exForget with | .error e => e == .imperfectRecall | .ok _ => false) = true := by
  decide +kernel

end Cfr
