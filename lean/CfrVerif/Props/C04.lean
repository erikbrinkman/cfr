import CfrVerif.Proofs.RateProps
import CfrVerif.Proofs.Unbiased
import CfrVerif.Proofs.UnbiasedExt
import CfrVerif.Props.C05
/-!
# C04 — convergence of the sampled solvers: what is a theorem, and what is not

A theorem (this file), **for every sequence of draws** (the draw oracle is arbitrary), vanilla
parameters, every budget and threshold:

* `sampled_bound_pathwise`, `external_bound_pathwise` : the returned per-player bounds obey the
  CFR rate `2·D·n_p·√A/√T` *pathwise* — regret matching drives the sampled cumulative regrets
  whatever the draws are, because every sampled regret increment is orthogonal to the current
  strategy and bounded by the payoff range.

**Hypothesis `hdraw`** (both theorems are false without it, see `C04.sampled_needs_hdraw` and
`C04.external_needs_hdraw` below): the draw oracle returns an index *into the weight list it is
given*.  The model lets an oracle answer anything; for an index past the last outcome `vrecNth` /
`erecNth` return the value `0` with no effect (in the crate `chance.outcomes[ind]` would panic), and
`0` need not lie in the payoff range `[lo, hi]`, so a single sampled regret increment can exceed
`hi − lo`.  Every oracle that models a sampler (`WeightedIndex`, the harness's replayed draws)
satisfies `hdraw`.

Not a theorem: that the *true* regret of the returned profile is below `D·N·√A/√T` "with
overwhelming probability" (a martingale concentration statement over the adaptive draw process,
with a sampling-variance factor the property's constant does not carry), and the statement about
the typical regret over a collection of games.  Those two sentences are explored by seeded,
replayable runs of the correspondence check; the claim for C04 is therefore *partial*.
-/
set_option linter.unusedSectionVars false
namespace Cfr

/-- chance-sampled CFR: the bounds obey the CFR rate for every draw sequence -/
theorem sampled_bound_pathwise (g : Game ℝ) (hg : GameWF g) (lo hi : ℝ) (hpay : PayIn lo hi g.root)
    (A : Nat) (hA : ActsLe g A) (draw : DrawFn ℝ)
    (hdraw : ∀ k i pass (ws : List ℝ), ws ≠ [] → draw k i pass ws < ws.length)
    (T : Nat) (thr : Option (Ext ℝ)) :
    RateOK (hi - lo) g.p1.length A (solveVanillaSingle g true RegretParams.vanilla draw T thr).iters
      (solveVanillaSingle g true RegretParams.vanilla draw T thr).regOne ∧
    RateOK (hi - lo) g.p2.length A (solveVanillaSingle g true RegretParams.vanilla draw T thr).iters
      (solveVanillaSingle g true RegretParams.vanilla draw T thr).regTwo :=
  vanilla_rate g hg lo hi hpay A hA true draw (fun _ => hdraw) T thr

/-- external-sampled CFR: the bounds obey the CFR rate for every draw sequence -/
theorem external_bound_pathwise (g : Game ℝ) (hg : GameWF g) (lo hi : ℝ) (hpay : PayIn lo hi g.root)
    (A : Nat) (hA : ActsLe g A) (draw : DrawFn ℝ)
    (hdraw : ∀ k i pass (ws : List ℝ), ws ≠ [] → draw k i pass ws < ws.length)
    (T : Nat) (thr : Option (Ext ℝ)) :
    RateOK (hi - lo) g.p1.length A (solveExternalSingle g RegretParams.vanilla draw T thr).iters
      (solveExternalSingle g RegretParams.vanilla draw T thr).regOne ∧
    RateOK (hi - lo) g.p2.length A (solveExternalSingle g RegretParams.vanilla draw T thr).iters
      (solveExternalSingle g RegretParams.vanilla draw T thr).regTwo :=
  external_rate g hg lo hi hpay A hA draw hdraw T thr

/-! ## `hdraw` is necessary -/

/-- payoffs in `[5, 6]`: player one chooses between a coin flip over `5` / `6` and a sure `5` -/
noncomputable def C04.cexGame : Game ℝ :=
  ⟨[[1 / 2, 1 / 2]], [⟨0, [0, 1], none⟩], [], [], [],
    .player true 0 [.chance 0 [.term 5, .term 6], .term 5]⟩

theorem C04.cexGame_acts (me : Bool) (e : PInfo) (he : e ∈ C04.cexGame.infos me) :
    e.actions.length = 2 := by
  cases me
  · simp [C04.cexGame, Game.infos] at he
  · simp only [C04.cexGame, Game.infos, if_true, List.mem_singleton] at he
    subst he
    rfl

theorem C04.cexGame_wf : GameWF C04.cexGame where
  chancePos := by
    intro ps hps
    simp only [C04.cexGame, List.mem_singleton] at hps
    subst hps
    constructor
    · intro p hp
      simp only [List.mem_cons, List.not_mem_nil, or_false, or_self] at hp
      subst hp; norm_num
    · norm_num
  nodes := by simp [C04.cexGame, NodeOK, NodeOKL, Game.infos]
  recall := by
    intro me
    refine ⟨fun _ => [], ?_, by simp⟩
    cases me <;> simp [C04.cexGame, PR, PRL, PRD]
  tables1 := ⟨by decide, by decide, by decide, by decide⟩
  tables2 := ⟨by decide, by decide, by decide, by decide⟩
  actsTwo := fun me e he => (C04.cexGame_acts me e he).ge

theorem C04.cexGame_payIn : PayIn 5 6 C04.cexGame.root := by
  simp only [C04.cexGame, PayIn, PayInL]
  norm_num

theorem C04.cexGame_actsLe : ActsLe C04.cexGame 2 :=
  fun me e he => (C04.cexGame_acts me e he).le

theorem C04.five_above_rate : ¬ RateOK (6 - 5) C04.cexGame.p1.length 2 1 (.fin 5) := by
  simp only [RateOK, not_le, C04.cexGame, List.length_singleton, Nat.cast_one, Real.sqrt_one]
  have h2 : Real.sqrt (2 : ℝ) < 2 := by
    rw [Real.sqrt_lt' (by norm_num)]; norm_num
  norm_num
  linarith

/-- with the oracle that always answers `7` the coin flip is sampled out of range, its value
reads `0 ∉ [5, 6]`, and after one iteration player one's bound is `5 > 2·1·1·√2` -/
theorem C04.sampled_needs_hdraw :
    ¬ RateOK (6 - 5) C04.cexGame.p1.length 2
      (solveVanillaSingle C04.cexGame true RegretParams.vanilla (fun _ _ _ _ => 7) 1 none).iters
      (solveVanillaSingle C04.cexGame true RegretParams.vanilla (fun _ _ _ _ => 7) 1 none).regOne := by
  have e1 : (solveVanillaSingle C04.cexGame true RegretParams.vanilla (fun _ _ _ _ => 7) 1
      none).regOne = .fin 5 := by
    simp [solveVanillaSingle, solveWith, solveLoop, vanillaIter, vrec, vrecNth, vrecActs,
      sampleChance, assocGet, SolveSt.init, InfoSt.new, SolveSt.strat, SolveSt.get, stratEffs,
      subEffs, SolveSt.applyEffs, SolveSt.applyEff, SolveSt.set, InfoSt.apply, addAt, advanceAll,
      InfoSt.advance, discountCumRegret, genDiscount, RegretParams.vanilla, cumRegretBound, maxD,
      fmax, two, belowThreshold, C04.cexGame, regretMatch, discountAverageStrat, List.range_succ]
    norm_num
  have e2 : (solveVanillaSingle C04.cexGame true RegretParams.vanilla (fun _ _ _ _ => 7) 1
      none).iters = 1 := solveWith_none_iters C04.cexGame _ 1
  rw [e1, e2]
  exact C04.five_above_rate

theorem C04.external_needs_hdraw :
    ¬ RateOK (6 - 5) C04.cexGame.p1.length 2
      (solveExternalSingle C04.cexGame RegretParams.vanilla (fun _ _ _ _ => 7) 1 none).iters
      (solveExternalSingle C04.cexGame RegretParams.vanilla (fun _ _ _ _ => 7) 1 none).regOne := by
  have e1 : (solveExternalSingle C04.cexGame RegretParams.vanilla (fun _ _ _ _ => 7) 1
      none).regOne = .fin 5 := by
    simp [solveExternalSingle, solveWith, solveLoop, externalIter, externalPass, erec, erecNth,
      erecActs, sampleChance, samplePlayer, assocGet, SolveSt.init, InfoSt.new, SolveSt.strat,
      SolveSt.get, subEffsE, SolveSt.applyEffs, SolveSt.applyEff, SolveSt.set,
      InfoSt.apply, addAt, advanceAll, InfoSt.advance, discountCumRegret, genDiscount,
      RegretParams.vanilla, cumRegretBound, maxD, fmax, two, belowThreshold, C04.cexGame,
      regretMatch, discountAverageStrat, List.range_succ]
    norm_num
  have e2 : (solveExternalSingle C04.cexGame RegretParams.vanilla (fun _ _ _ _ => 7) 1
      none).iters = 1 := solveWith_none_iters C04.cexGame _ 1
  rw [e1, e2]
  exact C04.five_above_rate

/-! ## the hypotheses are satisfiable (non-vacuity) -/

/-- both theorems apply to a concrete game and a concrete in-range oracle (always the first
outcome), for every budget and threshold -/
example (T : ℕ) (thr : Option (Ext ℝ)) :
    (RateOK (1 - -1) 1 2
      (solveVanillaSingle C05.tinyGame true RegretParams.vanilla (fun _ _ _ _ => 0) T thr).iters
      (solveVanillaSingle C05.tinyGame true RegretParams.vanilla (fun _ _ _ _ => 0) T thr).regOne) ∧
    (RateOK (1 - -1) 1 2
      (solveExternalSingle C05.tinyGame RegretParams.vanilla (fun _ _ _ _ => 0) T thr).iters
      (solveExternalSingle C05.tinyGame RegretParams.vanilla (fun _ _ _ _ => 0) T thr).regTwo) := by
  have hd : ∀ k i pass (ws : List ℝ), ws ≠ [] → (fun _ _ _ _ => 0 : DrawFn ℝ) k i pass ws
      < ws.length := fun _ _ _ ws h => List.length_pos_of_ne_nil h
  exact ⟨(sampled_bound_pathwise C05.tinyGame C05.tinyGame_wf (-1) 1 C05.tinyGame_payIn 2
      C05.tinyGame_actsLe _ hd T thr).1,
    (external_bound_pathwise C05.tinyGame C05.tinyGame_wf (-1) 1 C05.tinyGame_payIn 2
      C05.tinyGame_actsLe _ hd T thr).2⟩

/-! ## unbiasedness (proved in `Proofs/Unbiased.lean` and `Proofs/UnbiasedExt.lean`) -/

/-- **chance sampling is unbiased for the regrets**: the expectation over the draws of one pass
(explicit finite sum over the product of the declared chance distributions) of what the sampled
traversal adds to any regret accumulator equals what the unsampled traversal adds — the exact
instantaneous counterfactual regret — provided no chance infoset repeats on a path (known
finding F16 otherwise; counterexample in `Proofs/Unbiased.lean`) -/
theorem chance_sampling_unbiased (g : Game ℝ) (hg : GameWF g) (hnr : NoChanceRepeat [] g.root)
    (strat : Bool → Nat → List ℝ) (pass : Nat) (me : Bool) (I a : Nat) :
    expectDraws g.chance 0 (fun _ => 0)
        (fun k => effSum (vrec (sampledCtx g strat pass k) g.root 1 1 1 {}).2.1 me I Slot.regret a)
      = effSum (vrec (fullCtx g strat pass) g.root 1 1 1 {}).2.1 me I Slot.regret a :=
  sampled_pass_unbiased g hg hnr strat pass me I a

/-- **external sampling is unbiased for the updating player's regrets**: the expectation, over the
chance draws (declared probabilities) and the draws at the other player's infosets (that player's
current strategy) of one pass, of what the pass adds to a regret accumulator of the updating
player equals what the unsampled traversal adds -/
theorem external_sampling_unbiased (g : Game ℝ) (hg : GameWF g) (hnr : NoChanceRepeat [] g.root)
    (first : Bool) (strat : Bool → Nat → List ℝ)
    (hs : ∀ j e, (g.infos (!first))[j]? = some e →
      (strat (!first) j).length = e.actions.length ∧ (strat (!first) j).sum = 1)
    (I a : Nat) :
    expectDraws g.chance 0 (fun _ => 0) (fun kc =>
      expectDraws (oppTable g first strat) 0 (fun _ => 0) (fun kp =>
        effSum (erec (extCtx g first strat kc kp) g.root {}).2.1 first I Slot.regret a))
      = effSum (vrec (fullCtx g strat 0) g.root 1 1 1 {}).2.1 first I Slot.regret a :=
  external_pass_unbiased g hg hnr first strat hs I a

end Cfr
