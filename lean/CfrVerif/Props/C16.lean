import CfrVerif.Props.C15
import CfrVerif.Props.C06
import CfrVerif.Proofs.CliTwin
/-!
# C16 — the options and input formats of the command-line program mean what the help text says

* the method, preset, budget (`0` = unlimited), threshold and parallelism options are passed to
  the library's `solve` as documented, and nothing else influences the solve;
* with the deterministic method the result does not depend on the thread count;
* the input route (stdin / file, explicit / auto-detected format, file extension) only selects
  the parser: every route that reads a given valid file with the right parser loads the same game;
* the clip step prints the pruned profile exactly when its regret is strictly lower.
* a JSON and a Gambit encoding of the same game (`Twin`: one tree is the other renamed, with
  rescaled chance weights and payoffs shifted by the constant-sum offset) give the same strategies
  up to the renaming, the same regrets, the same player-one utility (`cli_json_gambit_twins` for
  the solve and the evaluation); player two's printed utility differs by the constant `2·sum` the
  JSON format cannot express (`json_gambit_report_offset` in `Proofs/CliTwin.lean`).
(The output destination is not in the model: the same `Output` record is serialised to stdout or
to the file.)
-/
set_option linter.unusedSectionVars false
namespace Cfr

/-- **the program is the library solve with the mapped options, then the clip step** -/
theorem cli_is_library_solve (env : Env) (sched : Sched ℝ) (draw : DrawFn ℝ) (numName : Nat → Nat)
    (o : CliOpts ℝ) (fmt : InputFormat) (kind : InputKind) (p : Parsed ℝ) (out : CliOut ℝ) :
    cliMain env sched draw numName o fmt kind p = .ok out ↔
      ∃ g sum sol, loadGame numName fmt kind p = .ok (g, sum) ∧
        gameSolve env sched g o.method (if o.maxIters = 0 then u64Max else o.maxIters) o.maxRegret
          o.parallel (some o.discount.intoParams) draw = .ok sol ∧
        report g sum o.clipThreshold sol.stratOne sol.stratTwo = .ok out :=
  CliP.cliMain_ok_iff

/-- the presets the `--discount` values denote -/
theorem cli_discount_table :
    (Discount.vanilla.intoParams : RegretParams ℝ) = RegretParams.vanilla ∧
    (Discount.lcfr.intoParams : RegretParams ℝ) = RegretParams.lcfr ∧
    (Discount.cfrPlus.intoParams : RegretParams ℝ) = RegretParams.cfrPlus ∧
    (Discount.dcfr.intoParams : RegretParams ℝ) = RegretParams.dcfr ∧
    (Discount.dcfrPrune.intoParams : RegretParams ℝ) = RegretParams.dcfrPrune :=
  ⟨rfl, rfl, rfl, rfl, rfl⟩

/-- **with the deterministic method the thread count is only a performance setting**: two runs
that differ only in `--parallel` (and in the schedule of the worker threads) and both succeed
print the same object -/
theorem cli_full_thread_invariant (env : Env) (sched sched' : Sched ℝ) (hs : sched.Fair)
    (hs' : sched'.Fair) (draw : DrawFn ℝ) (numName : Nat → Nat) (o : CliOpts ℝ)
    (hm : o.method = .full) (par' : Nat) (fmt : InputFormat) (kind : InputKind) (p : Parsed ℝ)
    (out out' : CliOut ℝ)
    (h : cliMain env sched draw numName o fmt kind p = .ok out)
    (h' : cliMain env sched' draw numName { o with parallel := par' } fmt kind p = .ok out') :
    out = out' := by
  obtain ⟨g, sum, sol, hl, hsol, hr⟩ := CliP.cliMain_ok_iff.1 h
  obtain ⟨g', sum', sol', hl', hsol', hr'⟩ := CliP.cliMain_ok_iff.1 h'
  rw [hl] at hl'
  cases hl'
  have hsol1 : gameSolve env sched g .full o.iters o.maxRegret o.parallel
      (some o.discount.intoParams) draw = .ok sol := by rw [← hm]; exact hsol
  have hsol2 : gameSolve env sched' g .full o.iters o.maxRegret par'
      (some o.discount.intoParams) draw = .ok sol' := by rw [← hm]; exact hsol'
  have hr2 : report g sum o.clipThreshold sol'.stratOne sol'.stratTwo = .ok out' := hr'
  have e1 := full_thread_count_invariant env sched hs g _ _ _ _ draw sol hsol1
  have e2 := full_thread_count_invariant env sched' hs' g _ _ _ _ draw sol' hsol2
  rw [← e2] at e1
  subst e1
  rw [hr] at hr2
  cases hr2
  rfl

/-- **input routes**: a file only the JSON parser accepts loads the same game through every
route that is not forced to Gambit; a file only the Gambit parser accepts loads the same game
through every route that is not forced to JSON and does not carry a `.json` name -/
theorem cli_route_independent (numName : Nat → Nat) (p : Parsed ℝ) :
    (∀ s, p.json = some s →
      ∀ fmt kind, fmt ≠ .gambit → ¬ (kind = .dotEfg ∧ fmt = .auto) →
        loadGame numName fmt kind p = jsonFromState s) ∧
    (∀ f, p.json = none → p.gambit = some f →
      ∀ fmt kind, fmt ≠ .json → ¬ (kind = .dotJson ∧ fmt = .auto) →
        loadGame numName fmt kind p = gambitFromAst numName f) := by
  constructor
  · intro s hs fmt kind hf hk
    have hJ : jsonFromReader p = jsonFromState s := by rw [jsonFromReader, hs]
    have hA : autoFromReader numName p = jsonFromState s := by rw [autoFromReader, hs]
    cases fmt <;> cases kind
    exacts [hA, hJ, absurd ⟨rfl, rfl⟩ hk, hA, absurd rfl hf, absurd rfl hf, absurd rfl hf,
      absurd rfl hf, hJ, hJ, hJ, hJ]
  · intro f hj hg fmt kind hf hk
    have hG : gambitFromReader numName p = gambitFromAst numName f := by rw [gambitFromReader, hg]
    have hA : autoFromReader numName p = gambitFromAst numName f := by rw [autoFromReader, hj, hg]
    cases fmt <;> cases kind
    exacts [hA, absurd ⟨rfl, rfl⟩ hk, hG, hA, hG, hG, hG, hG, absurd rfl hf, absurd rfl hf,
      absurd rfl hf, absurd rfl hf]

/-- **the clip step**: the pruned profile is printed exactly when its total regret is strictly
lower than that of the unpruned one -/
theorem cli_clip_rule (g : Game ℝ) (sum clip : ℝ) (one two : Strat ℝ) :
    report g sum clip one two =
      if (getInfo g (fun p => if p then truncate clip one else truncate clip two)).regret
          < (getInfo g (fun p => if p then one else two)).regret
      then assemble g sum (getInfo g (fun p => if p then truncate clip one else truncate clip two))
        (truncate clip one) (truncate clip two)
      else assemble g sum (getInfo g (fun p => if p then one else two)) one two := rfl

/-- the hypotheses of `cli_full_thread_invariant` are satisfiable: on a machine that can spawn
threads the deterministic method prints a result with one thread and with two, under any two fair
schedules -/
example (sched sched' : Sched ℝ) (hs : sched.Fair) (hs' : sched'.Fair) (draw : DrawFn ℝ) (x : ℝ) :
    let env : Env := ⟨1000, none, fun _ => true⟩
    let o : CliOpts ℝ := ⟨0, none, 3, 1, .full, .dcfr⟩
    let p : Parsed ℝ := ⟨some (.terminal x), none⟩
    ∃ out out', cliMain env sched draw id o .json .stdin p = .ok out ∧
      cliMain env sched' draw id { o with parallel := 2 } .json .stdin p = .ok out' ∧ out = out' := by
  intro env o p
  have hl := C15.load_json_terminal id x
  obtain ⟨out, h⟩ := CliP.cliMain_succeeds (o := o) (env := env) hs (draw := draw) hl
    (by simp [gameSolve, Env.threads, o]; exact rfl)
  obtain ⟨out', h'⟩ := CliP.cliMain_succeeds (o := { o with parallel := 2 }) (env := env) hs'
    (draw := draw) hl (by simp [gameSolve, Env.threads, env, o]; exact rfl)
  exact ⟨out, out', h, h', cli_full_thread_invariant env sched sched' hs hs' draw id o rfl 2
    .json .stdin p out out' h h'⟩

/-- both halves of `cli_route_independent` have instances -/
example : ∃ p : Parsed ℝ, ∃ s, p.json = some s := ⟨⟨some (.terminal 0), none⟩, _, rfl⟩
example : ∃ p : Parsed ℝ, ∃ f, p.json = none ∧ p.gambit = some f :=
  ⟨⟨none, some ⟨2, .term 2 [1, 1]⟩⟩, _, rfl, rfl⟩

/-- **a JSON and a Gambit encoding of the same game give the same solution** -/
theorem cli_json_gambit_twins (ρ : Renaming) (sum : ℝ) (rj rg : Raw ℝ) (ht : Twin ρ sum rj rg)
    (hs : Raw.Shape rj) (gj : Game ℝ) (hj : fromRoot rj = .ok gj) (p : RegretParams ℝ)
    (draw : DrawFn ℝ) (T : Nat) (thr : Option (Ext ℝ)) :
    ∃ gg, fromRoot rg = .ok gg ∧
      gg.p1 = gj.p1.map (PInfo.rename ρ true) ∧ gg.p2 = gj.p2.map (PInfo.rename ρ false) ∧
      solveVanillaSingle gg false p draw T thr = solveVanillaSingle gj false p draw T thr ∧
      ∀ σ : Profile ℝ, ProfileOK gj σ →
        (getInfo gg σ).util + sum = (getInfo gj σ).util ∧
        (getInfo gg σ).regretOne = (getInfo gj σ).regretOne ∧
        (getInfo gg σ).regretTwo = (getInfo gj σ).regretTwo :=
  json_gambit_same_solution ρ sum rj rg ht hs gj hj p draw T thr

end Cfr
