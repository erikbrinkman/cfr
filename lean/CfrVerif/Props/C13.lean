import CfrVerif.Props.C14
import CfrVerif.Props.C18
/-!
# C13 — the named view is complete, consistent and round-trips

The two iterators of `as_named` are state machines (`InfoIter`, `ActIter`) with
`next` and `len` (`ExactSizeIterator`); `asNamed` is the fully drained view.
-/
set_option linter.unusedSectionVars false
namespace Cfr
variable {α : Type} [Field α] [LinearOrder α] [IsStrictOrderedRing α]

def ActIter.drain : ActIter α → List (Nat × α) := ActIter.toList

theorem ActIter.next_spec (it : ActIter α) :
    (it.next = none ∧ it.toList = []) ∨
    (∃ x it', it.next = some (x, it') ∧ it.toList = x :: it'.toList) := by
  induction it using ActIter.next.induct with
  | case1 a as p ps h =>
    right
    refine ⟨(a, p), .data as ps, ?_, ?_⟩
    · rw [ActIter.next]; simp only [h, if_true]
    · simp only [ActIter.toList, List.zip_cons_cons, List.filter_cons, h, decide_true, if_true]
  | case2 a as p ps h ih =>
    have h1 : (ActIter.data (a :: as) (p :: ps)).next = (ActIter.data as ps).next := by
      rw [ActIter.next]; simp only [h, if_false]
    have h2 : (ActIter.data (a :: as) (p :: ps)).toList = (ActIter.data as ps).toList := by
      simp only [ActIter.toList, List.zip_cons_cons, List.filter_cons, h, decide_false,
        Bool.false_eq_true, if_false]
    rw [h1, h2]; exact ih
  | case3 acts probs h =>
    left
    constructor
    · rw [ActIter.next]
      · exact h
    · cases acts with
      | nil => simp [ActIter.toList]
      | cons a as =>
        cases probs with
        | nil => simp [ActIter.toList]
        | cons p ps => exact (h a as p ps rfl rfl).elim
  | case4 a =>
    right
    exact ⟨(a, 1), .single none, by rw [ActIter.next], rfl⟩
  | case5 =>
    left
    exact ⟨by rw [ActIter.next], rfl⟩

/-- **the advertised length of an action iterator is the number of items still to come** -/
theorem ActIter.len_exact (it : ActIter α) : it.len = it.toList.length := by
  cases it with
  | data as ps => rfl
  | single o => cases o <;> rfl

/-- after a `next` the advertised length has dropped by exactly one; `none` only at length zero -/
theorem ActIter.len_next (it : ActIter α) :
    (it.next = none ∧ it.len = 0) ∨ (∃ x it', it.next = some (x, it') ∧ it.len = it'.len + 1) := by
  rcases ActIter.next_spec it with ⟨h1, h2⟩ | ⟨x, it', h1, h2⟩
  · left; exact ⟨h1, by rw [ActIter.len_exact, h2]; rfl⟩
  · right; exact ⟨x, it', h1, by rw [ActIter.len_exact, ActIter.len_exact it', h2]; rfl⟩

/-- the infoset iterator, fully drained (labels only) -/
def InfoIter.labels (it : InfoIter α) : List Nat :=
  it.infos.map (·.label) ++ it.singles.map (·.1)

/-- **the advertised length of the infoset iterator is the number of infosets still to come** -/
theorem InfoIter.len_exact (it : InfoIter α) : it.len = it.labels.length := by
  simp [InfoIter.len, InfoIter.labels]

/-- after a `next` the advertised length has dropped by exactly one, and the yielded label is
the head of the labels still to come -/
theorem InfoIter.len_next (it : InfoIter α) :
    (it.next = none ∧ it.len = 0) ∨
    (∃ l ai it', it.next = some ((l, ai), it') ∧ it.len = it'.len + 1 ∧ it.labels = l :: it'.labels) := by
  obtain ⟨infos, probs, singles⟩ := it
  cases infos with
  | nil =>
    cases singles with
    | nil => left; exact ⟨rfl, rfl⟩
    | cons s ss =>
      obtain ⟨l, a⟩ := s
      right
      exact ⟨l, .single (some a), ⟨[], probs, ss⟩, rfl, rfl, rfl⟩
  | cons i is =>
    right
    cases probs with
    | nil =>
      refine ⟨i.label, .data i.actions [], ⟨is, [], singles⟩, rfl, ?_, rfl⟩
      simp only [InfoIter.len, List.length_cons]; omega
    | cons p ps =>
      refine ⟨i.label, .data i.actions p, ⟨is, ps, singles⟩, rfl, ?_, rfl⟩
      simp only [InfoIter.len, List.length_cons]; omega

/-- **every infoset is listed exactly once**: the keys of the view are the multi-action labels
followed by the single-action labels, without repetition -/
theorem asNamed_keys (infos : List PInfo) (singles : List (Nat × Nat)) (σ : Strat α)
    (hf : Fits infos σ) :
    (asNamed infos singles σ).map (·.1) = infos.map (·.label) ++ singles.map (·.1) := by
  have hl := hf.length_eq
  unfold asNamed
  rw [List.map_append, List.map_map, List.map_map]
  congr 1
  · have : ((fun x : Nat × List (Nat × α) => x.1) ∘
        fun x : PInfo × List α => (x.1.label, (ActIter.data x.1.actions x.2).toList))
        = (fun i : PInfo => i.label) ∘ Prod.fst := rfl
    rw [this, ← List.map_map, List.map_fst_zip (by omega)]

theorem asNamed_keys_nodup (infos : List PInfo) (singles : List (Nat × Nat)) (σ : Strat α)
    (hw : TablesWF infos singles) (hf : Fits infos σ) :
    ((asNamed infos singles σ).map (·.1)).Nodup := by
  rw [asNamed_keys infos singles σ hf]
  exact List.Nodup.append hw.labelsNodup hw.singlesNodup (fun l h1 h2 => hw.disjoint l h1 h2)

/-- the entries a view leaves out are zero: what it lists still sums to the whole -/
private theorem zip_filter_sum (as : List Nat) (v : List α) (hl : v.length = as.length)
    (hv : ∀ p ∈ v, 0 ≤ p) :
    (((as.zip v).filter (fun e => 0 < e.2)).map (·.2)).sum = v.sum := by
  have h : ((as.zip v).filter (fun e => 0 < e.2)).map (·.2)
      = ((as.zip v).map (·.2)).filter (fun p => 0 < p) :=
    (List.filter_map (f := fun e : Nat × α => e.2) (p := fun p => decide (0 < p))).symm
  rw [h, List.map_snd_zip hl.le]
  exact filter_sum_eq_of_low 0 v hv fun _ _ h => h

theorem asNamed_getElem?_multi (infos : List PInfo) (singles : List (Nat × Nat)) (σ : Strat α)
    (k : Nat) (i : PInfo) (v : List α)
    (hi : infos[k]? = some i) (hv : σ[k]? = some v) :
    (asNamed infos singles σ)[k]? = some (i.label, (i.actions.zip v).filter (fun e => 0 < e.2)) := by
  unfold asNamed
  have hz : (infos.zip σ)[k]? = some (i, v) := by
    rw [List.getElem?_zip_eq_some]; exact ⟨hi, hv⟩
  rw [List.getElem?_append_left]
  · rw [List.getElem?_map, hz]; rfl
  · rw [List.length_map]
    exact (List.getElem?_eq_some_iff.mp hz).1

/-- **a multi-action infoset is listed with exactly its positive-probability actions, in order,
and their probabilities sum to one** -/
theorem asNamed_multi (infos : List PInfo) (singles : List (Nat × Nat)) (σ : Strat α)
    (hf : Fits infos σ) (hσ : IsStrat σ) (k : Nat) (i : PInfo) (v : List α)
    (hi : infos[k]? = some i) (hv : σ[k]? = some v) :
    (asNamed infos singles σ)[k]? = some (i.label, (i.actions.zip v).filter (fun e => 0 < e.2)) ∧
    (((i.actions.zip v).filter (fun e => 0 < e.2)).map (·.2)).sum = 1 := by
  refine ⟨asNamed_getElem?_multi infos singles σ k i v hi hv, ?_⟩
  have hd : IsDist v := hσ v (List.mem_of_getElem? hv)
  rw [zip_filter_sum i.actions v (hf.getElem?_length hi hv) hd.1]
  exact hd.2

/-- **a single-action infoset is listed with its only action at probability one** -/
theorem asNamed_single (infos : List PInfo) (singles : List (Nat × Nat)) (σ : Strat α)
    (hf : Fits infos σ) (k : Nat) (l a : Nat) (hs : singles[k]? = some (l, a)) :
    (asNamed infos singles σ)[infos.length + k]? = some (l, [(a, 1)]) := by
  unfold asNamed
  have hl : (infos.zip σ).length = infos.length := by
    rw [List.length_zip, hf.length_eq, Nat.min_self]
  rw [List.getElem?_append_right (by rw [List.length_map]; omega), List.length_map, hl,
    Nat.add_sub_cancel_left, List.getElem?_map, hs]
  rfl

/-! ## round trip

The import is characterised in `C14` (`stratIntoBoxSlow_spec`): entry by entry well formed, and the
result is the normalised table of last weights.  So it is enough to read the last weights off the
view: the entry of an infoset is the only one with its label, and within it each action occurs at
most once, with the probability it had. -/

theorem flatMap_key_eq {named : Named α} (hn : (named.map (·.1)).Nodup) {l : Nat}
    {xs : List (Nat × α)} (h : (l, xs) ∈ named) :
    named.flatMap (fun e => if e.1 == l then e.2 else []) = xs := by
  induction named with
  | nil => cases h
  | cons e rest ih =>
    rw [List.map_cons, List.nodup_cons] at hn
    rw [List.flatMap_cons]
    rcases List.mem_cons.mp h with rfl | h'
    · have hrest : rest.flatMap (fun e => if e.1 == l then e.2 else []) = [] :=
        List.flatMap_eq_nil_iff.mpr fun e he =>
          if_neg fun hk => hn.1 (List.mem_map.mpr ⟨e, he, eq_of_beq hk⟩)
      rw [hrest, List.append_nil]
      exact if_pos (beq_self_eq_true l)
    · have hne : ¬ (e.1 == l) = true :=
        fun hk => hn.1 (List.mem_map.mpr ⟨(l, xs), h', (eq_of_beq hk).symm⟩)
      rw [if_neg hne, List.nil_append, ih hn.2 h']

theorem map_ovr_zip_filter (acts : List Nat) (hn : acts.Nodup) (v : List α)
    (hl : v.length = acts.length) (hv : ∀ p ∈ v, 0 ≤ p) :
    acts.map (fun a => ovr ((acts.zip v).filter (fun e => 0 < e.2)) a 0) = v := by
  induction acts generalizing v with
  | nil => exact (List.eq_nil_of_length_eq_zero hl).symm
  | cons a as ih =>
    cases v with
    | nil => cases hl
    | cons p ps =>
      rw [List.nodup_cons] at hn
      have ih' := ih hn.2 ps (Nat.succ_injective hl) fun q hq => hv q (List.mem_cons_of_mem _ hq)
      have hnot : a ∉ ((as.zip ps).filter (fun e => 0 < e.2)).map (·.1) := fun h => by
        obtain ⟨e, he, rfl⟩ := List.mem_map.mp h
        exact hn.1 (List.of_mem_zip (List.mem_of_mem_filter he)).1
      rw [List.zip_cons_cons, List.filter_cons, List.map_cons]
      by_cases hp : 0 < p
      · rw [if_pos (decide_eq_true hp)]
        congr 1
        · rw [ovr, if_pos rfl, ovr_of_not_mem _ _ _ hnot]
        · conv_rhs => rw [← ih']
          exact List.map_congr_left fun b hb => by
            rw [ovr, if_neg fun (h : a = b) => hn.1 (h.symm ▸ hb)]
      · rw [if_neg fun hd => hp (of_decide_eq_true hd), ovr_of_not_mem _ _ _ hnot, ih',
          le_antisymm (not_lt.mp hp) (hv p List.mem_cons_self)]

/-- **the import reads back the weights the view wrote out** -/
theorem denseOf_lastWeight_asNamed (infos : List PInfo) (singles : List (Nat × Nat)) (σ : Strat α)
    (hw : TablesWF infos singles) (hf : Fits infos σ) (hσ : IsStrat σ) :
    denseOf infos (lastWeight (asNamed infos singles σ)) = σ := by
  refine List.ext_getElem? fun k => ?_
  rw [denseOf, List.getElem?_map]
  cases hi : infos[k]? with
  | none =>
    rw [Option.map_none, List.getElem?_eq_none]
    rw [hf.length_eq]
    exact List.getElem?_eq_none_iff.mp hi
  | some i =>
    have hk : k < σ.length := hf.length_eq ▸ (List.getElem?_eq_some_iff.mp hi).1
    have hv : σ[k]? = some σ[k] := List.getElem?_eq_getElem hk
    have hmem : (i.label, (i.actions.zip σ[k]).filter (fun e => 0 < e.2)) ∈ asNamed infos singles σ :=
      List.mem_of_getElem? (asNamed_getElem?_multi infos singles σ k i σ[k] hi hv)
    rw [Option.map_some, hv, List.map_congr_left fun a _ => lastWeight_eq_ovr _ i.label a]
    simp only [flatMap_key_eq (asNamed_keys_nodup infos singles σ hw hf) hmem]
    exact congrArg some (map_ovr_zip_filter i.actions (hw.actionsNodup i (List.mem_of_getElem? hi))
      σ[k] (hf.getElem?_length hi hv) (hσ _ (List.getElem_mem hk)).1)

theorem asNamed_entryOk (infos : List PInfo) (singles : List (Nat × Nat)) (σ : Strat α)
    (hw : TablesWF infos singles) : ∀ e ∈ asNamed infos singles σ, EntryOk infos singles e := by
  intro e he
  rcases List.mem_append.mp he with h | h
  · obtain ⟨⟨i, p⟩, hip, rfl⟩ := List.mem_map.mp h
    exact (entryOk_info infos singles hw i (List.of_mem_zip hip).1 _).mpr fun x hx =>
      ⟨(of_decide_eq_true (List.mem_filter.mp hx).2).le,
        (List.of_mem_zip (List.mem_filter.mp hx).1).1⟩
  · obtain ⟨⟨l, a⟩, hs, rfl⟩ := List.mem_map.mp h
    exact (entryOk_single infos singles hw (l, a) hs _).mpr fun x hx =>
      List.mem_singleton.mp hx ▸ ⟨rfl, zero_le_one⟩

/-- **importing the named view yields the original profile** (exact arithmetic: exactly); here
through the scan-based importer -/
theorem stratIntoBoxSlow_asNamed (infos : List PInfo) (singles : List (Nat × Nat)) (σ : Strat α)
    (hw : TablesWF infos singles) (hf : Fits infos σ) (hσ : IsStrat σ) :
    stratIntoBoxSlow infos singles (asNamed infos singles σ) = .ok σ := by
  have hrows := denseOf_lastWeight_asNamed infos singles σ hw hf hσ
  refine (stratIntoBoxSlow_spec infos singles _ hw σ).mpr
    ⟨asNamed_entryOk infos singles σ hw, fun i hi => ?_, fun s hs => ?_, ?_⟩
  · -- each row of last weights is a row of `σ`, of total one
    have hrow : i.actions.map (lastWeight (asNamed infos singles σ) i.label)
        ∈ denseOf infos (lastWeight (asNamed infos singles σ)) := List.mem_map.mpr ⟨i, hi, rfl⟩
    rw [hrows] at hrow
    rw [(hσ _ hrow).2]
    exact one_ne_zero
  · exact ⟨(s.1, [(s.2, 1)]), List.mem_append_right _ (List.mem_map.mpr ⟨s, hs, rfl⟩), rfl,
      List.cons_ne_nil _ _⟩
  · -- normalising a strategy changes nothing
    have hnorm : σ.map (fun v => v.map (· / v.sum)) = σ :=
      (List.map_congr_left fun v hv => by
        rw [(hσ v hv).2]
        exact (List.map_congr_left fun x _ => div_one x).trans (List.map_id' v)).trans (List.map_id' σ)
    calc σ = (denseOf infos (lastWeight (asNamed infos singles σ))).map (fun v => v.map (· / v.sum)) := by
          rw [hrows, hnorm]
      _ = _ := by rw [denseOf, List.map_map]; rfl

/-- every correct way of looking labels up imports the view back -/
theorem importWith_asNamed (findI : (PInfo → Bool) → List PInfo → Option Nat)
    (findA : (Nat → Bool) → List Nat → Option Nat)
    (findS : ((Nat × Nat) → Bool) → List (Nat × Nat) → Option Nat)
    (hI : LookupOK findI) (hA : LookupOK findA) (hS : LookupOK findS)
    (infos : List PInfo) (singles : List (Nat × Nat)) (σ : Strat α)
    (hw : TablesWF infos singles) (hf : Fits infos σ) (hσ : IsStrat σ) :
    importWith findI findA findS infos singles (asNamed infos singles σ) = .ok σ :=
  (importWith_lookup_irrel hI hA hS lookupOK_findIdx? lookupOK_findIdx? lookupOK_findIdx?
    infos singles hw _).trans (stratIntoBoxSlow_asNamed infos singles σ hw hf hσ)

/-- the same through the hash-based importer -/
theorem stratIntoBox_asNamed (infos : List PInfo) (singles : List (Nat × Nat)) (σ : Strat α)
    (hw : TablesWF infos singles) (hf : Fits infos σ) (hσ : IsStrat σ) :
    stratIntoBox infos singles (asNamed infos singles σ) = .ok σ :=
  importWith_asNamed _ _ _ lookupOK_findLastIdx lookupOK_findLastIdx lookupOK_findLastIdx
    infos singles σ hw hf hσ

/-! ## non-vacuity -/

def exInfos : List PInfo := [⟨7, [0, 1, 2], none⟩, ⟨9, [4, 5], some (0, 1)⟩]
def exSingles : List (Nat × Nat) := [(3, 8)]
def exSigma : Strat ℚ := [[1/2, 0, 1/2], [1, 0]]

example : TablesWF exInfos exSingles := by
  constructor <;> decide
example : Fits exInfos exSigma := by unfold Fits; decide
example : asNamed exInfos exSingles exSigma =
    [(7, [(0, 1/2), (2, 1/2)]), (9, [(4, 1)]), (3, [(8, 1)])] := by
  decide +kernel

example : IsStrat exSigma := by
  unfold IsStrat IsDist; decide +kernel

end Cfr
