import CfrVerif.Proofs.Dist
import CfrVerif.Model.Named
/-!
# C18 — truncation keeps a valid profile and only removes small actions

`truncateOne h v` is `Strategies::truncate` on one infoset, `truncate` on a whole
strategy.  Everything is stated for every linearly ordered field (exact
arithmetic), every threshold `h` and every probability vector.
-/
set_option linter.unusedSectionVars false
namespace Cfr
variable {α : Type} [Field α] [LinearOrder α] [IsStrictOrderedRing α]

theorem filter_sum_pos (h : α) (v : List α) (hv : IsDist v) (hex : ∃ p ∈ v, h < p) :
    0 < (v.filter (fun p => h < p)).sum := by
  obtain ⟨p, hp, hlt⟩ := hex
  rcases lt_or_ge h 0 with hneg | hpos
  · -- a negative threshold removes nothing
    rw [List.filter_eq_self.mpr fun q hq => decide_eq_true (hneg.trans_le (hv.1 q hq)), hv.2]
    exact one_pos
  · -- otherwise the survivor `p` is positive and at most the survivors' total
    exact (hpos.trans_lt hlt).trans_le
      (List.single_le_sum (fun q hq => hv.1 q (List.mem_of_mem_filter hq)) p
        (List.mem_filter.mpr ⟨hp, decide_eq_true hlt⟩))

/-- a survivor never loses probability: it is divided by a total in `(0, 1]` -/
theorem survivor_le_div (h : α) (v : List α) (hv : IsDist v) (p : α) (hp : p ∈ v) (hx : h < p) :
    p ≤ p / (v.filter (fun p => h < p)).sum :=
  le_div_self (hv.1 p hp) (filter_sum_pos h v hv ⟨p, hp, hx⟩)
    (hv.2 ▸ List.filter_sublist.sum_le_sum hv.1)

theorem map_trunc_sum (h T : α) (v : List α) :
    (v.map (fun p => if h < p then p / T else 0)).sum = (v.filter (fun p => h < p)).sum / T := by
  induction v with
  | nil => exact (zero_div T).symm
  | cons x xs ih =>
    rw [List.map_cons, List.sum_cons, ih, List.filter_cons]
    by_cases hx : h < x
    · rw [if_pos hx, if_pos (decide_eq_true hx), List.sum_cons, add_div]
    · rw [if_neg hx, if_neg fun hd => hx (of_decide_eq_true hd), zero_add]

theorem filter_sum_eq_of_low (h : α) (v : List α) (hv : ∀ p ∈ v, 0 ≤ p)
    (hlow : ∀ p ∈ v, 0 < p → h < p) : (v.filter (fun p => h < p)).sum = v.sum := by
  induction v with
  | nil => rfl
  | cons x xs ih =>
    have ih' := ih (fun p hp => hv p (List.mem_cons_of_mem _ hp))
      (fun p hp => hlow p (List.mem_cons_of_mem _ hp))
    rw [List.filter_cons, List.sum_cons]
    by_cases hx : h < x
    · rw [if_pos (decide_eq_true hx), List.sum_cons, ih']
    · -- an entry that is removed was zero
      have h0 : x = 0 :=
        le_antisymm (not_lt.mp fun hpos => hx (hlow x List.mem_cons_self hpos)) (hv x List.mem_cons_self)
      rw [if_neg fun hd => hx (of_decide_eq_true hd), ih', h0, zero_add]

/-- where some action's probability exceeds `h`: exactly those actions survive, rescaled
proportionally (divided by the total of the survivors); every other action gets `0` -/
theorem truncateOne_spec (h : α) (v : List α) (hv : IsDist v) (hex : ∃ p ∈ v, h < p) :
    truncateOne h v = v.map (fun p => if h < p then p / (v.filter (fun p => h < p)).sum else 0) := by
  have hpos := filter_sum_pos h v hv hex
  unfold truncateOne
  simp only [lsum_eq_sum]
  rw [if_pos hpos]

/-- an infoset in which no action exceeds `h` is left as it is -/
theorem truncateOne_none_exceeds (h : α) (v : List α) (hno : ∀ p ∈ v, ¬ h < p) :
    truncateOne h v = v := by
  have hnil : v.filter (fun p => h < p) = [] :=
    List.filter_eq_nil_iff.mpr fun p hp hd => hno p hp (of_decide_eq_true hd)
  unfold truncateOne
  simp only [lsum_eq_sum, hnil, List.sum_nil, lt_irrefl, if_false]

theorem truncateOne_cases (h : α) (v : List α) (hv : IsDist v) :
    ((∃ p ∈ v, h < p) ∧
      truncateOne h v = v.map (fun p => if h < p then p / (v.filter (fun p => h < p)).sum else 0)) ∨
    ((∀ p ∈ v, ¬ h < p) ∧ truncateOne h v = v) := by
  by_cases hex : ∃ p ∈ v, h < p
  · exact Or.inl ⟨hex, truncateOne_spec h v hv hex⟩
  · have hno : ∀ p ∈ v, ¬ h < p := fun p hp hlt => hex ⟨p, hp, hlt⟩
    exact Or.inr ⟨hno, truncateOne_none_exceeds h v hno⟩

theorem truncateOne_valid (h : α) (v : List α) (hv : IsDist v) : IsDist (truncateOne h v) := by
  rcases truncateOne_cases h v hv with ⟨hex, he⟩ | ⟨-, he⟩ <;> rw [he]
  · refine ⟨fun q hq => ?_, ?_⟩
    · obtain ⟨p, hp, rfl⟩ := List.mem_map.mp hq
      split_ifs with hx
      · exact (hv.1 p hp).trans (survivor_le_div h v hv p hp hx)
      · exact le_refl 0
    · rw [map_trunc_sum]
      exact div_self (filter_sum_pos h v hv hex).ne'
  · exact hv

theorem truncateOne_length (h : α) (v : List α) : (truncateOne h v).length = v.length := by
  unfold truncateOne
  dsimp only
  split_ifs
  · exact List.length_map _
  · rfl

/-- a threshold below every positive probability changes nothing -/
theorem truncateOne_below_support (h : α) (v : List α) (hv : IsDist v)
    (hlow : ∀ p ∈ v, 0 < p → h < p) : truncateOne h v = v := by
  rcases truncateOne_cases h v hv with ⟨-, he⟩ | ⟨-, he⟩ <;> rw [he]
  -- the survivors are all of the support, their total is one, and what is removed was zero
  rw [filter_sum_eq_of_low h v hv.1 hlow, hv.2]
  conv_rhs => rw [← List.map_id v]
  refine List.map_congr_left fun p hp => ?_
  by_cases hx : h < p
  · rw [if_pos hx, div_one]; rfl
  · rw [if_neg hx]
    exact le_antisymm (hv.1 p hp) (not_lt.mp fun hpos => hx (hlow p hp hpos))

/-- truncating twice equals truncating once: every survivor is still above the threshold -/
theorem truncateOne_idempotent (h : α) (v : List α) (hv : IsDist v) :
    truncateOne h (truncateOne h v) = truncateOne h v := by
  rcases truncateOne_cases h v hv with ⟨-, he⟩ | ⟨-, he⟩
  · apply truncateOne_below_support h _ (truncateOne_valid h v hv)
    rw [he]
    intro q hq hq0
    obtain ⟨p, hp, rfl⟩ := List.mem_map.mp hq
    by_cases hx : h < p
    · rw [if_pos hx]
      exact hx.trans_le (survivor_le_div h v hv p hp hx)
    · rw [if_neg hx] at hq0
      exact absurd hq0 (lt_irrefl 0)
  · rw [he, he]

theorem truncate_valid (h : α) (σ : Strat α) (hσ : IsStrat σ) : IsStrat (truncate h σ) := by
  intro w hw
  obtain ⟨v, hv, rfl⟩ := List.mem_map.mp hw
  exact truncateOne_valid h v (hσ v hv)

theorem truncate_idempotent (h : α) (σ : Strat α) (hσ : IsStrat σ) :
    truncate h (truncate h σ) = truncate h σ := by
  unfold truncate
  rw [List.map_map]
  apply List.map_congr_left
  intro v hv
  exact truncateOne_idempotent h v (hσ v hv)

theorem truncate_below_support (h : α) (σ : Strat α) (hσ : IsStrat σ)
    (hlow : ∀ v ∈ σ, ∀ p ∈ v, 0 < p → h < p) : truncate h σ = σ := by
  unfold truncate
  conv_rhs => rw [← List.map_id σ]
  apply List.map_congr_left
  intro v hv
  exact truncateOne_below_support h v (hσ v hv) (hlow v hv)

/-- the shape of the profile (number of infosets, actions per infoset) never changes -/
theorem truncate_shape (h : α) (σ : Strat α) :
    (truncate h σ).map List.length = σ.map List.length := by
  unfold truncate
  rw [List.map_map]
  apply List.map_congr_left
  intro v _
  exact truncateOne_length h v

/-! ## "only removes small actions", action by action -/

/-- a surviving action never loses probability: the survivors are divided by a total that is at
most one -/
theorem truncateOne_survivor_ge (h : α) (v : List α) (hv : IsDist v) (i : Nat) (hi : i < v.length)
    (hk : h < v[i]) :
    v[i] ≤ (truncateOne h v)[i]'(by rw [truncateOne_length]; exact hi) := by
  simp only [truncateOne_spec h v hv ⟨v[i], List.getElem_mem hi, hk⟩, List.getElem_map, if_pos hk]
  exact survivor_le_div h v hv v[i] (List.getElem_mem hi) hk

/-- an action at or below the threshold is removed whenever some action exceeds it -/
theorem truncateOne_small_removed (h : α) (v : List α) (hv : IsDist v) (hex : ∃ p ∈ v, h < p)
    (i : Nat) (hi : i < v.length) (hs : ¬ h < v[i]) :
    (truncateOne h v)[i]'(by rw [truncateOne_length]; exact hi) = 0 := by
  simp only [truncateOne_spec h v hv hex, List.getElem_map, if_neg hs]

/-- truncation never gives probability to an action that had none -/
theorem truncateOne_no_new_support (h : α) (v : List α) (hv : IsDist v) (i : Nat)
    (hi : i < v.length) (hz : v[i] = 0) :
    (truncateOne h v)[i]'(by rw [truncateOne_length]; exact hi) = 0 := by
  rcases truncateOne_cases h v hv with ⟨-, he⟩ | ⟨-, he⟩ <;> simp only [he, List.getElem_map, hz]
  split_ifs
  · exact zero_div _
  · rfl

/-! ## non-vacuity (over `ℚ`) -/

example : IsDist ([1/2, 1/3, 1/6] : List ℚ) := by
  unfold IsDist; decide +kernel

/-- survivors rescaled, the small action removed -/
example : truncateOne (1/5 : ℚ) [1/2, 1/3, 1/6] = [3/5, 2/5, 0] := by
  decide +kernel

/-- no action exceeds the threshold: unchanged (the defect repaired by the `fix:` commit) -/
example : truncateOne (1/2 : ℚ) [1/3, 1/3, 1/3] = [1/3, 1/3, 1/3] := by
  decide +kernel

/-- a survivor that really grows (1/2 → 3/5), premises of `truncateOne_survivor_ge` met -/
example : (1/5 : ℚ) < ([1/2, 1/3, 1/6] : List ℚ)[0] ∧
    ([1/2, 1/3, 1/6] : List ℚ)[0] < (truncateOne (1/5 : ℚ) [1/2, 1/3, 1/6])[0]'(by
      rw [truncateOne_length]; decide) := by
  decide +kernel

end Cfr
