import CfrVerif.Proofs.CliLemmas
import CfrVerif.Proofs.CliReject
import CfrVerif.Props.C11
/-!
# C17 — the command-line program rejects malformed or unsupported input instead of solving it

From the parsed AST on (the byte-level behaviour of `serde_json` and of `gambit-parser`'s `nom`
grammar is third party; it enters as `Parsed`, the two parsers' answers):

* **no solution without a representable game**: whenever the program prints a result, the input
  was accepted by the selected parser, had two players, passed the constant-sum and naming
  checks, and the tree handed to `from_root` is in the documented class of games (C11's `Valid`);
* each documented diagnostic category is returned exactly in its situation;
* an error is a value of `Except`: no result object accompanies it.
-/
set_option linter.unusedSectionVars false
namespace Cfr

/-- the tree the selected reader hands to `from_root`, with the constant-sum offset -/
noncomputable def loadRaw (numName : Nat → Nat) (fmt : InputFormat) (kind : InputKind) (p : Parsed ℝ) :
    Except CliError (Raw ℝ × ℝ) :=
  let json : Except CliError (Raw ℝ × ℝ) :=
    match p.json with | none => .error .jsonError | some s => .ok (s.toRaw, 0)
  let gambit : Except CliError (Raw ℝ × ℝ) :=
    match p.gambit with | none => .error .gambitError | some f => gambitRaw numName f
  let auto : Except CliError (Raw ℝ × ℝ) :=
    match p.json with
    | some s => .ok (s.toRaw, 0)
    | none => match p.gambit with | some f => gambitRaw numName f | none => .error .autoError
  match kind, fmt with
  | _, .json => json
  | .stdin, .gambit => gambit
  | .stdin, .auto => auto
  | .dotJson, .auto => json
  | _, .gambit => gambit
  | .dotEfg, .auto => gambit
  | _, .auto => auto

/-- the dispatch of `main`: every route reads like one of the three formats given on stdin -/
theorem route_stdin (numName : Nat → Nat) (fmt : InputFormat) (kind : InputKind) (p : Parsed ℝ) :
    ∃ fmt', loadGame numName fmt kind p = loadGame numName fmt' .stdin p ∧
      loadRaw numName fmt kind p = loadRaw numName fmt' .stdin p := by
  cases kind <;> cases fmt
  exacts [⟨.auto, rfl, rfl⟩, ⟨.gambit, rfl, rfl⟩, ⟨.json, rfl, rfl⟩,
    ⟨.json, rfl, rfl⟩, ⟨.gambit, rfl, rfl⟩, ⟨.json, rfl, rfl⟩,
    ⟨.gambit, rfl, rfl⟩, ⟨.gambit, rfl, rfl⟩, ⟨.json, rfl, rfl⟩,
    ⟨.auto, rfl, rfl⟩, ⟨.gambit, rfl, rfl⟩, ⟨.json, rfl, rfl⟩]

theorem loadGame_eq (numName : Nat → Nat) (fmt : InputFormat) (kind : InputKind) (p : Parsed ℝ) :
    loadGame numName fmt kind p =
      match loadRaw numName fmt kind p with
      | .error e => .error e
      | .ok (raw, sum) => fromRootCli raw sum := by
  have hG : ∀ f : EfgFile ℝ, gambitFromAst numName f =
      match gambitRaw numName f with
      | .error e => .error e
      | .ok (raw, sum) => fromRootCli raw sum := by
    intro f
    unfold gambitFromAst
    rcases gambitRaw numName f with e | ⟨raw, sum⟩ <;> rfl
  obtain ⟨fmt', e1, e2⟩ := route_stdin numName fmt kind p
  rw [e1, e2]
  obtain ⟨j, g⟩ := p
  cases fmt' with
  | json => cases j <;> rfl
  | gambit =>
    cases g with
    | none => rfl
    | some f => exact hG f
  | auto =>
    cases j with
    | some s => rfl
    | none =>
      cases g with
      | none => rfl
      | some f => exact hG f

theorem loadRaw_shape (numName : Nat → Nat) (fmt : InputFormat) (kind : InputKind) (p : Parsed ℝ)
    (raw : Raw ℝ) (sum : ℝ) (h : loadRaw numName fmt kind p = .ok (raw, sum)) : Raw.Shape raw := by
  obtain ⟨fmt', -, e2⟩ := route_stdin numName fmt kind p
  rw [e2] at h
  obtain ⟨j, g⟩ := p
  cases fmt' with
  | json =>
    cases j with
    | none => cases h
    | some s => cases h; exact CliP.jstate_shape s
  | gambit =>
    cases g with
    | none => cases h
    | some f => exact CliP.gambitRaw_shape h
  | auto =>
    cases j with
    | some s => cases h; exact CliP.jstate_shape s
    | none =>
      cases g with
      | none => cases h
      | some f => exact CliP.gambitRaw_shape h

/-- **it never reports a solution for a game it could not represent** -/
theorem cli_ok_implies_valid_game (env : Env) (sched : Sched ℝ) (draw : DrawFn ℝ)
    (numName : Nat → Nat) (o : CliOpts ℝ) (fmt : InputFormat) (kind : InputKind) (p : Parsed ℝ)
    (hshape : p.ShapeOK) (out : CliOut ℝ)
    (h : cliMain env sched draw numName o fmt kind p = .ok out) :
    ∃ raw sum g, loadRaw numName fmt kind p = .ok (raw, sum) ∧ fromRoot raw = .ok g ∧ Valid raw ∧
      GameWF g := by
  have _ := hshape
  obtain ⟨g, sum, -, hl, -, -⟩ := CliP.cliMain_ok_iff.1 h
  rw [loadGame_eq] at hl
  split at hl
  · cases hl
  · rename_i raw sum' hr
    obtain ⟨hf, rfl⟩ := CliP.fromRootCli_ok hl
    have hs := loadRaw_shape numName fmt kind p raw sum hr
    exact ⟨raw, sum, g, hr, hf, (fromRoot_ok_iff_valid raw hs).1 ⟨g, hf⟩, fromRoot_ok_wf raw hs g hf⟩

/-- **rejections by category** -/
theorem cli_rejects (env : Env) (sched : Sched ℝ) (draw : DrawFn ℝ) (numName : Nat → Nat)
    (o : CliOpts ℝ) (fmt : InputFormat) (kind : InputKind) (p : Parsed ℝ) :
    -- the selected parser does not accept the bytes
    (fmt = .json → p.json = none → cliMain env sched draw numName o fmt kind p = .error .jsonError) ∧
    (fmt = .gambit → p.gambit = none →
      cliMain env sched draw numName o fmt kind p = .error .gambitError) ∧
    (fmt = .auto → kind = .stdin → p.json = none → p.gambit = none →
      cliMain env sched draw numName o fmt kind p = .error .autoError) ∧
    -- a Gambit file with a player count other than two
    (∀ f, fmt = .gambit → p.gambit = some f → f.players ≠ 2 →
      cliMain env sched draw numName o fmt kind p = .error .playerCount) ∧
    -- the tree violates the library contract
    (∀ raw sum e, loadRaw numName fmt kind p = .ok (raw, sum) → fromRoot raw = .error e →
      cliMain env sched draw numName o fmt kind p = .error (.gameError e)) ∧
    -- the documented thread-count errors of the solve
    (∀ g sum e, loadGame numName fmt kind p = .ok (g, sum) →
      gameSolve env sched g o.method o.iters o.maxRegret o.parallel (some o.discount.intoParams) draw
        = .error e →
      cliMain env sched draw numName o fmt kind p = .error (.solveError e)) := by
  refine ⟨?_, ?_, ?_, ?_, ?_, ?_⟩
  · intro hf hj
    subst hf
    unfold cliMain loadGame jsonFromReader
    cases kind <;> simp [hj]
  · intro hf hg
    subst hf
    unfold cliMain loadGame gambitFromReader
    cases kind <;> simp [hg]
  · intro hf hk hj hg
    subst hf; subst hk
    unfold cliMain loadGame autoFromReader
    simp [hj, hg]
  · intro f hf hg hp
    subst hf
    unfold cliMain loadGame gambitFromReader gambitFromAst gambitRaw
    cases kind <;> simp [hg, hp]
  · intro raw sum e h1 h2
    unfold cliMain
    rw [loadGame_eq, h1]
    simp [fromRootCli, h2]
  · intro g sum e h1 h2
    unfold cliMain
    rw [h1]
    simp [runGame, h2]

/-- **the Gambit-specific checks**: for a two-player file whose tables can be built, the reader
fails with exactly the documented category — a duplicate infoset name or a number/name clash,
or payoffs that are not constant-sum within the tolerance (over `ℝ` there are no non-finite
cumulative payoffs to reject) — and an accepted file has passed these checks -/
theorem gambit_rejects (numName : Nat → Nat) (f : EfgFile ℝ) (hp : f.players = 2)
    (t : Tables ℝ) (ht : Tables.run ({} : Tables ℝ) f.root.visits = .ok t) :
    (hasDupName t.one.given = true ∨ hasDupName t.two.given = true →
      ∃ e, gambitRaw numName f = .error e ∧
        (e = .duplicateInfosetName ∨ e = .numberNameClash)) ∧
    (∀ n1 n2 ls, t.one.resolve numName = .ok n1 → t.two.resolve numName = .ok n2 →
      Efg.leaves t.outcomes f.root (0, 0) = .ok ls → notConstantSum ls = true →
      gambitRaw numName f = .error .notConstantSum) ∧
    (∀ raw sum, gambitRaw numName f = .ok (raw, sum) →
      ∃ n1 n2 ls, t.one.resolve numName = .ok n1 ∧ t.two.resolve numName = .ok n2 ∧
        Efg.leaves t.outcomes f.root (0, 0) = .ok ls ∧ notConstantSum ls = false ∧
        sum = constantSum ls) := by
  have heq := Rej.gambitRaw_eq numName f hp t ht
  refine ⟨?_, ?_, ?_⟩
  · intro h
    rcases h1 : t.one.resolve numName with e | n1
    · exact ⟨e, by rw [heq, h1], Rej.resolve_error numName _ e h1⟩
    · rcases h with h | h
      · rw [Rej.resolve_dup numName _ h] at h1; cases h1
      · refine ⟨.duplicateInfosetName, ?_, Or.inl rfl⟩
        rw [heq, h1, Rej.resolve_dup numName _ h]
  · intro n1 n2 ls h1 h2 h3 h4
    rw [heq, h1, h2, h3]
    simp [h4]
  · intro raw sum h
    rw [heq] at h
    split at h
    · cases h
    · split at h
      · cases h
      · split at h
        · cases h
        · split_ifs at h with h4
          split at h
          · cases h
          · cases h
            exact ⟨_, _, _, ‹_›, ‹_›, ‹_›, Bool.not_eq_true _ ▸ h4, rfl⟩

/-! ## non-vacuity: the hypotheses are satisfiable and each rejection occurs -/
namespace C17

/-- `c "" 1 "" { "0" 1/2 "1" 1/2 } 0` over `t "" 1 "" { 0 0 }` and `t "" 2 "" { 1 1 }` : pair sums
`0` and `2` over a payoff range of `1` for player one -/
noncomputable def ncsFile : EfgFile ℝ :=
  ⟨2, .chance 1 [0, 1] [1/2, 1/2] [.term 1 [0, 0], .term 2 [1, 1]] 0 none⟩

/-- the hypotheses of the second conjunct of `gambit_rejects` hold for it, so it is rejected as not
constant-sum -/
example : gambitRaw id ncsFile = .error .notConstantSum := by
  have ht : Tables.run ({} : Tables ℝ) ncsFile.root.visits =
      .ok ⟨{}, {}, [(1, (0, 0)), (2, (1, 1))]⟩ := by
    simp [ncsFile, Efg.visits, Efg.visitsL, Tables.run, Tables.step, Tables.insertOutcome,
      Tables.insertOptOutcome, toPair]
  refine (gambit_rejects id ncsFile rfl _ ht).2.1 [] [] [((1:ℝ), (1:ℝ)), (0, 0)] ?_ ?_ ?_ ?_
  · simp [PNames.resolve, hasDupName]
  · simp [PNames.resolve, hasDupName]
  · simp [ncsFile, Efg.leaves, Efg.leavesL, stepCum, assocFind, addPays]
  · norm_num [notConstantSum, pairSum, maxOf, minOf, fmax_eq_max, fmin_eq_min]

/-- two infosets of player one (numbers `1` and `2`) both named `6` -/
noncomputable def dupFile : EfgFile ℝ :=
  ⟨2, .player 1 1 (some 6) [4, 5]
      [.player 1 2 (some 6) [4, 5] [.term 1 [0, 0], .term 1 [0, 0]] 0 none, .term 1 [0, 0]] 0 none⟩

/-- the hypothesis of the first conjunct of `gambit_rejects` holds for it -/
example : ∃ e, gambitRaw id dupFile = .error e ∧
    (e = .duplicateInfosetName ∨ e = .numberNameClash) := by
  have ht : Tables.run ({} : Tables ℝ) dupFile.root.visits =
      .ok ⟨⟨[(2, 6), (1, 6)], [2, 1]⟩, {}, [(1, (0, 0)), (1, (0, 0)), (1, (0, 0))]⟩ := by
    simp [dupFile, Efg.visits, Efg.visitsL, Tables.run, Tables.step, Tables.insertOutcome,
      Tables.insertOptOutcome, toPair, PNames.note]
  exact (gambit_rejects id dupFile rfl _ ht).1 (Or.inl (by simp [hasDupName]))

/-- a three-player file: fourth conjunct of `cli_rejects` -/
example (env : Env) (sched : Sched ℝ) (draw : DrawFn ℝ) (o : CliOpts ℝ) (kind : InputKind) :
    cliMain env sched draw id o .gambit kind ⟨none, some ⟨3, .term 1 [0, 0, 0]⟩⟩
      = .error .playerCount :=
  (cli_rejects env sched draw id o .gambit kind ⟨none, some ⟨3, .term 1 [0, 0, 0]⟩⟩).2.2.2.1
    _ rfl rfl (by decide)

/-- a JSON tree with a player node without actions: fifth conjunct of `cli_rejects` -/
example (env : Env) (sched : Sched ℝ) (draw : DrawFn ℝ) (o : CliOpts ℝ) (kind : InputKind) :
    cliMain env sched draw id o .json kind ⟨some (.player true 1 [] []), none⟩
      = .error (.gameError .emptyPlayer) := by
  refine (cli_rejects env sched draw id o .json kind ⟨some (.player true 1 [] []), none⟩).2.2.2.2.1
    (.player true 1 [] []) 0 _ ?_ ?_
  · cases kind <;> simp [loadRaw, JState.toRaw, JState.toRawL, sortBy]
  · simp [fromRoot, compile]

/-- one decision of player one (unnamed infoset `1`, actions listed as `1`, `0`) over two
terminals with payoffs `(1, -1)` and `(-1, 1)` : constant sum `0` -/
noncomputable def okFile : EfgFile ℝ :=
  ⟨2, .player 1 1 none [1, 0] [.term 1 [1, -1], .term 2 [-1, 1]] 0 none⟩

noncomputable def okParsed : Parsed ℝ := ⟨none, some okFile⟩

theorem okParsed_shape : okParsed.ShapeOK := by
  constructor
  · intro s h; cases h
  · intro f h; cases h; simp [okFile, Efg.ShapeOK, Efg.ShapeOKL]

theorem okTables : Tables.run ({} : Tables ℝ) okFile.root.visits =
    .ok ⟨⟨[], [1]⟩, {}, [(1, (1, -1)), (2, (-1, 1))]⟩ := by
  simp [okFile, Efg.visits, Efg.visitsL, Tables.run, Tables.step, Tables.insertOutcome,
    Tables.insertOptOutcome, toPair, PNames.note]

/-- the reader sorts the actions and subtracts the offset -/
theorem okRaw : gambitRaw id okFile = .ok (.player true 1 [0, 1] [.term (-1), .term 1], 0) := by
  norm_num [gambitRaw, getGlobalInfo, okFile, Efg.visits, Efg.visitsL, Tables.run, Tables.step,
    Tables.insertOutcome, Tables.insertOptOutcome, toPair, PNames.note, PNames.resolve, hasDupName,
    Efg.leaves, Efg.leavesL, stepCum, assocFind, addPays, notConstantSum, constantSum, pairSum,
    maxOf, minOf, fmax_eq_max, fmin_eq_min, Efg.toRaw, Efg.toRawL, nodePayoff, sortBy, insertBy,
    actionLt]

theorem okLoad : loadRaw id .gambit .stdin okParsed =
    .ok (.player true 1 [0, 1] [.term (-1), .term 1], 0) := okRaw

/-- the third conjunct of `gambit_rejects` applies to it -/
example : ∃ n1 n2 ls, PNames.resolve id ⟨[], [1]⟩ = .ok n1 ∧ PNames.resolve id {} = .ok n2 ∧
    Efg.leaves [(1, ((1:ℝ), (-1:ℝ))), (2, (-1, 1))] okFile.root (0, 0) = .ok ls ∧
    notConstantSum ls = false ∧ (0 : ℝ) = constantSum ls :=
  (gambit_rejects id okFile rfl _ okTables).2.2 _ _ okRaw

noncomputable def okGame : Game ℝ :=
  ⟨[], [⟨1, [0, 1], none⟩], [], [], [], .player true 0 [.term (-1), .term 1]⟩

theorem okFromRoot : fromRoot (.player true 1 [0, 1] [.term (-1 : ℝ), .term 1]) = .ok okGame := by
  have hd : (List.eraseDupsBy (fun x1 x2 : Nat => x1 == x2) [0, 1]).length = 2 := by decide
  simp [fromRoot, compile, compileActions, registerPlayer, BState.infos, BState.singles,
    BState.setInfos, Prev.get, okGame, List.eraseDups, hd]

theorem okLoadGame : loadGame id .gambit .stdin okParsed = .ok (okGame, 0) := by
  rw [loadGame_eq, okLoad]
  simp [fromRootCli, okFromRoot]

theorem okAssemble (info : StrategiesInfo ℝ) (one two : Strat ℝ) :
    ∃ out, assemble okGame 0 info one two = .ok out := by
  obtain ⟨s1, h1⟩ : ∃ s, strategyOfNamed (asNamed okGame.p1 okGame.s1 one) = some s := by
    cases one <;> simp [strategyOfNamed, asNamed, okGame, hasDupNat]
  obtain ⟨s2, h2⟩ : ∃ s, strategyOfNamed (asNamed okGame.p2 okGame.s2 two) = some s := by
    simp [strategyOfNamed, asNamed, okGame, hasDupNat]
  unfold assemble
  rw [h1, h2]
  exact ⟨_, rfl⟩

/-- the hypothesis of `cli_ok_implies_valid_game` is satisfiable: with one thread the program
prints a result for this file, whatever the solver, the oracle and the remaining options -/
theorem okMain (env : Env) (sched : Sched ℝ) (draw : DrawFn ℝ) (o : CliOpts ℝ)
    (ho : o.parallel = 1) :
    ∃ out, cliMain env sched draw id o .gambit .stdin okParsed = .ok out := by
  obtain ⟨sol, hsol⟩ := one_thread_never_errors env sched okGame o.method o.iters o.maxRegret
    (some o.discount.intoParams) draw
  obtain ⟨out, hr⟩ : ∃ out, report okGame 0 o.clipThreshold sol.stratOne sol.stratTwo = .ok out :=
    CliP.ite_elim (motive := fun r : Except CliError (CliOut ℝ) => ∃ out, r = .ok out)
      (fun _ => okAssemble _ _ _) (fun _ => okAssemble _ _ _)
  exact ⟨out, CliP.cliMain_ok_iff.2 ⟨okGame, 0, sol, okLoadGame, ho ▸ hsol, hr⟩⟩

/-- … and its conclusion is about the tree and the game computed above -/
example (env : Env) (sched : Sched ℝ) (draw : DrawFn ℝ) (o : CliOpts ℝ) (ho : o.parallel = 1) :
    Valid (.player true 1 [0, 1] [.term (-1 : ℝ), .term 1]) ∧ GameWF okGame := by
  obtain ⟨out, h⟩ := okMain env sched draw o ho
  obtain ⟨raw, sum, g, h1, h2, h3, h4⟩ :=
    cli_ok_implies_valid_game env sched draw id o .gambit .stdin okParsed okParsed_shape out h
  rw [okLoad] at h1
  cases h1
  rw [okFromRoot] at h2
  cases h2
  exact ⟨h3, h4⟩

end C17
end Cfr
