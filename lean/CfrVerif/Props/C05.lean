import CfrVerif.Proofs.RealInst
import CfrVerif.Proofs.GameWF
import CfrVerif.Props.C06
import CfrVerif.Props.C07
import CfrVerif.Proofs.Fuel
import CfrVerif.Proofs.NoPanic
import CfrVerif.Proofs.WellFormed
import CfrVerif.Proofs.LocksWide
import CfrVerif.Proofs.LocksPerm
import CfrVerif.Proofs.LocksVanillaPerm
import CfrVerif.Proofs.LocksVanillaRun
--! audit CfrVerif/Proofs/LocksGeneric.lean
--! audit CfrVerif/Proofs/LocksTrace.lean
--! audit CfrVerif/Proofs/Locks.lean
--! audit CfrVerif/Proofs/LocksCheck.lean
--! audit CfrVerif/Proofs/LocksWide.lean
--! audit CfrVerif/Proofs/LocksPerm.lean
--! audit CfrVerif/Proofs/LocksVanilla.lean
--! audit CfrVerif/Proofs/LocksVanillaPerm.lean
--! audit CfrVerif/Proofs/LocksVanillaRun.lean
/-!
# C05 — every solve returns a well-formed strategy profile and never panics

Over exact arithmetic (`ℝ`, so that `exp`, `ln`, `powf` are the real functions; rounding,
overflow and NaN are outside the theorem and are sampled by the correspondence run):

* `gameSolve` (`Game::solve`) returns the thread-count error exactly in the two documented
  situations, and never with one thread; otherwise it returns a result.  The model is a total
  function: every traversal is a recursion over the tree that Lean accepts as terminating, and
  the frontier loops run on a fuel argument that they never exhaust (`frontier_loop_terminates_…`
  below), which is the "never hangs" of the model.
* every returned result is well formed: one probability vector per decision infoset, of the
  infoset's length, with non-negative entries summing to one; each per-player bound is a
  non-negative number, infinite exactly when no iteration ran — for every game `from_root`
  accepts (`GameWF`), every method, every parameter tuple `RegretParams::new` accepts, every
  budget (zero included), every threshold, every draw oracle (out-of-range draws included), every
  task target and every fair schedule.
* the two places where the crate would panic on a *logic* error are excluded by perfect recall:
  no infoset occurs twice on a root-to-leaf path (the `RefCell::borrow_mut` held across the
  recursion in `recurse_single`), and one external-sampling pass visits an infoset of the updating
  player at most once (`try_lock().unwrap()`; theorem `active_infoset_visited_once` of C07).
* "never … deadlocks": `Proofs/Locks.lean` (audited with this property) has the mutexes of the
  multi-threaded external-sampling solver as an interleaving model (`Model/Locks.lean`: blocking
  `lock()` for the draws, `try_lock().unwrap()` held across the recursion); on every accepted game,
  in every configuration any thread schedule can reach, some worker can move unless all are done,
  no `try_lock` finds its mutex held, every schedule has exactly as many steps as there are events,
  and at the end every mutex is free (`external_pool_never_deadlocks`,
  `external_workers_never_meet`).  The full / chance-sampled solvers use atomics for the regrets and one
  blocking `lock()` per average-strategy update and per chance draw with nothing acquired inside
  it: `Model/LocksVanilla.lean` has their traces (`vtrace`), `vanilla_pool_never_deadlocks` the same
  four statements for every split of the tree into tasks, `vtrace_draws_eq_vrec` that the trace is
  that of the traversal `vrec`, `vtrace_acqCount` that an infoset's mutex is taken once per visited
  node of the infoset, and `vanilla_multi_locks_eq_visits` that the frontier's tasks and the
  closing recursion together take it exactly that often, for every task target
  (`vanilla_multi_locks_eq_visits_run`: its hypothesis holds on every accepted game in every
  well-formed solver state; this count is compared with the crate's lock log on every short
  multi-threaded run).
-/
set_option linter.unusedSectionVars false
namespace Cfr

/-- what `RegretParams::new` accepts over exact arithmetic: a non-negative averaging exponent
(the other three fields may be any finite number or `±∞`) -/
def RegretParams.OK (p : RegretParams ℝ) : Prop := 0 ≤ p.strat

/-- over exact arithmetic nothing is NaN and `strat` is finite, so of the constructor's checks only
the sign test is left -/
theorem RegretParams.new?_eq (pos neg noPos : Ext ℝ) (strat : ℝ) :
    RegretParams.new? pos neg strat noPos =
      if 0 ≤ strat then some ⟨pos, neg, strat, noPos⟩ else none := by
  unfold RegretParams.new?
  extract_lets nan
  have hn : ∀ e, nan e = false := fun e => by cases e <;> rfl
  have hs : (decide (0 < strat) || strat == 0) = decide (0 ≤ strat) := by
    rw [Bool.eq_iff_iff, Bool.or_eq_true, decide_eq_true_iff, decide_eq_true_iff, beq_iff_eq,
      le_iff_lt_or_eq, eq_comm]
  simp only [hn, hs, isFinite_exact, Bool.or_false, Bool.false_eq_true, if_false, Bool.not_true,
    Bool.not_eq_true', decide_eq_false_iff_not, ite_not]

/-- the constructor accepts exactly those tuples, and stores them unchanged -/
theorem params_new_iff (pos neg noPos : Ext ℝ) (strat : ℝ) :
    (RegretParams.new? pos neg strat noPos = some ⟨pos, neg, strat, noPos⟩ ↔ 0 ≤ strat) ∧
    (RegretParams.new? pos neg strat noPos = none ↔ strat < 0) := by
  rw [RegretParams.new?_eq]
  by_cases h : 0 ≤ strat
  · simp [h]
  · simp [h, not_le.mp h]

/-- the five presets and the default are accepted tuples -/
theorem presets_ok :
    (RegretParams.vanilla : RegretParams ℝ).OK ∧ (RegretParams.lcfr : RegretParams ℝ).OK ∧
    (RegretParams.cfrPlus : RegretParams ℝ).OK ∧ (RegretParams.dcfr : RegretParams ℝ).OK ∧
    (RegretParams.dcfrPrune : RegretParams ℝ).OK ∧ (RegretParams.default : RegretParams ℝ).OK := by
  simp only [RegretParams.OK, RegretParams.vanilla, RegretParams.lcfr, RegretParams.cfrPlus,
    RegretParams.dcfr, RegretParams.dcfrPrune, RegretParams.default, two]
  norm_num

/-- a per-player bound after `iters` iterations: `+∞` exactly when no iteration ran, otherwise a
non-negative number -/
def BoundOK : Ext ℝ → Nat → Prop
  | .posInf, iters => iters = 0
  | .fin x, iters => 0 ≤ x ∧ 0 < iters
  | .negInf, _ => False

structure SolveOut.WellFormed (g : Game ℝ) (T : Nat) (o : SolveOut ℝ) : Prop where
  stratOne : IsStrat o.stratOne ∧ FitsGame g true o.stratOne
  stratTwo : IsStrat o.stratTwo ∧ FitsGame g false o.stratTwo
  boundOne : BoundOK o.regOne o.iters
  boundTwo : BoundOK o.regTwo o.iters
  budget : o.iters ≤ T
  ran : o.iters = 0 → T = 0

theorem BoundOK.fin (x : ℝ) (k : ℕ) (hx : 0 ≤ x) (hk : 0 < k) : BoundOK (.fin x) k := ⟨hx, hk⟩

theorem wellFormed_of_loop (g : Game ℝ) (T : ℕ) (step : IterFn ℝ) (thr : Option (Ext ℝ))
    (hstep : ∀ it s log, StOK g s →
      StOK g (step it s log).1 ∧ 0 ≤ (step it s log).2.1 ∧ 0 ≤ (step it s log).2.2.1)
    (h0 : StOK g (SolveSt.init g)) :
    (solveLoop step thr T 1 (SolveSt.init g) .posInf .posInf []).WellFormed g T := by
  obtain ⟨k, s', r1', r2', log', ⟨-, hs', b1, b2⟩, hk, hk0, ho⟩ := solveLoop_induct step thr
    (fun it s r1 r2 _ => 0 < it ∧ StOK g s ∧ BoundOK r1 (it - 1) ∧ BoundOK r2 (it - 1))
    (fun it s _ _ log h => ⟨it.succ_pos, (hstep it s log h.2.1).1,
      .fin _ _ (hstep it s log h.2.1).2.1 h.1, .fin _ _ (hstep it s log h.2.1).2.2 h.1⟩)
    T 1 _ .posInf .posInf [] ⟨Nat.one_pos, h0, rfl, rfl⟩
  rw [Nat.add_sub_cancel_left] at b1 b2 ho
  rw [ho]
  exact ⟨stOK_avg g s' hs' true, stOK_avg g s' hs' false, b1, b2, hk, hk0⟩

theorem vanilla_single_wellformed (g : Game ℝ) (hg : GameWF g) (sampled : Bool)
    (p : RegretParams ℝ) (hp : p.OK) (draw : DrawFn ℝ) (T : Nat) (thr : Option (Ext ℝ)) :
    (solveVanillaSingle g sampled p draw T thr).WellFormed g T := by
  unfold solveVanillaSingle solveWith
  exact wellFormed_of_loop g T _ thr (fun it s log hs => vanillaIter_ok g sampled p hp draw it s log hs)
    (stOK_init g hg)

theorem external_single_wellformed (g : Game ℝ) (hg : GameWF g)
    (p : RegretParams ℝ) (hp : p.OK) (draw : DrawFn ℝ) (T : Nat) (thr : Option (Ext ℝ)) :
    (solveExternalSingle g p draw T thr).WellFormed g T := by
  unfold solveExternalSingle solveWith
  exact wellFormed_of_loop g T _ thr (fun it s log hs => externalIter_ok g p hp draw it s log hs)
    (stOK_init g hg)

/-- well-formedness only looks at what `SolveOut.Same` preserves -/
theorem wellformed_of_same (g : Game ℝ) (T : Nat) (a b : SolveOut ℝ) (h : a.Same b)
    (hb : b.WellFormed g T) : a.WellFormed g T := by
  obtain ⟨h1, h2, h3, h4, h5, -⟩ := h
  exact ⟨h3 ▸ hb.stratOne, h4 ▸ hb.stratTwo, by rw [h1, h5]; exact hb.boundOne,
    by rw [h2, h5]; exact hb.boundTwo, h5 ▸ hb.budget, fun h0 => hb.ran (h5 ▸ h0)⟩

/-- the shape of the dispatch in `Game::solve`: only its second and third test return an error -/
theorem dispatch_error_iff {β : Type} (c1 c2 : Prop) [Decidable c1] [Decidable c2] (b : Bool)
    (x y : Except SolveError β) (hx : ∀ e, x ≠ .error e) (hy : ∀ e, y ≠ .error e) (e : SolveError) :
    (if c1 then x else if c2 then .error .threadOverflow else if (!b) = true then .error .threadSpawn
      else y) = .error e ↔
      ¬ c1 ∧ ((e = .threadOverflow ∧ c2) ∨ (e = .threadSpawn ∧ ¬ c2 ∧ b = false)) := by
  by_cases h1 : c1
  · simp [h1, hx]
  by_cases h2 : c2
  · simp [h1, h2, eq_comm]
  cases b <;> simp [h1, h2, hy, eq_comm]

/-- **the documented thread-count errors, and only those**: the result is an error exactly when
more than one thread is asked for and either the task target `3 * threads` does not fit a `usize`
(`ThreadOverflow`) or the pool cannot be built (`ThreadSpawnError`) -/
theorem solve_error_iff (env : Env) (sched : Sched ℝ) (g : Game ℝ) (m : Method) (T : Nat)
    (thr : Option (Ext ℝ)) (n : Nat) (params : Option (RegretParams ℝ)) (draw : DrawFn ℝ)
    (e : SolveError) :
    gameSolve env sched g m T thr n params draw = .error e ↔
      env.threads n ≠ 1 ∧
      ((e = .threadOverflow ∧ env.usizeMax < 3 * env.threads n) ∨
       (e = .threadSpawn ∧ 3 * env.threads n ≤ env.usizeMax ∧ env.spawnOk (env.threads n) = false)) := by
  rw [← not_lt (a := env.usizeMax)]
  refine dispatch_error_iff _ _ _ _ _ ?_ ?_ e <;> intro e' <;> cases m <;> exact fun h => nomatch h

theorem one_thread_never_errors (env : Env) (sched : Sched ℝ) (g : Game ℝ) (m : Method) (T : Nat)
    (thr : Option (Ext ℝ)) (params : Option (RegretParams ℝ)) (draw : DrawFn ℝ) :
    ∃ out, gameSolve env sched g m T thr 1 params draw = .ok out := by
  cases h : gameSolve env sched g m T thr 1 params draw with
  | ok out => exact ⟨out, rfl⟩
  | error e => exact absurd rfl ((solve_error_iff env sched g m T thr 1 params draw e).mp h).1

/-- **every solve that returns, returns a well-formed result**: through `Game::solve`, for every
accepted game, every method, every accepted parameter tuple (`none` = the default), every budget,
threshold, thread count, environment, draw oracle and fair schedule -/
theorem solve_wellformed (env : Env) (sched : Sched ℝ) (hs : sched.Fair) (g : Game ℝ)
    (hg : GameWF g) (m : Method) (T : Nat) (thr : Option (Ext ℝ)) (n : Nat)
    (params : Option (RegretParams ℝ)) (hp : ∀ p, params = some p → p.OK) (draw : DrawFn ℝ)
    (out : SolveOut ℝ) (h : gameSolve env sched g m T thr n params draw = .ok out) :
    out.WellFormed g T := by
  have hpo : (params.getD RegretParams.default).OK := by
    cases params with
    | none => exact presets_ok.2.2.2.2.2
    | some p => exact hp p rfl
  cases m with
  | full =>
    have := full_thread_count_invariant env sched hs g T thr n params draw out h
    rw [this]
    exact vanilla_single_wellformed g hg false _ hpo draw T thr
  | sampled =>
    have := sampled_thread_count_invariant env sched hs g hg .sampled (by decide) T thr n params draw out h
    exact wellformed_of_same g T _ _ this (vanilla_single_wellformed g hg true _ hpo draw T thr)
  | external =>
    have := sampled_thread_count_invariant env sched hs g hg .external (by decide) T thr n params draw out h
    exact wellformed_of_same g T _ _ this (external_single_wellformed g hg _ hpo draw T thr)

/-! ## the frontier loops terminate by their own exit condition

The model runs the `while` loops of `thread_threshold` (and `next_nodes`) on a fuel argument.  With
the fuel the solvers pass, additional fuel changes nothing: the loops have already left through
their exit condition, for every tree, target, strategy table and draw oracle — so the totality
of the model does not hide a loop that never ends (`Proofs/Fuel.lean`). -/

theorem frontier_loop_terminates_vanilla (g : Game ℝ) (c : VCtx ℝ) (target extra : Nat) (d : DrawSt ℝ) :
    vThreshold c target (2 * g.root.size + 2 + extra) [⟨[], g.root, 1, 1, 1⟩] [] d
      = vThreshold c target (2 * g.root.size + 2) [⟨[], g.root, 1, 1, 1⟩] [] d :=
  vThreshold_fuel_enough g c target extra d

theorem frontier_loop_terminates_external (g : Game ℝ) (c : ECtx ℝ) (target extra : Nat) (d : DrawSt ℝ) :
    eThreshold c target g.root.size (2 * g.root.size + 2 + extra) [⟨[], g.root⟩] [] d
      = eThreshold c target g.root.size (2 * g.root.size + 2) [⟨[], g.root⟩] [] d :=
  eThreshold_fuel_enough g c target extra d

theorem next_nodes_terminates (c : ECtx ℝ) (n : Node ℝ) (path : Path) (extra : Nat) (d : DrawSt ℝ) :
    eNextNodes c (n.size + extra) n path d = eNextNodes c n.size n path d :=
  eNextNodes_fuel_enough c n path extra d

/-! `NoRepeat` and `wf_no_infoset_twice_on_path` live in `Proofs/NoRepeat.lean`; the traversals
with their panics as values (`Model/Checked.lean`) never take the panic branch on an accepted
game (`Proofs/NoPanic.lean`): -/

/-- **`recurse_single` never panics**: no chance or player index is out of bounds and no infoset's
`RefCell` is borrowed twice, for every strategy table, reach, draw oracle and sample cache -/
theorem vanilla_traversal_never_panics (g : Game ℝ) (hg : GameWF g) (c : VCtx ℝ) (pc p1 p2 : ℝ)
    (d : DrawSt ℝ) : vrecK g.sizes c [] g.root pc p1 p2 d = some (vrec c g.root pc p1 p2 d) :=
  vrec_never_panics g hg c pc p1 p2 d

/-- **`recurse_regret` never panics** (single-threaded external sampling; for the multi-threaded
one `try_lock` cannot fail by C07's `active_infoset_visited_once`) -/
theorem external_traversal_never_panics (g : Game ℝ) (hg : GameWF g) (c : ECtx ℝ) (d : DrawSt ℝ) :
    erecK g.sizes c [] g.root d = some (erec c g.root d) :=
  erec_never_panics g hg c d


/-! ## non-vacuity: the hypotheses are satisfiable, the conclusions are not trivially true -/

example : BoundOK (.fin 0) 1 ∧ BoundOK (.fin (1 / 2)) 3 ∧ BoundOK .posInf 0 ∧
    ¬ BoundOK .posInf 1 ∧ ¬ BoundOK (.fin 0) 0 ∧ ¬ BoundOK (.fin (-1)) 1 ∧ ¬ BoundOK .negInf 0 :=
  ⟨⟨le_rfl, Nat.one_pos⟩, ⟨one_half_pos.le, Nat.succ_pos 2⟩, rfl, Nat.one_ne_zero,
    fun h => Nat.lt_irrefl 0 h.2, fun h => not_le.mpr neg_one_lt_zero h.1, id⟩

example : (⟨.fin 1, .negInf, 3 / 2, .fin (-1)⟩ : RegretParams ℝ).OK ∧
    ¬ (⟨.fin 1, .negInf, -1, .fin (-1)⟩ : RegretParams ℝ).OK := by
  simp only [RegretParams.OK]; norm_num

/-- a coin flip, then matching pennies (player two does not see player one's move) or a draw -/
noncomputable def C05.tinyGame : Game ℝ :=
  ⟨[[1 / 2, 1 / 2]], [⟨0, [0, 1], none⟩], [⟨0, [0, 1], none⟩], [], [],
    .chance 0 [.player true 0 [.player false 0 [.term 1, .term (-1)],
                               .player false 0 [.term (-1), .term 1]], .term 0]⟩

theorem C05.tinyGame_tables : TablesWF [⟨0, [0, 1], none⟩] [] :=
  ⟨by decide, by decide, by decide, by decide⟩

theorem C05.tinyGame_wf : GameWF C05.tinyGame where
  chancePos := by
    intro ps hps
    simp only [C05.tinyGame, List.mem_singleton] at hps
    subst hps
    constructor
    · intro p hp
      simp only [List.mem_cons, List.not_mem_nil, or_false, or_self] at hp
      subst hp; norm_num
    · norm_num
  nodes :=
    -- at every interior node: its infoset with the right arity, two children, the children
    have leaf : ∀ a b : ℝ, NodeOK C05.tinyGame (.player false 0 [.term a, .term b]) := fun _ _ =>
      ⟨⟨_, rfl, rfl⟩, le_rfl, trivial, trivial, trivial⟩
    ⟨⟨_, rfl, rfl⟩, le_rfl, ⟨⟨_, rfl, rfl⟩, le_rfl, leaf _ _, leaf _ _, trivial⟩, trivial, trivial⟩
  recall := by
    intro me
    refine ⟨fun _ => [], ?_, by simp⟩
    cases me <;> simp [C05.tinyGame, PR, PRL, PRD]
  tables1 := C05.tinyGame_tables
  tables2 := C05.tinyGame_tables
  actsTwo := by
    intro me e he
    cases me <;> simp only [C05.tinyGame, Game.infos, if_true, Bool.false_eq_true, if_false,
      List.mem_singleton] at he <;> subst he <;> simp

/-- the theorems apply to a concrete game (here with the presets `dcfr` and `cfrPlus`), for any
oracle, budget and threshold -/
example (draw : DrawFn ℝ) (T : ℕ) (thr : Option (Ext ℝ)) :
    (solveVanillaSingle C05.tinyGame true RegretParams.dcfr draw T thr).WellFormed C05.tinyGame T ∧
    (solveExternalSingle C05.tinyGame RegretParams.cfrPlus draw T thr).WellFormed C05.tinyGame T ∧
    NoRepeat [] C05.tinyGame.root :=
  ⟨vanilla_single_wellformed _ C05.tinyGame_wf _ _ presets_ok.2.2.2.1 _ _ _,
    external_single_wellformed _ C05.tinyGame_wf _ presets_ok.2.2.1 _ _ _,
    wf_no_infoset_twice_on_path _ C05.tinyGame_wf⟩

/-- `NoRepeat` is not trivially true: a path through the same infoset twice violates it -/
example : ¬ NoRepeat [] (.player true 0 [.player true 0 [.term 0, .term 0], .term (0 : ℝ)]) :=
  fun h => h.2.1.1 List.mem_cons_self

end Cfr
