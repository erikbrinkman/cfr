import CfrVerif.Proofs.PresetFinal
import CfrVerif.Props.C09
/-!
# C03 — the unsampled solve converges to equilibrium at the CFR rate on every game

For every well-formed game (`GameWF`: what `from_root` guarantees) with payoffs in `[lo, hi]`
(`D = hi − lo`), `N` decision infosets in total and at most `A` actions per infoset (with `2 ≤ A`
for the second sentence):

* **first sentence** (`Proofs/RateProps.lean`, `Proofs/Rate*.lean`): with vanilla parameters, after
  `t` iterations actually run each player's returned bound is at most `2·D·n_p·√A/√t`
  (`n_p ≤ N` the player's own infosets) — every budget, threshold, task target, fair schedule;
* **second sentence** (`Proofs/PresetFinal.lean`, `PresetGame*.lean`, `PresetScalar*.lean`): with
  every documented preset (vanilla, LCFR, CFR+, DCFR, DCFR-prune) the true regret of the profile
  returned after `T` iterations is at most `6·D·N·(√A + 1/√T)/√T` — every thread count;
* in particular the regret tends to zero as the budget grows, for every game and every preset.

The discounted presets go through a weighted version of the C02 chain (the traversal adds the
instantaneous counterfactual regrets; performance difference regrouped by infoset; the returned
average strategy is realisation-equivalent to the `t^γ`-weighted mixture of the iterates; zero-sum
sandwich) down to one regret-matching trace per infoset (`RMTrace`), and an Abel summation of the
`t^γ`-weighted regrets against the stored, discounted cumulative regrets whose positive part the
potential argument keeps below `D·√(A·t)`.
-/
set_option linter.unusedSectionVars false
namespace Cfr

/-- first sentence: the vanilla bounds obey the CFR rate (single thread; `RateOK D n A t (.fin b)`
is `b ≤ 2·D·n·√A/√t`) -/
theorem c03_vanilla_bounds (g : Game ℝ) (hg : GameWF g) (lo hi : ℝ) (hpay : PayIn lo hi g.root)
    (A : Nat) (hA : ActsLe g A) (draw : DrawFn ℝ) (T : Nat) (thr : Option (Ext ℝ)) :
    RateOK (hi - lo) g.p1.length A (solveVanillaSingle g false RegretParams.vanilla draw T thr).iters
      (solveVanillaSingle g false RegretParams.vanilla draw T thr).regOne ∧
    RateOK (hi - lo) g.p2.length A (solveVanillaSingle g false RegretParams.vanilla draw T thr).iters
      (solveVanillaSingle g false RegretParams.vanilla draw T thr).regTwo :=
  full_vanilla_rate g hg lo hi hpay A hA draw T thr

theorem c03_vanilla_bounds_multi (sched : Sched ℝ) (hs : sched.Fair) (g : Game ℝ) (hg : GameWF g)
    (lo hi : ℝ) (hpay : PayIn lo hi g.root) (A : Nat) (hA : ActsLe g A) (draw : DrawFn ℝ) (T : Nat)
    (thr : Option (Ext ℝ)) (target : Nat) :
    RateOK (hi - lo) g.p1.length A
      (solveVanillaMultiS sched g false RegretParams.vanilla draw T thr target).iters
      (solveVanillaMultiS sched g false RegretParams.vanilla draw T thr target).regOne ∧
    RateOK (hi - lo) g.p2.length A
      (solveVanillaMultiS sched g false RegretParams.vanilla draw T thr target).iters
      (solveVanillaMultiS sched g false RegretParams.vanilla draw T thr target).regTwo :=
  full_vanilla_rate_multi sched hs g hg lo hi hpay A hA draw T thr target

/-- `n_p ≤ N`: the property's own constant -/
theorem c03_bound_in_total_infosets (D : ℝ) (hD : 0 ≤ D) (n N A iters : Nat) (hn : n ≤ N) (b : ℝ)
    (h : RateOK D n A iters (.fin b)) : b ≤ 2 * D * N * Real.sqrt A / Real.sqrt iters :=
  rateOK_total D hD n N A iters hn b h

/-- **second sentence: every documented preset** -/
theorem c03_preset_regret (g : Game ℝ) (hg : GameWF g) (lo hi : ℝ) (hpay : PayIn lo hi g.root)
    (A : Nat) (hA : ActsLe g A) (hA2 : 2 ≤ A) (p : RegretParams ℝ)
    (hp : p = RegretParams.vanilla ∨ IsDiscountedPreset p) (draw : DrawFn ℝ) (T : Nat) (hT : 0 < T) :
    (getInfo g (solveVanillaSingle g false p draw T none).profile).regret
      ≤ 6 * (hi - lo) * ((g.p1.length + g.p2.length : Nat) : ℝ)
          * (Real.sqrt A + 1 / Real.sqrt T) / Real.sqrt T :=
  full_preset_rate g hg lo hi hpay A hA hA2 p hp draw T hT

theorem c03_preset_regret_multi (sched : Sched ℝ) (hs : sched.Fair) (g : Game ℝ) (hg : GameWF g)
    (lo hi : ℝ) (hpay : PayIn lo hi g.root) (A : Nat) (hA : ActsLe g A) (hA2 : 2 ≤ A)
    (p : RegretParams ℝ) (hp : p = RegretParams.vanilla ∨ IsDiscountedPreset p) (draw : DrawFn ℝ)
    (T : Nat) (hT : 0 < T) (target : Nat) :
    (getInfo g (solveVanillaMultiS sched g false p draw T none target).profile).regret
      ≤ 6 * (hi - lo) * ((g.p1.length + g.p2.length : Nat) : ℝ)
          * (Real.sqrt A + 1 / Real.sqrt T) / Real.sqrt T :=
  full_preset_rate_multi sched hs g hg lo hi hpay A hA hA2 p hp draw T hT target

/-- **regret tends to zero as the budget grows, on every game, with every preset** -/
theorem c03_regret_tendsto_zero (g : Game ℝ) (hg : GameWF g) (lo hi : ℝ)
    (hpay : PayIn lo hi g.root) (A : Nat) (hA : ActsLe g A) (hA2 : 2 ≤ A) (p : RegretParams ℝ)
    (hp : p = RegretParams.vanilla ∨ IsDiscountedPreset p) (draw : DrawFn ℝ) :
    ∀ ε : ℝ, 0 < ε → ∃ T0 : Nat, ∀ T : Nat, T0 ≤ T →
      (getInfo g (solveVanillaSingle g false p draw T none).profile).regret ≤ ε :=
  full_preset_regret_tendsto_zero g hg lo hi hpay A hA hA2 p hp draw

/-- the vanilla regret rate without the envelope slack: `2·D·N·√A/√T` -/
theorem c03_vanilla_regret (g : Game ℝ) (hg : GameWF g) (lo hi : ℝ) (hD : lo ≤ hi)
    (hpay : PayIn lo hi g.root) (A : Nat) (hA : ActsLe g A) (draw : DrawFn ℝ) (T : Nat) (hT : 0 < T) :
    (getInfo g (solveVanillaSingle g false RegretParams.vanilla draw T none).profile).regret
      ≤ 2 * (hi - lo) * ((g.p1.length + g.p2.length : Nat) : ℝ) * Real.sqrt A / Real.sqrt T :=
  full_vanilla_regret_rate g hg lo hi hD hpay A hA draw T hT

/-! ## the second sentence with early termination

A run with a regret threshold is the run without one whose budget is the number of iterations
actually made (C09), so the rate holds at that number — for every threshold (NaN, `±∞`, finite)
and every budget. -/

/-- **every preset, every threshold**: the true regret of the returned profile obeys the rate at
the number `t` of iterations the run actually made (`t ≥ 1`) -/
theorem c03_preset_regret_threshold (g : Game ℝ) (hg : GameWF g) (lo hi : ℝ)
    (hpay : PayIn lo hi g.root) (A : Nat) (hA : ActsLe g A) (hA2 : 2 ≤ A) (p : RegretParams ℝ)
    (hp : p = RegretParams.vanilla ∨ IsDiscountedPreset p) (draw : DrawFn ℝ) (T : Nat)
    (thr : Option (Ext ℝ)) (hrun : 0 < (solveVanillaSingle g false p draw T thr).iters) :
    (getInfo g (solveVanillaSingle g false p draw T thr).profile).regret
      ≤ 6 * (hi - lo) * ((g.p1.length + g.p2.length : Nat) : ℝ)
          * (Real.sqrt A + 1 / Real.sqrt ((solveVanillaSingle g false p draw T thr).iters : ℕ))
          / Real.sqrt ((solveVanillaSingle g false p draw T thr).iters : ℕ) := by
  obtain ⟨N, hN⟩ : ∃ N, solveVanillaSingle g false p draw T thr
      = solveWith g (vanillaIter g false p draw) N none := ⟨_, solveWith_threshold_eq_prefix g _ T thr⟩
  rw [hN, solveWith_none_iters g _ N] at hrun ⊢
  exact c03_preset_regret g hg lo hi hpay A hA hA2 p hp draw N hrun

theorem c03_preset_regret_threshold_multi (sched : Sched ℝ) (hs : sched.Fair) (g : Game ℝ)
    (hg : GameWF g) (lo hi : ℝ) (hpay : PayIn lo hi g.root) (A : Nat) (hA : ActsLe g A)
    (hA2 : 2 ≤ A) (p : RegretParams ℝ) (hp : p = RegretParams.vanilla ∨ IsDiscountedPreset p)
    (draw : DrawFn ℝ) (T : Nat) (thr : Option (Ext ℝ)) (target : Nat)
    (hrun : 0 < (solveVanillaMultiS sched g false p draw T thr target).iters) :
    (getInfo g (solveVanillaMultiS sched g false p draw T thr target).profile).regret
      ≤ 6 * (hi - lo) * ((g.p1.length + g.p2.length : Nat) : ℝ)
          * (Real.sqrt A + 1 / Real.sqrt ((solveVanillaMultiS sched g false p draw T thr target).iters : ℕ))
          / Real.sqrt ((solveVanillaMultiS sched g false p draw T thr target).iters : ℕ) := by
  obtain ⟨N, hN⟩ : ∃ N, solveVanillaMultiS sched g false p draw T thr target
      = solveWith g (vanillaMultiIterS sched g false p draw target) N none :=
    ⟨_, solveWith_threshold_eq_prefix g _ T thr⟩
  rw [hN, solveWith_none_iters g _ N] at hrun ⊢
  exact c03_preset_regret_multi sched hs g hg lo hi hpay A hA hA2 p hp draw N hrun target

end Cfr
