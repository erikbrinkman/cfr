import CfrVerif.Proofs.CliSem
import CfrVerif.Proofs.CliLemmas
import CfrVerif.Proofs.CliGambit
import CfrVerif.Props.C01
/-!
# C15 — the output of the command-line program is faithful to the game in the input file

`cliMain` (`Model/Cli.lean`) is `main` from the parsed AST on.  Whenever it succeeds:

* the printed strategies are valid behavioural strategies over the game's infoset and action
  names: every infoset of the player exactly once, positive probabilities only, summing to one;
* the printed numbers are the evaluation (`getInfo`, exact by C01) of exactly the printed
  profile on the game that was read, utilities shifted by the constant-sum offset; the total regret
  is the larger player regret;
* for a Gambit file that is exactly constant-sum `K`, the printed utilities are each player's
  expected **own payoffs as written in the file** (all outcomes met on the path) under the printed
  profile, and add up to `K`.
-/
set_option linter.unusedSectionVars false
namespace Cfr

/-- a printed strategy is a valid behavioural strategy over the names of the game: the keys are
exactly the player's infosets (multi-action, then single-action), each once; each entry lists
actions of that infoset with positive probabilities summing to one -/
def PrintedValid (infos : List PInfo) (singles : List (Nat × Nat)) (n : Named ℝ) : Prop :=
  n.map (·.1) = infos.map (·.label) ++ singles.map (·.1) ∧ (n.map (·.1)).Nodup ∧
  ∀ e ∈ n, (∀ a ∈ e.2, 0 < a.2) ∧ (e.2.map (·.2)).sum = 1 ∧
    (∀ a ∈ e.2, (∃ i ∈ infos, i.label = e.1 ∧ a.1 ∈ i.actions) ∨ (e.1, a.1) ∈ singles)

theorem CliP.asNamed_valid (infos : List PInfo) (singles : List (Nat × Nat)) (σ : Strat ℝ)
    (hw : TablesWF infos singles) (hf : Fits infos σ) (hσ : IsStrat σ) :
    PrintedValid infos singles (asNamed infos singles σ) := by
  refine ⟨asNamed_keys infos singles σ hf, asNamed_keys_nodup infos singles σ hw hf, ?_⟩
  intro e he
  unfold asNamed at he
  rcases List.mem_append.mp he with he | he
  · obtain ⟨⟨i, v⟩, hiv, rfl⟩ := List.mem_map.mp he
    obtain ⟨k, hk⟩ := List.mem_iff_getElem?.mp hiv
    obtain ⟨hi, hv⟩ := List.getElem?_zip_eq_some.mp hk
    refine ⟨?_, (asNamed_multi infos singles σ hf hσ k i v hi hv).2, ?_⟩
    · intro a ha
      simp only [ActIter.toList, List.mem_filter, decide_eq_true_eq] at ha
      exact ha.2
    · intro a ha
      simp only [ActIter.toList, List.mem_filter] at ha
      obtain ⟨a1, a2⟩ := a
      exact Or.inl ⟨i, (List.of_mem_zip hiv).1, rfl, (List.of_mem_zip ha.1).1⟩
  · obtain ⟨⟨l, a⟩, hla, rfl⟩ := List.mem_map.mp he
    refine ⟨?_, by simp, ?_⟩
    · intro b hb
      simp only [List.mem_singleton] at hb
      subst hb
      exact zero_lt_one
    · intro b hb
      simp only [List.mem_singleton] at hb
      subst hb
      exact Or.inr hla

/-- **printed strategies are valid**, whatever the options, method, thread count, schedule, draws -/
theorem cli_strategies_valid (env : Env) (sched : Sched ℝ) (hs : sched.Fair) (draw : DrawFn ℝ)
    (numName : Nat → Nat) (o : CliOpts ℝ) (fmt : InputFormat) (kind : InputKind) (p : Parsed ℝ)
    (hshape : p.ShapeOK) (out : CliOut ℝ)
    (h : cliMain env sched draw numName o fmt kind p = .ok out) :
    ∃ g sum, loadGame numName fmt kind p = .ok (g, sum) ∧
      PrintedValid g.p1 g.s1 out.playerOneStrategy ∧ PrintedValid g.p2 g.s2 out.playerTwoStrategy := by
  have _ := hshape
  obtain ⟨g, sum, one, two, hl, hg, ⟨hs1, hf1⟩, ⟨hs2, hf2⟩, ha⟩ := CliP.cliMain_printed hs h
  obtain ⟨s1, s2, e1, e2, rfl⟩ := CliP.assemble_ok ha
  have v1 := CliP.asNamed_valid g.p1 g.s1 one hg.tables1 hf1 hs1
  have v2 := CliP.asNamed_valid g.p2 g.s2 two hg.tables2 hf2 hs2
  rw [CliP.strategyOfNamed_asNamed _ _ _ v1.2.1] at e1
  rw [CliP.strategyOfNamed_asNamed _ _ _ v2.2.1] at e2
  cases e1
  cases e2
  exact ⟨g, sum, hl, v1, v2⟩

/-- **printed numbers are the evaluation of the printed profile**: there is a valid profile `σ`
of the game that was read whose named view (zero-probability actions dropped) is what is printed
and whose `getInfo` gives the printed regrets and, shifted by the offset, the printed utilities;
the total regret is the larger of the two -/
theorem cli_numbers_are_evaluation (env : Env) (sched : Sched ℝ) (hs : sched.Fair) (draw : DrawFn ℝ)
    (numName : Nat → Nat) (o : CliOpts ℝ) (fmt : InputFormat) (kind : InputKind) (p : Parsed ℝ)
    (hshape : p.ShapeOK) (out : CliOut ℝ)
    (h : cliMain env sched draw numName o fmt kind p = .ok out) :
    ∃ g sum σ, loadGame numName fmt kind p = .ok (g, sum) ∧ GameWF g ∧ ProfileOK g σ ∧
      strategyOfNamed (asNamed g.p1 g.s1 (σ true)) = some out.playerOneStrategy ∧
      strategyOfNamed (asNamed g.p2 g.s2 (σ false)) = some out.playerTwoStrategy ∧
      out.playerOneUtility = (getInfo g σ).util + sum ∧
      out.playerTwoUtility = -(getInfo g σ).util + sum ∧
      out.playerOneRegret = (getInfo g σ).regretOne ∧
      out.playerTwoRegret = (getInfo g σ).regretTwo ∧
      out.regret = max out.playerOneRegret out.playerTwoRegret ∧
      out.playerOneUtility + out.playerTwoUtility = 2 * sum := by
  have _ := hshape
  obtain ⟨g, sum, one, two, hl, hg, ⟨hs1, hf1⟩, ⟨hs2, hf2⟩, ha⟩ := CliP.cliMain_printed hs h
  obtain ⟨s1, s2, e1, e2, rfl⟩ := CliP.assemble_ok ha
  refine ⟨g, sum, fun p => if p then one else two, hl, hg, ?_, e1, e2, ?_, ?_, ?_, ?_, ?_, ?_⟩
  · intro me
    cases me
    · exact ⟨hs2, hf2⟩
    · exact ⟨hs1, hf1⟩
  · simp only [StrategiesInfo.playerUtility, if_true]
  · simp only [StrategiesInfo.playerUtility, Bool.false_eq_true, if_false]
  · simp only [StrategiesInfo.playerRegret, if_true]
  · simp only [StrategiesInfo.playerRegret, Bool.false_eq_true, if_false]
  · simp only [StrategiesInfo.regret, StrategiesInfo.playerRegret, if_true, Bool.false_eq_true,
      if_false, fmax_eq_max]
  · simp only [StrategiesInfo.playerUtility, if_true, Bool.false_eq_true, if_false]
    ring

/-- **the game exactly as written in the file**: for a Gambit file that is exactly constant-sum
`K`, the tree handed to `from_root` pays, under every behavioural profile `ρ` of that tree, player
one's expected own file payoff minus `K/2`; and player two's expected own file payoff is `K` minus
player one's.  Hence (with `cli_numbers_are_evaluation` and `compile_expected`) the printed
utilities are the players' expected own payoffs and add up to `K`.

**The hypothesis `hfile : f.root.FileOK`** (`Proofs/CliLemmas.lean`): no terminal carries the null
outcome `0`, and the probabilities of no chance node add up to zero.  Both are guaranteed by
`gambit_parser`'s `validate` (`NullOutcomePayoffs`; `ChanceNotDistribution`: they add up to one) but
are not visible in the AST, and without either the statement is false:
* `⟨2, .chance 1 [] [] [] 0 none⟩` (a chance node without children; `probs.sum = 0`) converts with
  `sum = 0` and no terminal, so it is exactly constant-sum `K` for every `K`, e.g. `K = 2 ≠ 2 * sum`;
  likewise `.chance 1 [0, 1] [1, -1] [.term 1 [1, 1], .term 1 [1, 1]] 0 none` (total weight `0`,
  every expectation is `0`, `K = 2`);
* `⟨2, .term 0 [1, 1]⟩` : the conversion reads the payoffs `(1, 1)` stored under the outcome
  number `0` (`sum = 1`, converted payoff `0`), whereas `efgEV` gives the null outcome no payoff
  (`efgEV … true = 0 ≠ 0 + K / 2`). -/
theorem gambit_file_semantics (numName : Nat → Nat) (f : EfgFile ℝ) (hshape : f.root.ShapeOK)
    (hfile : f.root.FileOK)
    (t : Tables ℝ) (n1 n2 : List (Nat × Nat)) (raw : Raw ℝ) (sum K : ℝ)
    (ht : Tables.run ({} : Tables ℝ) f.root.visits = .ok t)
    (h1 : t.one.resolve numName = .ok n1) (h2 : t.two.resolve numName = .ok n2)
    (hraw : gambitRaw numName f = .ok (raw, sum))
    (hK : ExactConstantSum t.outcomes f.root K)
    (ρ : LProfile ℝ) (hρ : LValidOn ρ raw) :
    sum = K / 2 ∧
    rawEV ρ raw = efgEV t.outcomes (fun o => if o then n1 else n2) ρ true f.root 0 - K / 2 ∧
    efgEV t.outcomes (fun o => if o then n1 else n2) ρ false f.root 0
      = K - efgEV t.outcomes (fun o => if o then n1 else n2) ρ true f.root 0 :=
  CliP.gambit_semantics numName f hshape hfile t n1 n2 raw sum K ht h1 h2 hraw hK ρ hρ

/-- the one-node JSON game `{"terminal": x}` loads -/
theorem C15.load_json_terminal (numName : Nat → Nat) (x : ℝ) :
    loadGame numName .json .stdin ⟨some (.terminal x), none⟩
      = .ok (⟨[], [], [], [], [], .term x⟩, 0) := by
  simp [loadGame, jsonFromReader, jsonFromState, JState.toRaw, fromRootCli, fromRoot, compile]

/-- the crate's own test file `EFG 2 R "" { "" "" } t "" 2 { 1 1 }` converts to one terminal paying
`1 - 1`, with offset `1` -/
theorem C15.gambitRaw_terminal :
    gambitRaw id ⟨2, .term 2 [1, 1]⟩ = .ok (.term (0 : ℝ), 1) := by
  simp [gambitRaw, getGlobalInfo, Efg.visits, Tables.run, Tables.step, Tables.insertOutcome,
    toPair, PNames.resolve, hasDupName, Efg.leaves, assocFind, addPays, pairSum, notConstantSum,
    constantSum, minOf, maxOf, Efg.toRaw]

/-- … and loads through the `.efg` route -/
theorem C15.load_gambit_terminal :
    loadGame id .auto .dotEfg ⟨none, some ⟨2, .term 2 [1, 1]⟩⟩
      = .ok (⟨[], [], [], [], [], .term (0 : ℝ)⟩, 1) := by
  simp [loadGame, gambitFromReader, gambitFromAst, C15.gambitRaw_terminal, fromRootCli, fromRoot,
    compile]

/-- the hypothesis `cliMain … = .ok out` of the first two theorems is satisfiable: with one thread
the program prints a result on these inputs for every method, preset, budget, threshold, clip
threshold and draw oracle (`one_thread_never_errors`; the output assertion never fires,
`CliP.cliMain_succeeds`) -/
example (env : Env) (sched : Sched ℝ) (hs : sched.Fair) (draw : DrawFn ℝ) (clip : ℝ)
    (thr : Option (Ext ℝ)) (T : Nat) (m : Method) (d : Discount) (x : ℝ) :
    (∃ out, cliMain env sched draw id ⟨clip, thr, T, 1, m, d⟩ .json .stdin
      ⟨some (.terminal x), none⟩ = .ok out) ∧
    (∃ out, cliMain env sched draw id ⟨clip, thr, T, 1, m, d⟩ .auto .dotEfg
      ⟨none, some ⟨2, .term 2 [1, 1]⟩⟩ = .ok out) := by
  constructor
  · obtain ⟨sol, hsol⟩ := one_thread_never_errors env sched ⟨[], [], [], [], [], .term x⟩ m
      (CliOpts.iters ⟨clip, thr, T, 1, m, d⟩) thr (some d.intoParams) draw
    exact CliP.cliMain_succeeds hs (C15.load_json_terminal id x) hsol
  · obtain ⟨sol, hsol⟩ := one_thread_never_errors env sched ⟨[], [], [], [], [], .term 0⟩ m
      (CliOpts.iters ⟨clip, thr, T, 1, m, d⟩) thr (some d.intoParams) draw
    exact CliP.cliMain_succeeds hs C15.load_gambit_terminal hsol

example : Parsed.ShapeOK (⟨some (.terminal 1), some ⟨2, .term 2 [1, 1]⟩⟩ : Parsed ℝ) := by
  constructor
  · intro s hs
    cases hs
    simp [JState.ShapeOK]
  · intro f hf
    cases hf
    simp [Efg.ShapeOK]

/-- the hypotheses of `gambit_file_semantics` hold (over `ℝ`) for the crate's test file, constant
sum `K = 2`; for a file with an interior outcome, unsorted actions and three infosets see
`Proofs/CliDemo.lean` (over `ℚ`, by evaluation, through `CliP.gambit_semantics`, the same theorem at
every ordered field), where the two facts of `Efg.FileOK` are also shown to be needed -/
example (ρ : LProfile ℝ) :
    (1 : ℝ) = 2 / 2 ∧
    rawEV ρ (.term (0 : ℝ))
      = efgEV [(2, ((1 : ℝ), (1 : ℝ)))] (fun o => if o then [] else []) ρ true (.term 2 [1, 1]) 0
        - 2 / 2 ∧
    efgEV [(2, ((1 : ℝ), (1 : ℝ)))] (fun o => if o then [] else []) ρ false (.term 2 [1, 1]) 0
      = 2 - efgEV [(2, ((1 : ℝ), (1 : ℝ)))] (fun o => if o then [] else []) ρ true
          (.term 2 [1, 1]) 0 := by
  refine gambit_file_semantics id ⟨2, .term 2 [1, 1]⟩ (by simp [Efg.ShapeOK]) (by simp [Efg.FileOK])
    ⟨{}, {}, [(2, (1, 1))]⟩ [] [] (.term 0) 1 2 rfl rfl rfl ?_ ?_ ρ (by simp [LValidOn])
  · exact C15.gambitRaw_terminal
  · intro ls hls
    simp only [Efg.leaves, assocFind, List.find?_cons, beq_self_eq_true, Option.map_some,
      isFinite_exact, if_true, Except.ok.injEq] at hls
    subst hls
    simp [addPays]
    norm_num

end Cfr
