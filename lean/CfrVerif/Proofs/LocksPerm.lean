import CfrVerif.Proofs.LocksTrace
/-!
# The pool's tasks and the closing recursion together do what one plain traversal does

The harness compares the mutex operations observed in the crate during one pass (all worker
threads together) with the events of the model's *plain* traversal `etrace c g.root`, as a
multiset.  This file shows that the comparison target is the right one: for every accepted game,
pass context, task target and draw oracle, the events of the tasks handed to the pool
(`externalPoolTraces`, the object of `external_workers_never_meet`) together with those of the
closing recursion (`externalClosingTrace`) are a permutation of the events of `etrace c g.root`
— however the frontier splits the sampled tree.

The proof replays the frontier decomposition of the effects (`Proofs/FrontierExt.lean`)
with `List LEv` in place of `List (EEv α)`: `ptrC` is the mutex trace with the oracle's answers
substituted (no draw state), `etraceC_pure` says that under a consistent draw state the model's
`etraceC` produces exactly `ptrC`, `ptrC_add_item(s)` is the cut lemma, and the frontier is a cut
by `eThreshold_spec`.

**Arity hypothesis.**  `eNextNodes` hands *all* children of a node of the updating player to the
frontier whereas the traversal visits the children zipped with the strategy vector.  For a pass
context `c` whose strategy vector at such a node is shorter than the node's child list the
statement is false (see the counterexample at the end of the file); the hypothesis `hA` is the
one of `externalMultiEffects_spec`, and holds for the contexts the solver builds
(`external_pool_closing_perm_etrace_pass`).
-/
set_option linter.unusedSectionVars false
namespace Cfr
variable {α : Type} [Field α] [LinearOrder α] [IsStrictOrderedRing α] [Transc α]

namespace LkP

/-! ## the pure trace -/

mutual
/-- the mutex events of the cached traversal with the oracle's answers substituted -/
def ptrC (c : ECtx α) (cache : List (Path × α)) : Node α → Path → List LEv
  | n, path =>
    match cacheGet cache path with
    | some _ => []
    | none =>
      match n with
      | .term _ => []
      | .chance i ks =>
        .acq (.chance i) :: .rel (.chance i) :: ptrCNth c cache ks (c.oc i) (path ++ [c.oc i])
      | .player one i ks =>
        if one == c.first then
          .tryAcq (.player one i) ::
            (ptrCActs c cache (c.strat one i) ks path 0 ++ [.rel (.player one i)])
        else
          .acq (.player one i) :: .rel (.player one i) ::
            ptrCNth c cache ks (c.op i) (path ++ [c.op i])
def ptrCNth (c : ECtx α) (cache : List (Path × α)) : List (Node α) → Nat → Path → List LEv
  | [], _, _ => []
  | k :: _, 0, path => ptrC c cache k path
  | _ :: ks, n + 1, path => ptrCNth c cache ks n path
def ptrCActs (c : ECtx α) (cache : List (Path × α)) :
    List α → List (Node α) → Path → Nat → List LEv
  | _ :: σ, k :: ks, path, a => ptrC c cache k (path ++ [a]) ++ ptrCActs c cache σ ks path (a + 1)
  | _, _, _, _ => []
end

theorem ptrC_hit (c : ECtx α) (cache : List (Path × α)) (n : Node α) (path : Path) (v : α)
    (h : cacheGet cache path = some v) : ptrC c cache n path = [] := by
  cases n <;> simp only [ptrC, h]

theorem ptrC_term (c : ECtx α) (cache : List (Path × α)) (p : α) (path : Path) :
    ptrC c cache (.term p) path = [] := by
  cases h : cacheGet cache path <;> simp only [ptrC, h]

theorem ptrC_chance (c : ECtx α) (cache : List (Path × α)) (i : Nat) (ks : List (Node α))
    (path : Path) (h : cacheGet cache path = none) :
    ptrC c cache (.chance i ks) path =
      .acq (.chance i) :: .rel (.chance i) :: ptrCNth c cache ks (c.oc i) (path ++ [c.oc i]) := by
  simp only [ptrC, h]

theorem ptrC_own (c : ECtx α) (cache : List (Path × α)) (one : Bool) (i : Nat)
    (ks : List (Node α)) (path : Path) (h : cacheGet cache path = none)
    (ho : (one == c.first) = true) :
    ptrC c cache (.player one i ks) path =
      .tryAcq (.player one i) ::
        (ptrCActs c cache (c.strat one i) ks path 0 ++ [.rel (.player one i)]) := by
  simp only [ptrC, h, if_pos ho]

theorem ptrC_opp (c : ECtx α) (cache : List (Path × α)) (one : Bool) (i : Nat)
    (ks : List (Node α)) (path : Path) (h : cacheGet cache path = none)
    (ho : ¬ (one == c.first) = true) :
    ptrC c cache (.player one i ks) path =
      .acq (.player one i) :: .rel (.player one i) ::
        ptrCNth c cache ks (c.op i) (path ++ [c.op i]) := by
  simp only [ptrC, h, if_neg ho]

theorem ptrCActs_cons (c : ECtx α) (cache : List (Path × α)) (s : α) (σ : List α) (k : Node α)
    (ks : List (Node α)) (path : Path) (a : Nat) :
    ptrCActs c cache (s :: σ) (k :: ks) path a =
      ptrC c cache k (path ++ [a]) ++ ptrCActs c cache σ ks path (a + 1) := by
  simp only [ptrCActs]

/-! ## under a consistent draw state the model's trace is the pure one -/

mutual
theorem etraceC_pure (c : ECtx α) (cache : List (Path × α)) :
    ∀ (n : Node α) (path : Path) (d : DrawSt α), ECons c d →
      (etraceC c cache n path d).1 = ptrC c cache n path ∧ ECons c (etraceC c cache n path d).2
  | n, path, d, hd => by
    cases hc : cacheGet cache path with
    | some v => rw [Lk.etraceC_hit _ _ _ _ _ v hc, ptrC_hit _ _ _ _ v hc]; exact ⟨rfl, hd⟩
    | none =>
      cases n with
      | term p => rw [Lk.etraceC_term, ptrC_term]; exact ⟨rfl, hd⟩
      | chance i ks =>
        rw [Lk.etraceC_chance _ _ _ _ _ _ hc, ptrC_chance _ _ _ _ _ hc]
        simp only [hd.sampleChance_fst i, DrawSt.req_ch]
        obtain ⟨h1, h2⟩ := etraceCNth_pure c cache ks (c.oc i) (path ++ [c.oc i]) _
          (hd.req (.ch i))
        exact ⟨by rw [h1], h2⟩
      | player one i ks =>
        by_cases ho : (one == c.first) = true
        · rw [Lk.etraceC_own _ _ _ _ _ _ _ hc ho, ptrC_own _ _ _ _ _ _ hc ho]
          obtain ⟨h1, h2⟩ := etraceCActs_pure c cache (c.strat one i) ks path d 0 hd
          exact ⟨by rw [← h1], h2⟩
        · rw [Lk.etraceC_opp _ _ _ _ _ _ _ hc ho, ptrC_opp _ _ _ _ _ _ hc ho]
          cases opp_eq_not_first ho
          simp only [hd.samplePlayer_fst i, DrawSt.req_pl]
          obtain ⟨h1, h2⟩ := etraceCNth_pure c cache ks (c.op i) (path ++ [c.op i]) _
            (hd.req (.pl i))
          exact ⟨by rw [h1], h2⟩
theorem etraceCNth_pure (c : ECtx α) (cache : List (Path × α)) :
    ∀ (ks : List (Node α)) (j : Nat) (path : Path) (d : DrawSt α), ECons c d →
      (etraceCNth c cache ks j path d).1 = ptrCNth c cache ks j path ∧
        ECons c (etraceCNth c cache ks j path d).2
  | [], _ => fun _ _ hd => ⟨rfl, hd⟩
  | k :: _, 0 => etraceC_pure c cache k
  | _ :: ks, j + 1 => etraceCNth_pure c cache ks j
theorem etraceCActs_pure (c : ECtx α) (cache : List (Path × α)) :
    ∀ (σ : List α) (ks : List (Node α)) (path : Path) (d : DrawSt α) (a : Nat), ECons c d →
      (etraceCActs c cache σ ks path d a).1 = ptrCActs c cache σ ks path a ∧
        ECons c (etraceCActs c cache σ ks path d a).2
  | s :: σ, k :: ks => fun path d a hd => by
    rw [Lk.etraceCActs_cons, ptrCActs_cons]
    obtain ⟨h1, h2⟩ := etraceC_pure c cache k (path ++ [a]) d hd
    obtain ⟨g1, g2⟩ := etraceCActs_pure c cache σ ks path _ (a + 1) h2
    exact ⟨by rw [← h1, ← g1], g2⟩
  | [], _ => fun _ _ _ hd => by simp only [etraceCActs, ptrCActs]; exact ⟨trivial, hd⟩
  | _ :: _, [] => fun _ _ _ hd => ⟨rfl, hd⟩
end

theorem etrace_pure (c : ECtx α) (n : Node α) (path : Path) (d : DrawSt α) (hd : ECons c d) :
    (etrace c n d).1 = ptrC c [] n path ∧ ECons c (etrace c n d).2 := by
  rw [← etrace_eq_etraceC c n path d]
  exact etraceC_pure c [] n path d hd

/-! ## the cached trace of a subtree only looks at cached paths below the subtree's path -/

mutual
theorem ptrC_congr (c : ECtx α) (c1 c2 : List (Path × α)) :
    ∀ (n : Node α) (path : Path),
      (∀ q, path <+: q → (cacheGet c1 q = none ↔ cacheGet c2 q = none)) →
      ptrC c c1 n path = ptrC c c2 n path
  | n, path, h => by
    have hp := h path (List.prefix_refl _)
    cases hc : cacheGet c2 path with
    | some v =>
      cases hc1 : cacheGet c1 path with
      | some v1 => rw [ptrC_hit _ _ _ _ v hc, ptrC_hit _ _ _ _ v1 hc1]
      | none => rw [hp.1 hc1] at hc; cases hc
    | none =>
      have hc1 := hp.2 hc
      cases n with
      | term p => rw [ptrC_term, ptrC_term]
      | chance i ks =>
        rw [ptrC_chance _ _ _ _ _ hc, ptrC_chance _ _ _ _ _ hc1,
          ptrCNth_congr c c1 c2 ks (c.oc i) (path ++ [c.oc i])
            (fun q hq => h q ((List.prefix_append _ _).trans hq))]
      | player one i ks =>
        by_cases ho : (one == c.first) = true
        · rw [ptrC_own _ _ _ _ _ _ hc ho, ptrC_own _ _ _ _ _ _ hc1 ho,
            ptrCActs_congr c c1 c2 (c.strat one i) ks path 0 h]
        · rw [ptrC_opp _ _ _ _ _ _ hc ho, ptrC_opp _ _ _ _ _ _ hc1 ho,
            ptrCNth_congr c c1 c2 ks (c.op i) (path ++ [c.op i])
              (fun q hq => h q ((List.prefix_append _ _).trans hq))]
theorem ptrCNth_congr (c : ECtx α) (c1 c2 : List (Path × α)) :
    ∀ (ks : List (Node α)) (j : Nat) (path : Path),
      (∀ q, path <+: q → (cacheGet c1 q = none ↔ cacheGet c2 q = none)) →
      ptrCNth c c1 ks j path = ptrCNth c c2 ks j path
  | [], _ => fun _ _ => rfl
  | k :: _, 0 => ptrC_congr c c1 c2 k
  | _ :: ks, j + 1 => ptrCNth_congr c c1 c2 ks j
theorem ptrCActs_congr (c : ECtx α) (c1 c2 : List (Path × α)) :
    ∀ (σ : List α) (ks : List (Node α)) (path : Path) (a : Nat),
      (∀ q, path <+: q → (cacheGet c1 q = none ↔ cacheGet c2 q = none)) →
      ptrCActs c c1 σ ks path a = ptrCActs c c2 σ ks path a
  | s :: σ, k :: ks => fun path a h => by
    rw [ptrCActs_cons, ptrCActs_cons,
      ptrC_congr c c1 c2 k (path ++ [a]) (fun q hq => h q ((List.prefix_append _ _).trans hq)),
      ptrCActs_congr c c1 c2 σ ks path (a + 1) h]
  | [], _ => fun _ _ _ => by simp only [ptrCActs]
  | _ :: _, [] => fun _ _ _ => rfl
end

theorem ptrCNth_get (c : ECtx α) (cache : List (Path × α)) (ks : List (Node α)) (j : Nat)
    (k : Node α) (q : Path) (h : ks[j]? = some k) : ptrCNth c cache ks j q = ptrC c cache k q := by
  induction ks generalizing j with
  | nil => cases h
  | cons k0 ks ih =>
    cases j with
    | zero => cases h; rfl
    | succ j => exact ih j h

/-! ## adding one cut node to the cache -/

theorem ptrCActs_eq_loop (c : ECtx α) (cache : List (Path × α)) (path : Path)
    (ks : List (Node α)) : ∀ (σ : List α) (a : Nat), ptrCActs c cache σ ks path a =
      (kidLoop (fun a _ k => ((0 : α), ptrC c cache k (path ++ [a]))) (fun _ _ _ => ())
        (fun _ _ => []) σ ks a ()).2 := by
  induction ks with
  | nil => intro σ; cases σ <;> exact fun _ => rfl
  | cons k ks ih =>
    intro σ a
    cases σ with
    | nil => rfl
    | cons s σ => simp only [ptrCActs, kidLoop, ih, List.nil_append]

/-- **one cut node**: caching the node `m` reached on the sampled tree at path `P` removes
exactly the mutex events of `m`'s traversal — provided no cached path is a prefix or an extension
of `P` -/
theorem ptrC_add_item (c : ECtx α) (cache : List (Path × α)) (P : Path) (v : α) {n : Node α}
    {rel : Path} {m : Node α} (h : OnT c n rel m) :
    ∀ p, P = p ++ rel → (∀ q, q <+: P → cacheGet cache q = none) →
      (∀ q, P <+: q → cacheGet cache q = none) →
      (ptrC c (cache ++ [(P, v)]) n p ++ ptrC c [] m P).Perm (ptrC c cache n p) := by
  induction h with
  | here n =>
    intro p hP h1 h2
    cases (List.append_nil p ▸ hP : P = p)
    rw [ptrC_hit _ _ _ _ v (cacheGet_snoc_self _ _ _ (h1 P (List.prefix_refl _))),
      ptrC_congr c cache [] n P (fun q hq => ⟨fun _ => cacheGet_nil q, fun _ => h2 q hq⟩)]
    exact List.Perm.refl _
  | chance i ks k rel m hk _ ih =>
    intro p hP h1 h2
    obtain ⟨hn, hn'⟩ := cacheGet_above cache v hP h1
    rw [ptrC_chance _ _ _ _ _ hn, ptrC_chance _ _ _ _ _ hn', ptrCNth_get _ _ _ _ _ _ hk,
      ptrCNth_get _ _ _ _ _ _ hk]
    exact ((ih (p ++ [c.oc i]) (hP.trans (List.append_cons _ _ _)) h1 h2).cons _).cons _
  | opp one i ks k rel m ho hk _ ih =>
    intro p hP h1 h2
    obtain ⟨hn, hn'⟩ := cacheGet_above cache v hP h1
    rw [ptrC_opp _ _ _ _ _ _ hn ho, ptrC_opp _ _ _ _ _ _ hn' ho, ptrCNth_get _ _ _ _ _ _ hk,
      ptrCNth_get _ _ _ _ _ _ hk]
    exact ((ih (p ++ [c.op i]) (hP.trans (List.append_cons _ _ _)) h1 h2).cons _).cons _
  | own one i ks a k rel m ho ha hk _ ih =>
    intro p hP h1 h2
    obtain ⟨hn, hn'⟩ := cacheGet_above cache v hP h1
    rw [ptrC_own _ _ _ _ _ _ hn ho, ptrC_own _ _ _ _ _ _ hn' ho, ptrCActs_eq_loop,
      ptrCActs_eq_loop]
    refine ((perm_mid _ (kidLoop_step _ _ _ _ _ a ?_ ks _ 0 _ _ k (Nat.zero_le _)
      (List.getElem?_eq_getElem ha) hk ?_).2).cons _)
    · -- the other children lie apart from `P`: their cached traces do not see the new entry
      intro a' ha' _ k'
      refine congrArg (Prod.mk 0) (ptrC_congr _ _ _ k' _ fun q hq => ?_)
      rw [cacheGet_snoc_ne _ _ _ _ ?_]
      rintro rfl
      rw [hP, List.prefix_append_right_inj, List.cons_prefix_cons] at hq
      exact ha' hq.1
    · exact And.intro rfl (ih (p ++ [a]) (hP.trans (List.append_cons _ _ _)) h1 h2)

/-! ## a whole cut -/

/-- the mutex events of a task -/
abbrev tr (c : ECtx α) (it : EItem α) : List LEv := ptrC c [] it.node it.path

/-- **decomposition along a cut**: caching all nodes of a set of pairwise unrelated nodes of the
sampled tree removes exactly the mutex events of the traversals of these nodes -/
theorem ptrC_add_items (c : ECtx α) (root : Node α) (items : List (EItem α))
    (cache0 : List (Path × α)) (hon : ∀ it ∈ items, OnT c root it.path it.node)
    (hpw : items.Pairwise (fun x y => ApartP x.path y.path))
    (hc : ∀ it ∈ items, ∀ e ∈ cache0, ApartP e.1 it.path) :
    (ptrC c (cache0 ++ items.map (EItem.val c)) root [] ++ items.flatMap (tr c)).Perm
      (ptrC c cache0 root []) := by
  induction items generalizing cache0 with
  | nil => rw [List.map_nil, List.append_nil, List.flatMap_nil, List.append_nil]
  | cons x rest ih =>
    obtain ⟨hx, hrest⟩ := List.pairwise_cons.mp hpw
    have hxm : x ∈ x :: rest := List.mem_cons_self
    -- first the other items on top of the cache extended by `x`, then `x` itself
    have i2 := ih (cache0 ++ [EItem.val c x]) (fun it h => hon it (List.mem_cons_of_mem _ h)) hrest
      fun it hit e he => (List.mem_append.mp he).elim (hc it (List.mem_cons_of_mem _ hit) e)
        fun he => List.mem_singleton.mp he ▸ hx it hit
    have a2 := ptrC_add_item c cache0 x.path (precC c [] x.node x.path).1 (hon x hxm) [] rfl
      (fun q hq => (cacheGet_eq_none_iff _ _).2 fun e he heq => (hc x hxm e he).1 (heq ▸ hq))
      (fun q hq => (cacheGet_eq_none_iff _ _).2 fun e he heq => (hc x hxm e he).2 (heq ▸ hq))
    rw [List.map_cons, List.flatMap_cons, List.append_cons cache0]
    exact (perm_rot _ _ _).trans ((i2.append_right _).trans a2)

/-- the tasks: each runs the plain traversal of its node -/
theorem eTaskTraces_pure (c : ECtx α) :
    ∀ (items : List (EItem α)) (d : DrawSt α), ECons c d →
      (eTaskTraces c items d).1 = items.map (tr c) := by
  intro items
  induction items with
  | nil => exact fun d _ => by simp [eTaskTraces]
  | cons it rest ih =>
    intro d hd
    obtain ⟨h1, h2⟩ := etrace_pure c it.node it.path d hd
    rw [Lk.eTaskTraces_cons, h1, ih _ h2, List.map_cons]

end LkP

/-- **frontier split invariance of the mutex events**.

`hA` (the statement is false without it, see below): a node of the updating player on the
sampled tree has at most as many children as the pass context's strategy vector has entries — the
hypothesis of `externalMultiEffects_spec`, discharged for the solver's contexts in
`external_pool_closing_perm_etrace_pass`.  The proof does not use `hg`. -/
theorem external_pool_closing_perm_etrace (g : Game α) (hg : GameWF g) (c : ECtx α) (target : Nat)
    (log : List (DrawRec α))
    (hA : ∀ P one i ks, OnT c g.root P (.player one i ks) → (one == c.first) = true →
      ks.length ≤ (c.strat one i).length) :
    ((externalPoolTraces g c target log).flatten ++ externalClosingTrace g c target log).Perm
      (etrace c g.root { log := log }).1 := by
  have _ := hg
  obtain ⟨e1, e2⟩ := Lk.externalTraces_eq g c target log _ rfl
  rw [e1, e2]
  obtain ⟨rsT, t1, -, t3⟩ := eThreshold_spec c g.root target g.root.size hA
    (2 * g.root.size + 2) [⟨[], g.root⟩] [] { log := log } (ECons.init c log) (ECut.root c g.root)
  have hcut := t3.left
  have hd1 : ECons c (({ log := log } : DrawSt α).run c rsT) := (ECons.init c log).run rsT
  rw [t1]
  generalize (eThreshold c target g.root.size (2 * g.root.size + 2) [⟨[], g.root⟩] []
    { log := log }).1 = queue at hcut ⊢
  rw [LkP.eTaskTraces_pure c queue _ hd1, eRunTasks_pure c queue _ hd1]
  simp only
  rw [(LkP.etraceC_pure c _ g.root [] _ (hd1.run _)).1,
    (LkP.etrace_pure c g.root [] _ (ECons.init c log)).1, ← List.flatMap_def]
  exact List.perm_append_comm.trans
    (LkP.ptrC_add_items c g.root queue [] hcut.1 hcut.2 fun _ _ _ he => nomatch he)

/-- the same for the pass contexts the solver builds: on an accepted game with a well-shaped
solver state the arity hypothesis holds -/
theorem external_pool_closing_perm_etrace_pass (g : Game α) (hg : GameWF g) (first : Bool)
    (draw : DrawFn α) (it : Nat) (s : SolveSt α) (hs : EShape g s) (target : Nat)
    (log : List (DrawRec α)) :
    ((externalPoolTraces g (externalCtx g first draw it s) target log).flatten ++
        externalClosingTrace g (externalCtx g first draw it s) target log).Perm
      (etrace (externalCtx g first draw it s) g.root { log := log }).1 :=
  external_pool_closing_perm_etrace g hg (externalCtx g first draw it s) target log
    (arity_of_shape hg.nodes hs first draw it)

section Counterexample
/-! Why `hA` is needed in `external_pool_closing_perm_etrace` although the game is accepted: the
pass context is arbitrary there.  The root (infoset `0` of player one, two children) is visited
with an *empty* strategy vector, so the plain traversal locks and releases the root's infoset and
visits no child (2 events); with task target `3` the frontier construction hands the first child
(a chance node) to the pool, whose task locks and releases the chance infoset (2 more events). -/

local instance instTranscRatLkP : Transc ℚ := ⟨id, id, id, fun x _ => x, 0⟩

private def cexGame : Game ℚ where
  chance := [[1/2, 1/2]]
  p1 := [⟨0, [0, 1], none⟩, ⟨1, [0, 1], some (0, 1)⟩]
  p2 := []
  s1 := []
  s2 := []
  root := .player true 0 [.chance 0 [.term 1, .term 2], .player true 1 [.term 3, .term 4]]

private def cexCtx : ECtx ℚ := ⟨[[1/2, 1/2]], true, fun _ _ => [], fun _ _ _ _ => 0, 0, 0⟩

private theorem cexGame_wf : GameWF cexGame where
  chancePos := by decide +kernel
  nodes := by simp [NodeOK, NodeOKL, cexGame, Game.infos]
  recall := fun me => ⟨fun i => if i = 1 then [(0, 1)] else [], by
    cases me <;> simp [PR, PRL, PRD, cexGame], by
    intro i e he
    simp only at he
    split_ifs at he with h
    · simp only [List.mem_singleton] at he; subst he; subst h; decide
    · simp at he⟩
  tables1 := ⟨by decide, by decide, by decide, by decide⟩
  tables2 := ⟨by decide, by decide, by decide, by decide⟩
  actsTwo := by intro me; cases me <;> decide

example :
    (externalPoolTraces cexGame cexCtx 3 []).flatten ++ externalClosingTrace cexGame cexCtx 3 []
      = [.acq (.chance 0), .rel (.chance 0), .tryAcq (.player true 0), .rel (.player true 0)] ∧
    (etrace cexCtx cexGame.root { log := [] }).1
      = [.tryAcq (.player true 0), .rel (.player true 0)] := by
  decide +kernel

/-- the statement without the arity hypothesis is false -/
theorem external_pool_closing_perm_etrace_needs_arity :
    ¬ ∀ (g : Game ℚ), GameWF g → ∀ (c : ECtx ℚ) (target : Nat) (log : List (DrawRec ℚ)),
      ((externalPoolTraces g c target log).flatten ++ externalClosingTrace g c target log).Perm
        (etrace c g.root { log := log }).1 := by
  intro h
  have hl := (h cexGame cexGame_wf cexCtx 3 []).length_eq
  revert hl
  decide +kernel

end Counterexample

end Cfr
