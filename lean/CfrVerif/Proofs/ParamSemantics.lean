import CfrVerif.Proofs.RealInst
import CfrVerif.Model.Params
import CfrVerif.Model.Solve
import CfrVerif.Proofs.Basic
import Mathlib.Algebra.BigOperators.Intervals
/-!
# C08 — the documented discounted-CFR parameter semantics

The helpers of `src/solve/data.rs` at `ℝ` (`exp`, `ln`, `ln_1p`, `powf` = the real functions):
discount factors in closed form, the average-strategy weights, the regret-matching branches,
the preset tuples, the order inside `advance`.
-/
set_option linter.unusedSectionVars false
namespace Cfr
open Finset

theorem two_eq : (two : ℝ) = 2 := one_add_one_eq_two
theorem half_eq : (half : ℝ) = 1 / 2 := by rw [half, one_add_one_eq_two]

theorem lnAddExp0_eq (x : ℝ) : lnAddExp0 x = Real.log (1 + Real.exp x) := by
  unfold lnAddExp0
  split_ifs with h1 h2
  · have : x = 0 := by simpa using h1
    subst this
    simp; norm_num
  · simp only [transc_log1p, transc_exp]
    have : 1 + Real.exp x = Real.exp x * (1 + Real.exp (-x)) := by
      rw [mul_add, ← Real.exp_add]; simp [add_comm]
    rw [this, Real.log_mul (Real.exp_pos x).ne' (by positivity), Real.log_exp]
  · simp

/-- **`gen_discount` is `t^d / (t^d + 1)`** (computed in log space by the crate) for every
iteration `t ≥ 1` and every finite exponent -/
theorem genDiscount_closed_form (t : ℕ) (ht : 1 ≤ t) (d : ℝ) :
    genDiscount t (.fin d) = (t : ℝ) ^ d / ((t : ℝ) ^ d + 1) := by
  have htpos : (0 : ℝ) < t := by exact_mod_cast ht
  simp only [genDiscount]
  split_ifs with h
  · have : d = 0 := by simpa using h
    subst this
    rw [Real.rpow_zero]
    rfl
  · simp only [lnAddExp0_eq, transc_exp, transc_log]
    rw [Real.rpow_def_of_pos htpos, Real.exp_sub, Real.exp_log (by positivity), mul_comm d]
    rw [add_comm]

/-- exponent `-∞` : immediate forgetting -/
theorem genDiscount_negInf (t : ℕ) : genDiscount t (.negInf : Ext ℝ) = 0 := by
  rfl

/-- exponent `+∞` : no discounting -/
theorem genDiscount_posInf (t : ℕ) : genDiscount t (.posInf : Ext ℝ) = 1 := by
  rfl

/-- exponent `0` : one half -/
theorem genDiscount_zero (t : ℕ) : genDiscount t (.fin (0 : ℝ)) = 1 / 2 := by
  simp [genDiscount, half_eq]

theorem genDiscount_mem_unit (t : ℕ) (ht : 1 ≤ t) (d : Ext ℝ) :
    0 ≤ genDiscount t d ∧ genDiscount t d ≤ 1 := by
  cases d with
  | negInf => rw [genDiscount_negInf]; exact ⟨le_rfl, zero_le_one⟩
  | posInf => rw [genDiscount_posInf]; exact ⟨zero_le_one, le_rfl⟩
  | fin d =>
    rw [genDiscount_closed_form t ht d]
    have h : 0 < (t : ℝ) ^ d := Real.rpow_pos_of_pos (Nat.cast_pos.mpr ht) d
    have h1 : 0 < (t : ℝ) ^ d + 1 := add_pos h one_pos
    exact ⟨(div_pos h h1).le, (div_le_one h1).mpr (le_add_of_nonneg_right zero_le_one)⟩

/-- **cumulative positive regrets are multiplied by the `α`-factor, negative ones by the
`β`-factor, zeros stay** -/
theorem discountCumRegret_entry (p : RegretParams ℝ) (t : ℕ) (v : List ℝ) (a : ℕ) (x : ℝ)
    (hx : v[a]? = some x) :
    (discountCumRegret p t v)[a]? = some
      (if 0 < x then x * genDiscount t p.posRegret
       else if x < 0 then x * genDiscount t p.negRegret else x) := by
  simp only [discountCumRegret, List.getElem?_map, hx, Option.map_some]

/-- after iteration `t` the cumulative strategy is multiplied by `(t/(t+1))^γ` (for `γ = 0`
that factor is `1`) -/
theorem discountAverageStrat_entry (p : RegretParams ℝ) (hγ : 0 ≤ p.strat) (t : ℕ) (v : List ℝ) :
    discountAverageStrat p t v = v.map (· * ((t : ℝ) / ((t : ℝ) + 1)) ^ p.strat) := by
  simp only [discountAverageStrat]
  split_ifs with h
  · simp
  · have : p.strat = 0 := le_antisymm (not_lt.mp h) hγ
    simp [this]

/-- **iteration `t` contributes to the average with weight `t^γ`**: the product of the factors
applied after iterations `t, t+1, …, T-1` to what iteration `t` added is `(t/T)^γ` -/
theorem avg_weight_telescopes (γ : ℝ) (t T : ℕ) (ht : 1 ≤ t) (htT : t ≤ T) :
    ∏ s ∈ Ico t T, (((s : ℝ) / ((s : ℝ) + 1)) ^ γ) = ((t : ℝ) / (T : ℝ)) ^ γ := by
  induction T, htT using Nat.le_induction with
  | base =>
    have htpos : (0 : ℝ) < t := by exact_mod_cast ht
    rw [Ico_self, prod_empty, div_self htpos.ne', Real.one_rpow]
  | succ T hT ih =>
    have hTpos : (0 : ℝ) < T := by exact_mod_cast (le_trans ht hT)
    rw [Finset.prod_Ico_succ_top hT, ih,
      ← Real.mul_rpow (div_nonneg t.cast_nonneg T.cast_nonneg)
        (div_nonneg T.cast_nonneg (Nat.cast_add_one_pos T).le),
      Nat.cast_succ, div_mul_div_cancel₀ hTpos.ne']

def pos (x : ℝ) : ℝ := max x 0

theorem pos_nonneg (x : ℝ) : 0 ≤ pos x := le_max_right _ _

theorem lsum_filter_pos (v : List ℝ) :
    lsum (v.filter (fun x => decide (0 < x))) = (v.map pos).sum := by
  rw [lsum_eq_sum]
  induction v with
  | nil => rfl
  | cons x xs ih =>
    rw [List.map_cons, List.sum_cons, ← ih, pos]
    by_cases hx : 0 < x
    · rw [List.filter_cons_of_pos (p := fun x => decide (0 < x)) (decide_eq_true hx),
        List.sum_cons, max_eq_left hx.le]
    · rw [List.filter_cons_of_neg (p := fun x => decide (0 < x)) (by simpa using hx),
        max_eq_right (not_lt.mp hx), zero_add]

theorem sum_map_pos_pos (v : List ℝ) (h : ∃ x ∈ v, 0 < x) : 0 < (v.map pos).sum := by
  obtain ⟨x, hx, hx0⟩ := h
  refine (hx0.trans_le (le_max_left x 0)).trans_le
    (List.single_le_sum (fun y hy => ?_) _ (List.mem_map_of_mem hx))
  obtain ⟨z, _, rfl⟩ := List.mem_map.mp hy
  exact pos_nonneg z

theorem sum_map_pos_eq_zero (v : List ℝ) (h : ∀ x ∈ v, x ≤ 0) : (v.map pos).sum = 0 :=
  List.sum_eq_zero fun y hy => by
    obtain ⟨x, hx, rfl⟩ := List.mem_map.mp hy
    exact max_eq_right (h x hx)

theorem pos_step (x y : ℝ) :
    (max (x + y) 0) ^ 2 ≤ (max x 0) ^ 2 + 2 * max x 0 * y + y ^ 2 := by
  have h1 : x ≤ max x 0 := le_max_left _ _
  generalize max x 0 = m at h1 ⊢
  rcases le_total (x + y) 0 with h | h
  · rw [max_eq_right h]
    linarith [sq_nonneg (m + y)]
  · -- the right side exceeds `(x + y)²` by `(m − x)·((m − x) + 2·(x + y))`
    rw [max_eq_left h]
    linarith [mul_nonneg (sub_nonneg.mpr h1)
      (add_nonneg (sub_nonneg.mpr h1) (mul_nonneg zero_le_two h))]

theorem getD_map_lt (f : ℝ → ℝ) (l : List ℝ) (a : ℕ) (ha : a < l.length) :
    (l.map f).getD a 0 = f (l.getD a 0) := by
  rw [List.getD_eq_getElem?_getD, List.getD_eq_getElem?_getD, List.getElem?_map,
    List.getElem?_eq_getElem ha]
  rfl

theorem getD_mem (l : List ℝ) (a : ℕ) (ha : a < l.length) : l.getD a 0 ∈ l := by
  rw [List.getD_eq_getElem?_getD, List.getElem?_eq_getElem ha]
  exact List.getElem_mem ha

/-- **the next strategy is proportional to the positive cumulative regret** whenever some
regret is positive -/
theorem regretMatch_positive (np : Ext ℝ) (v : List ℝ) (h : ∃ x ∈ v, 0 < x) :
    regretMatch np v = v.map (fun r => pos r / (v.map pos).sum) := by
  simp only [regretMatch, lsum_filter_pos]
  rw [if_pos (sum_map_pos_pos v h)]
  apply List.map_congr_left
  intro r _
  split_ifs with hr
  · rw [pos, max_eq_left hr.le]
  · rw [pos, max_eq_right (not_lt.mp hr), zero_div]

/-- no positive regret, weight `0` : uniform -/
theorem regretMatch_uniform (v : List ℝ) (h : ∀ x ∈ v, x ≤ 0) :
    regretMatch (.fin 0) v = List.replicate v.length (1 / (v.length : ℝ)) := by
  simp only [regretMatch, lsum_filter_pos, sum_map_pos_eq_zero v h]
  simp

/-- a left-to-right scan `go` for an extreme element of `pre ++ ys` with respect to the preorder
`le`: `pre` has been read, `b = pre[bi]` is extreme in it, and in each step `go` either keeps `b`
(then the new element is below it) or takes the new element (then it is above `b`) -/
theorem scan_spec (le : ℝ → ℝ → Prop) (hrefl : ∀ a, le a a)
    (htrans : ∀ a b c, le a b → le b c → le a c)
    (go : List ℝ → ℕ → ℝ → ℕ → ℕ) (hnil : ∀ i b bi, go [] i b bi = bi)
    (hcons : ∀ y ys i b bi, go (y :: ys) i b bi = go ys (i + 1) b bi ∧ le y b ∨
      go (y :: ys) i b bi = go ys (i + 1) y i ∧ le b y) :
    ∀ (ys pre : List ℝ) (b : ℝ) (bi : ℕ), pre[bi]? = some b → (∀ x ∈ pre, le x b) →
      ∃ m, (pre ++ ys)[go ys pre.length b bi]? = some m ∧ ∀ x ∈ pre ++ ys, le x m
  | [], pre, b, bi, hb, hall => ⟨b, by rw [hnil, List.append_nil, hb], by rwa [List.append_nil]⟩
  | y :: ys, pre, b, bi, hb, hall => by
    have hl : (pre ++ [y]).length = pre.length + 1 := List.length_append
    have hbi : bi < pre.length := (List.getElem?_eq_some_iff.mp hb).1
    rcases hcons y ys pre.length b bi with ⟨e, h⟩ | ⟨e, h⟩ <;> rw [e, ← hl, List.append_cons]
    · refine scan_spec le hrefl htrans go hnil hcons ys (pre ++ [y]) b bi
        (by rw [List.getElem?_append_left hbi, hb]) fun x hx => ?_
      rcases List.mem_append.mp hx with hx | hx
      · exact hall x hx
      · rwa [List.mem_singleton.mp hx]
    · refine scan_spec le hrefl htrans go hnil hcons ys (pre ++ [y]) y pre.length
        (by rw [List.getElem?_append_right le_rfl, Nat.sub_self]; rfl) fun x hx => ?_
      rcases List.mem_append.mp hx with hx | hx
      · exact htrans x b y (hall x hx) h
      · rw [List.mem_singleton.mp hx]; exact hrefl y

/-- the scan started on the head of a non-empty list returns the index of an extreme element -/
theorem scan_head (le : ℝ → ℝ → Prop) (hrefl : ∀ a, le a a)
    (htrans : ∀ a b c, le a b → le b c → le a c)
    (go : List ℝ → ℕ → ℝ → ℕ → ℕ) (hnil : ∀ i b bi, go [] i b bi = bi)
    (hcons : ∀ y ys i b bi, go (y :: ys) i b bi = go ys (i + 1) b bi ∧ le y b ∨
      go (y :: ys) i b bi = go ys (i + 1) y i ∧ le b y) (v : List ℝ) (hne : v ≠ []) :
    go v.tail 1 v.head! 0 < v.length ∧ ∀ z ∈ v, le z v[go v.tail 1 v.head! 0]! := by
  obtain ⟨x, xs, rfl⟩ := List.exists_cons_of_ne_nil hne
  obtain ⟨m, hm, hall⟩ := scan_spec le hrefl htrans go hnil hcons xs [x] x 0 rfl
    fun z hz => List.mem_singleton.mp hz ▸ hrefl x
  obtain ⟨hlt, hget⟩ := List.getElem?_eq_some_iff.mp hm
  exact ⟨hlt, fun z hz => ((getElem!_pos (x :: xs) _ hlt).trans hget) ▸ hall z hz⟩

theorem argmaxLast_spec (v : List ℝ) (hne : v ≠ []) :
    argmaxLast v < v.length ∧ ∀ x ∈ v, x ≤ v[argmaxLast v]! := by
  have h := scan_head (· ≤ ·) le_refl (fun _ _ _ => le_trans) argmaxLast.go (fun _ _ _ => rfl)
    (fun y ys i b bi => by
      by_cases hy : y < b
      · exact .inl ⟨by rw [argmaxLast.go, if_pos hy], hy.le⟩
      · exact .inr ⟨by rw [argmaxLast.go, if_neg hy], not_lt.mp hy⟩) v hne
  obtain ⟨x, xs, rfl⟩ := List.exists_cons_of_ne_nil hne
  exact h

/-- no positive regret, weight `+∞` : all mass on an action of maximal regret -/
theorem regretMatch_best (v : List ℝ) (hne : v ≠ []) (h : ∀ x ∈ v, x ≤ 0) :
    ∃ k, k < v.length ∧ (∀ x ∈ v, x ≤ v[k]!) ∧ regretMatch .posInf v = oneHot v.length k := by
  refine ⟨argmaxLast v, (argmaxLast_spec v hne).1, (argmaxLast_spec v hne).2, ?_⟩
  simp only [regretMatch, lsum_filter_pos, sum_map_pos_eq_zero v h, lt_irrefl, if_false]

theorem argminFirst_spec (v : List ℝ) (hne : v ≠ []) :
    argminFirst v < v.length ∧ ∀ x ∈ v, v[argminFirst v]! ≤ x := by
  have h := scan_head (· ≥ ·) le_refl (fun _ _ _ h1 h2 => le_trans h2 h1) argminFirst.go
    (fun _ _ _ => rfl)
    (fun y ys i b bi => by
      by_cases hy : y < b
      · exact .inr ⟨by rw [argminFirst.go, if_pos hy], hy.le⟩
      · exact .inl ⟨by rw [argminFirst.go, if_neg hy], not_lt.mp hy⟩) v hne
  obtain ⟨x, xs, rfl⟩ := List.exists_cons_of_ne_nil hne
  exact h

/-- no positive regret, weight `-∞` : all mass on an action of minimal regret -/
theorem regretMatch_worst (v : List ℝ) (hne : v ≠ []) (h : ∀ x ∈ v, x ≤ 0) :
    ∃ k, k < v.length ∧ (∀ x ∈ v, v[k]! ≤ x) ∧ regretMatch .negInf v = oneHot v.length k := by
  refine ⟨argminFirst v, (argminFirst_spec v hne).1, (argminFirst_spec v hne).2, ?_⟩
  simp only [regretMatch, lsum_filter_pos, sum_map_pos_eq_zero v h, lt_irrefl, if_false]

theorem sum_map_mul_right (v : List ℝ) (f : ℝ → ℝ) (c : ℝ) :
    (v.map (fun r => f r * c)).sum = (v.map f).sum * c := by
  induction v with
  | nil => simp
  | cons y ys ih => simp [ih, add_mul]

theorem sum_map_exp_pos (v : List ℝ) (hne : v ≠ []) (f : ℝ → ℝ) :
    0 < (v.map (fun r => Real.exp (f r))).sum :=
  List.sum_pos _ (fun y hy => by
    obtain ⟨x, _, rfl⟩ := List.mem_map.mp hy
    exact Real.exp_pos _) (mt List.map_eq_nil_iff.mp hne)

/-- no positive regret, finite non-zero weight `w` : the soft-max of `w · regret` -/
theorem regretMatch_softmax (w : ℝ) (hw : w ≠ 0) (v : List ℝ) (h : ∀ x ∈ v, x ≤ 0) :
    regretMatch (.fin w) v
      = v.map (fun r => Real.exp (w * r) / (v.map (fun s => Real.exp (w * s))).sum) := by
  simp only [regretMatch, lsum_filter_pos, sum_map_pos_eq_zero v h, lt_irrefl, if_false]
  rw [if_neg (by simpa using hw)]
  generalize (if 0 < w then maxD 0 v else minD 0 v) = e
  simp only [transc_exp, lsum_eq_sum, List.map_map]
  -- the subtracted extreme `e` cancels: it multiplies every entry and the sum by `exp (-(e w))`
  have key : ∀ r : ℝ, Real.exp ((r - e) * w) = Real.exp (w * r) * Real.exp (-(e * w)) := by
    intro r; rw [← Real.exp_add]; congr 1; ring
  apply List.map_congr_left
  intro r _
  simp only [Function.comp, key]
  rw [sum_map_mul_right v (fun r => Real.exp (w * r)),
    mul_div_mul_right _ _ (Real.exp_pos _).ne']

theorem preset_vanilla : (RegretParams.vanilla : RegretParams ℝ) = ⟨.posInf, .posInf, 0, .fin 0⟩ := by
  rfl
theorem preset_lcfr : (RegretParams.lcfr : RegretParams ℝ) = ⟨.fin 1, .fin 1, 1, .posInf⟩ := by
  rfl
theorem preset_cfrPlus : (RegretParams.cfrPlus : RegretParams ℝ) = ⟨.posInf, .negInf, 2, .posInf⟩ := by
  rw [RegretParams.cfrPlus, two_eq]
theorem preset_dcfr : (RegretParams.dcfr : RegretParams ℝ) = ⟨.fin (3 / 2), .fin 0, 2, .posInf⟩ := by
  rw [RegretParams.dcfr, two_eq, half_eq]; norm_num
theorem preset_dcfrPrune :
    (RegretParams.dcfrPrune : RegretParams ℝ) = ⟨.fin (3 / 2), .fin (1 / 2), 2, .posInf⟩ := by
  rw [RegretParams.dcfrPrune, two_eq, half_eq]; norm_num
/-- omitting the parameters means DCFR -/
theorem default_is_dcfr : (RegretParams.default : RegretParams ℝ) = RegretParams.dcfr := by
  rfl

/-- **order inside `advance`**: the next strategy is matched on the *pre-discount* regrets,
then the regrets are discounted (iteration `it`), then the average (iteration `itAvg`), and the
reported bound is `2·max(max_a R(a), 0)/it` of the discounted regrets -/
theorem advance_order (p : RegretParams ℝ) (it itAvg : ℕ) (x : InfoSt ℝ) :
    x.advance p it itAvg =
      (⟨discountCumRegret p it x.cumRegret, discountAverageStrat p itAvg x.cumStrat,
        regretMatch p.noPositive x.cumRegret⟩,
       cumRegretBound it (discountCumRegret p it x.cumRegret)) := by
  rfl

theorem cumRegretBound_closed (it : ℕ) (v : List ℝ) (hne : v ≠ []) :
    ∃ m, (∀ x ∈ v, x ≤ m) ∧ m ∈ v ∧ cumRegretBound it v = 2 * max m 0 / (it : ℝ) := by
  cases v with
  | nil => exact absurd rfl hne
  | cons x xs =>
    refine ⟨xs.foldl fmax x, (foldl_fmax_mem_le xs x).2, (foldl_fmax_mem_le xs x).1, ?_⟩
    rw [cumRegretBound, maxD, fmax_eq_max, two_eq]

end Cfr
