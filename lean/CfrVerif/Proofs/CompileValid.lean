import CfrVerif.Proofs.CompileWF
/-!
# `fromRoot` succeeds exactly on the documented class of games (helper lemmas for C11)

* the declarative contract (`Assignment`, `Conforms`, `Valid`, `Violates`, `AnyNode`);
* `Inv` : well-formedness of builder states;
* `LH` : the label history named by a `prev` pointer;
* `compileAll_sound` : whatever `compile` accepts conforms to every assignment that agrees with
  the final tables (`AgreeW`), and such an assignment exists (`agreeW_assignOf`);
* `compile_complete` : a tree conforming to an assignment is accepted (invariant `AgreeS`);
* `compile_err`      : the four local errors are raised only at a node violating that rule.
-/
set_option linter.unusedSectionVars false
set_option linter.unusedVariables false
namespace Cfr
variable {α : Type} [Field α] [LinearOrder α] [IsStrictOrderedRing α]

/-! ## the documented contract -/

/-- an own history on labels: `(infoset label, action label)` of the player's earlier
multi-action decisions, oldest first (single-action nodes are exempt) -/
abbrev LHist := List (Nat × Nat)

/-- the per-infoset data every node has to agree with -/
structure Assignment (α : Type) where
  /-- outcome probabilities of a named chance infoset -/
  cprob : Nat → List α
  /-- action list of a player infoset -/
  acts : Bool → Nat → List Nat
  /-- own history of a multi-action player infoset -/
  hist : Bool → Nat → LHist

def normalise (ws : List α) : List α := ws.map (· / ws.sum)

mutual
/-- node `r`, reached with own label histories `h1` (player one) and `h2` (player two),
conforms to the assignment and so does everything below it -/
def Conforms (A : Assignment α) : Raw α → LHist → LHist → Prop
  | .term _, _, _ => True   -- payoffs are finite: automatic in exact arithmetic
  | .chance info ws kids, h1, h2 =>
    ws.length = kids.length ∧ ws ≠ [] ∧ (∀ w ∈ ws, 0 < w) ∧
    (∀ l, info = some l → A.cprob l = normalise ws) ∧
    ConformsL A kids h1 h2
  | .player one info acts kids, h1, h2 =>
    acts.length = kids.length ∧ acts ≠ [] ∧ A.acts one info = acts ∧ acts.Nodup ∧
    (2 ≤ acts.length → A.hist one info = (if one then h1 else h2)) ∧
    ConformsA A one info (2 ≤ acts.length) acts kids h1 h2
/-- children of a chance node: histories unchanged -/
def ConformsL (A : Assignment α) : List (Raw α) → LHist → LHist → Prop
  | [], _, _ => True
  | k :: ks, h1, h2 => Conforms A k h1 h2 ∧ ConformsL A ks h1 h2
/-- children of a player node: a multi-action decision is appended to that player's history -/
def ConformsA (A : Assignment α) (one : Bool) (info : Nat) (multi : Prop) [Decidable multi] :
    List Nat → List (Raw α) → LHist → LHist → Prop
  | a :: as, k :: ks, h1, h2 =>
    Conforms A k (if multi ∧ one then h1 ++ [(info, a)] else h1)
      (if multi ∧ ¬ one then h2 ++ [(info, a)] else h2) ∧
    ConformsA A one info multi as ks h1 h2
  | _, _, _, _ => True
end

/-- **the documented class of games**: every chance node has at least one outcome and only
positive weights; chance nodes sharing an infoset have the same outcome probabilities in the
same order; every decision node has at least one action; nodes sharing a player infoset list the
same distinct actions in the same order; each player has perfect recall (nodes of a multi-action
infoset are reached after the same own decisions; single-action nodes exempt) -/
def Valid (r : Raw α) : Prop := ∃ A : Assignment α, Conforms A r [] []

/-- a rule named by an error, as a property of one node -/
def Violates : GameError → Raw α → Prop
  | .emptyChance, .chance _ ws _ => ws = []
  | .nonPositiveChance, .chance _ ws _ => ∃ w ∈ ws, ¬ 0 < w
  | .emptyPlayer, .player _ _ acts _ => acts = []
  | .actionsNotUnique, .player _ _ acts _ => ¬ acts.Nodup
  | _, _ => False

mutual
def AnyNode (P : Raw α → Prop) : Raw α → Prop
  | .term p => P (.term p)
  | .chance i ws ks => P (.chance i ws ks) ∨ AnyNodeL P ks
  | .player o i as ks => P (.player o i as ks) ∨ AnyNodeL P ks
def AnyNodeL (P : Raw α → Prop) : List (Raw α) → Prop
  | [] => False
  | k :: ks => AnyNode P k ∨ AnyNodeL P ks
end

/-! The helper lemmas live in their own namespace (other proof files about `compile` use similar
names). -/
namespace CompileValid

/-! ## builder states -/

@[simp] theorem chance_setInfos (s : BState α) (one : Bool) (l : List PInfo) :
    (s.setInfos one l).chance = s.chance := BState.chance_setInfos s one l
@[simp] theorem chance_setSingles (s : BState α) (one : Bool) (l : List (Nat × Nat)) :
    (s.setSingles one l).chance = s.chance := BState.chance_setSingles s one l
@[simp] theorem infos_withChance (s : BState α) (one : Bool) (c : List (Option Nat × List α)) :
    ({ s with chance := c } : BState α).infos one = s.infos one := BState.infos_setChance s c one
@[simp] theorem singles_withChance (s : BState α) (one : Bool) (c : List (Option Nat × List α)) :
    ({ s with chance := c } : BState α).singles one = s.singles one :=
  BState.singles_setChance s c one

structure Grow (s s' : BState α) : Prop where
  chance : s.chance <+: s'.chance
  infos : ∀ one, s.infos one <+: s'.infos one
  singles : ∀ one, s.singles one <+: s'.singles one

theorem grow_iff_growsAll {s s' : BState α} : Grow s s' ↔ GrowsAll s s' :=
  ⟨fun h => ⟨h.chance, h.infos, h.singles⟩, fun h => ⟨h.chance, h.infos, h.singles⟩⟩

/-! ## the label history named by a `prev` pointer -/

/-- `LH infos p h`: following the `prev` pointers from `p` through the table `infos` spells the
label history `h` (oldest decision first) -/
inductive LH (infos : List PInfo) : Option (Nat × Nat) → LHist → Prop
  | nil : LH infos none []
  | step (j a : Nat) (e : PInfo) (x : Nat) (h : LHist) :
      infos[j]? = some e → e.actions[a]? = some x → LH infos e.prev h →
      LH infos (some (j, a)) (h ++ [(e.label, x)])

theorem LH.mono {l l' : List PInfo} {p : Option (Nat × Nat)} {h : LHist} (hl : l <+: l')
    (a : LH l p h) : LH l' p h := by
  induction a with
  | nil => exact .nil
  | step j a e x h h1 h2 _ ih => exact .step j a e x h (prefix_getElem? hl h1) h2 ih

theorem LH.func {l : List PInfo} {p : Option (Nat × Nat)} {h h' : LHist}
    (a : LH l p h) (b : LH l p h') : h = h' := by
  induction a generalizing h' with
  | nil => cases b; rfl
  | step j a e x h h1 h2 _ ih =>
    cases b with
    | step _ _ e' x' h'' g1 g2 g3 =>
      rw [h1] at g1; cases g1
      rw [h2] at g2; cases g2
      rw [ih g3]

/-- distinct labels and distinct actions: a pointer is determined by the history it spells -/
theorem LH.inj {l : List PInfo} {p p' : Option (Nat × Nat)} {h h' : LHist}
    (hl : ∀ (i j : Nat) (e e' : PInfo), l[i]? = Option.some e → l[j]? = Option.some e' → e.label = e'.label → i = j)
    (ha : ∀ e ∈ l, e.actions.Nodup)
    (a : LH l p h) (b : LH l p' h') (hh : h = h') : p = p' := by
  cases a with
  | nil =>
    cases b with
    | nil => rfl
    | step j a e x h h1 h2 h3 => simp at hh
  | step j a e x h h1 h2 h3 =>
    cases b with
    | nil => simp at hh
    | step j' a' e' x' h' g1 g2 g3 =>
      obtain ⟨_, h5⟩ := List.append_inj' hh (by simp)
      simp only [List.cons.injEq, Prod.mk.injEq, and_true] at h5
      obtain ⟨h6, h7⟩ := h5
      have hj := hl j j' e e' h1 g1 h6
      subst hj
      rw [h1] at g1; cases g1
      subst h7
      have hn := ha e (List.mem_of_getElem? h1)
      obtain ⟨ha1, _⟩ := List.getElem?_eq_some_iff.mp h2
      have := (List.getElem?_inj ha1 hn).mp (h2.trans g2.symm)
      rw [this]

/-! ## well-formed builder states -/

/-- label tables are consistent (nothing here depends on an assignment) -/
structure Inv (s : BState α) : Prop where
  lab : ∀ (one : Bool) (i j : Nat) (e e' : PInfo), (s.infos one)[i]? = some e → (s.infos one)[j]? = some e' →
    e.label = e'.label → i = j
  acts : ∀ one, ∀ e ∈ s.infos one, e.actions.Nodup ∧ 2 ≤ e.actions.length
  sing : ∀ one, ∀ e ∈ s.singles one, ∀ e' ∈ s.singles one, e.1 = e'.1 → e.2 = e'.2
  disj : ∀ one, ∀ e ∈ s.infos one, ∀ e' ∈ s.singles one, e.label ≠ e'.1
  ch : ∀ e ∈ s.chance, ∀ e' ∈ s.chance, ∀ l, e.1 = some l → e'.1 = some l → e.2 = e'.2

theorem Inv.empty : Inv ({} : BState α) where
  lab one i j e e' hi := by rw [BState.infos_empty] at hi; cases hi
  acts one e he := by rw [BState.infos_empty] at he; cases he
  sing one e he := by rw [BState.singles_empty] at he; cases he
  disj one e he := by rw [BState.infos_empty] at he; cases he
  ch e he := by cases he

theorem lab_append {l : List PInfo} {E : PInfo}
    (hl : ∀ (i j : Nat) (e e' : PInfo), l[i]? = some e → l[j]? = some e' → e.label = e'.label → i = j)
    (hn : ∀ x ∈ l, x.label ≠ E.label) :
    ∀ (i j : Nat) (e e' : PInfo), (l ++ [E])[i]? = some e → (l ++ [E])[j]? = some e' →
      e.label = e'.label → i = j := by
  intro i j e e' hi hj hlab
  rcases getElem?_concat_eq_some.mp hi with hi | ⟨rfl, rfl⟩ <;>
    rcases getElem?_concat_eq_some.mp hj with hj | ⟨rfl, rfl⟩
  · exact hl i j e e' hi hj hlab
  · exact absurd hlab (hn e (List.mem_of_getElem? hi))
  · exact absurd hlab.symm (hn e' (List.mem_of_getElem? hj))
  · rfl

theorem ch_append {c : List (Option Nat × List α)} {E : Option Nat × List α}
    (hc : ∀ e ∈ c, ∀ e' ∈ c, ∀ l, e.1 = some l → e'.1 = some l → e.2 = e'.2)
    (hn : ∀ x ∈ c, E.1 = none ∨ x.1 ≠ E.1) :
    ∀ e ∈ c ++ [E], ∀ e' ∈ c ++ [E], ∀ l, e.1 = some l → e'.1 = some l → e.2 = e'.2 := by
  intro e hm e' hm' l h1 h2
  simp only [List.mem_append, List.mem_singleton] at hm hm'
  rcases hm with hm | hm <;> rcases hm' with hm' | hm'
  · exact hc e hm e' hm' l h1 h2
  · subst hm'
    rcases hn e hm with h | h
    · rw [h] at h2; cases h2
    · rw [h1, h2] at h; exact absurd rfl h
  · subst hm
    rcases hn e' hm' with h | h
    · rw [h] at h1; cases h1
    · rw [h1, h2] at h; exact absurd rfl h
  · subst hm hm'; rfl

theorem Inv.addSingle {s : BState α} (hi : Inv s) {one : Bool} {x : Nat × Nat}
    (h1 : ∀ e ∈ s.infos one, e.label ≠ x.1) (h2 : ∀ e ∈ s.singles one, e.1 ≠ x.1) :
    Inv (s.addSingle one x) where
  lab := by simpa only [BState.infos_addSingle] using hi.lab
  acts := by simpa only [BState.infos_addSingle] using hi.acts
  sing := BState.forall_singles_addSingle
    (P := fun _ S => ∀ e ∈ S, ∀ e' ∈ S, e.1 = e'.1 → e.2 = e'.2) hi.sing (by
      intro e hm e' hm' hee
      rcases List.mem_append.mp hm with hm | hm <;> rcases List.mem_append.mp hm' with hm' | hm'
      · exact hi.sing one e hm e' hm' hee
      · rw [List.mem_singleton.mp hm'] at hee; exact absurd hee (h2 e hm)
      · rw [List.mem_singleton.mp hm] at hee; exact absurd hee.symm (h2 e' hm')
      · rw [List.mem_singleton.mp hm, List.mem_singleton.mp hm'])
  disj := by
    simp only [BState.infos_addSingle]
    exact BState.forall_singles_addSingle
      (P := fun me S => ∀ e ∈ s.infos me, ∀ e' ∈ S, e.label ≠ e'.1) hi.disj (by
        intro e hm e' hm'
        rcases List.mem_append.mp hm' with hm' | hm'
        · exact hi.disj one e hm e' hm'
        · rw [List.mem_singleton.mp hm']; exact h1 e hm)
  ch := by simpa only [BState.chance_addSingle] using hi.ch

theorem Inv.addInfo {s : BState α} (hi : Inv s) {one : Bool} {e0 : PInfo}
    (h1 : ∀ e ∈ s.infos one, e.label ≠ e0.label) (h2 : ∀ e ∈ s.singles one, e.1 ≠ e0.label)
    (h3 : e0.actions.Nodup) (h4 : 2 ≤ e0.actions.length) : Inv (s.addInfo one e0) where
  lab := BState.forall_infos_addInfo
    (P := fun _ I => ∀ (i j : Nat) (e e' : PInfo), I[i]? = some e → I[j]? = some e' →
      e.label = e'.label → i = j) hi.lab (lab_append (hi.lab one) h1)
  acts := BState.forall_infos_addInfo
    (P := fun _ I => ∀ e ∈ I, e.actions.Nodup ∧ 2 ≤ e.actions.length) hi.acts (by
      intro e he
      rcases List.mem_append.mp he with he | he
      · exact hi.acts one e he
      · rw [List.mem_singleton.mp he]; exact ⟨h3, h4⟩)
  sing := by simpa only [BState.singles_addInfo] using hi.sing
  disj := by
    simp only [BState.singles_addInfo]
    exact BState.forall_infos_addInfo
      (P := fun me I => ∀ e ∈ I, ∀ e' ∈ s.singles me, e.label ≠ e'.1) hi.disj (by
        intro e he e' he'
        rcases List.mem_append.mp he with he | he
        · exact hi.disj one e he e' he'
        · rw [List.mem_singleton.mp he]; exact (h2 e' he').symm)
  ch := by simpa only [BState.chance_addInfo] using hi.ch

theorem Inv.addChance {s : BState α} (hi : Inv s) {E : Option Nat × List α}
    (hn : ∀ x ∈ s.chance, E.1 = none ∨ x.1 ≠ E.1) : Inv (s.addChance E) where
  lab := by simpa only [BState.infos_addChance] using hi.lab
  acts := by simpa only [BState.infos_addChance] using hi.acts
  sing := by simpa only [BState.singles_addChance] using hi.sing
  disj := by simpa only [BState.infos_addChance, BState.singles_addChance] using hi.disj
  ch := ch_append hi.ch hn

theorem Inv.registerSingle {one : Bool} {info a : Nat} {s s' : BState α} (hi : Inv s)
    (h : registerSingle one info a s = .ok s') : Inv s' := by
  rcases registerSingle_cases h with ⟨rfl, _⟩ | ⟨rfl, h1, h2⟩
  exacts [hi, hi.addSingle h1 h2]

theorem Inv.registerPlayer {one : Bool} {info : Nat} {acts : List Nat} {prev : Prev} {i : Nat}
    {s s' : BState α} (hi : Inv s) (h2 : 2 ≤ acts.length)
    (h : registerPlayer one info acts prev s = .ok (i, s')) : Inv s' := by
  rcases registerPlayer_cases h with ⟨rfl, _⟩ | ⟨rfl, _, h3, h4, h5⟩
  exacts [hi, hi.addInfo h3 h4 h5 h2]

theorem Inv.registerChance {info : Option Nat} {probs : List α} {nodes : List (Node α)}
    {n : Node α} {s s' : BState α} (hi : Inv s)
    (h : registerChance info probs nodes s = .ok (n, s')) : Inv s' := by
  rcases (registerChance_cases h).1 with rfl | ⟨rfl, hn⟩
  exacts [hi, hi.addChance hn]

theorem compileAll_inv :
    (∀ (r : Raw α) (prev : Prev) (s : BState α) (n : Node α) (s' : BState α),
      compile r prev s = .ok (n, s') → Inv s → Inv s') ∧
    (∀ (ws : List α) (ks : List (Raw α)) (prev : Prev) (s : BState α) (ps : List α)
      (ns : List (Node α)) (s' : BState α), compileOutcomes ws ks prev s = .ok (ps, ns, s') →
      Inv s → Inv s') ∧
    (∀ (ks : List (Raw α)) (one : Bool) (i a : Nat) (prev : Prev) (s : BState α)
      (ns : List (Node α)) (s' : BState α), compileActions ks one i a prev s = .ok (ns, s') →
      Inv s → Inv s') :=
  compile_ok_rec {
    term := fun _ _ _ hi => hi
    chance := fun _ _ _ _ _ _ _ _ _ _ _ ih hr hi => (ih hi).registerChance hr
    single := fun _ _ _ _ _ _ _ _ _ _ hr _ ih hi => ih (hi.registerSingle hr)
    multi := fun _ _ _ _ _ _ _ _ _ _ _ _ _ hr _ ih hi => ih (hi.registerPlayer (by simp) hr)
    onil := fun _ _ _ _ _ hi => hi
    ocons := fun _ _ _ _ _ _ _ _ _ _ _ _ _ ih1 _ ih2 hi => ih2 (ih1 hi)
    anil := fun _ _ _ _ _ hi => hi
    acons := fun _ _ _ _ _ _ _ _ _ _ _ _ ih1 _ ih2 hi => ih2 (ih1 hi) }

theorem Inv.compile {r : Raw α} {prev : Prev} {s s' : BState α} {n : Node α} (hi : Inv s)
    (h : compile r prev s = .ok (n, s')) : Inv s' := compileAll_inv.1 _ _ _ _ _ h hi
theorem Inv.compileOutcomes {ws : List α} {ks : List (Raw α)} {prev : Prev} {s s' : BState α}
    {ps : List α} {ns : List (Node α)} (hi : Inv s)
    (h : compileOutcomes ws ks prev s = .ok (ps, ns, s')) : Inv s' :=
  compileAll_inv.2.1 _ _ _ _ _ _ _ h hi
theorem Inv.compileActions {ks : List (Raw α)} {one : Bool} {i a : Nat} {prev : Prev}
    {s s' : BState α} {ns : List (Node α)} (hi : Inv s)
    (h : compileActions ks one i a prev s = .ok (ns, s')) : Inv s' :=
  compileAll_inv.2.2 _ _ _ _ _ _ _ _ h hi

/-! ## soundness: what is accepted conforms to every assignment agreeing with the final tables -/

/-- the assignment agrees with every entry of the tables (history part: *whatever* history the
`prev` pointer of an entry spells is the assigned one) -/
structure AgreeW (A : Assignment α) (s : BState α) : Prop where
  ch : ∀ e ∈ s.chance, ∀ l, e.1 = some l → A.cprob l = e.2
  acts : ∀ one, ∀ e ∈ s.infos one, A.acts one e.label = e.actions
  hist : ∀ one, ∀ e ∈ s.infos one, ∀ h, LH (s.infos one) e.prev h → A.hist one e.label = h
  sing : ∀ one, ∀ e ∈ s.singles one, A.acts one e.1 = [e.2]

theorem AgreeW.down {A : Assignment α} {s s' : BState α} (a : AgreeW A s') (g : GrowsAll s s') :
    AgreeW A s :=
  ⟨fun e he => a.ch e (g.chance.subset he),
   fun o e he => a.acts o e ((g.infos o).subset he),
   fun o e he h hh => a.hist o e ((g.infos o).subset he) h (hh.mono (g.infos o)),
   fun o e he => a.sing o e ((g.singles o).subset he)⟩

/-- the `prev` pointers threaded down the DFS spell the label histories `h1`, `h2` -/
def PrevH (s : BState α) (prev : Prev) (h1 h2 : LHist) : Prop :=
  ∀ one : Bool, LH (s.infos one) (prev.get one) (if one then h1 else h2)

theorem PrevH.mono {s s' : BState α} {prev : Prev} {h1 h2 : LHist} (p : PrevH s prev h1 h2)
    (g : GrowsAll s s') : PrevH s' prev h1 h2 := fun o => (p o).mono (g.infos o)

theorem PrevH.set {s : BState α} {prev : Prev} {h1 h2 : LHist} (p : PrevH s prev h1 h2)
    {one : Bool} {i a x : Nat} {E : PInfo} (multi : Prop) [Decidable multi] (hm : multi)
    (hE : (s.infos one)[i]? = some E) (hp : E.prev = prev.get one) (hx : E.actions[a]? = some x) :
    PrevH s (prev.set one (some (i, a)))
      (if multi ∧ one then h1 ++ [(E.label, x)] else h1)
      (if multi ∧ ¬ one then h2 ++ [(E.label, x)] else h2) := by
  intro o
  have key := LH.step i a E x _ hE hx (hp ▸ p one)
  rw [Prev.get_set]
  cases one <;> cases o <;> simp only [hm, true_and, Bool.false_eq_true, not_false_eq_true,
    not_true_eq_false, if_true, if_false, reduceCtorEq]
  · exact key
  · exact p true
  · exact p false
  · exact key

theorem chanceDist_eq_normalise {ws : List α} {nodes : List (Node α)}
    (hl : ws.length = nodes.length) (hw : ∀ w ∈ ws, 0 < w) : chanceDist ws nodes = normalise ws := by
  unfold chanceDist normalise
  split_ifs with h
  · obtain ⟨w, rfl⟩ := List.length_eq_one_iff.mp (hl.trans h)
    have : w ≠ 0 := (hw w (by simp)).ne'
    simp [this]
  · rw [lsum_eq_sum]

theorem drop_eq_cons {β : Type} {l : List β} {a : Nat} {x : β} {t : List β} (h : l.drop a = x :: t) :
    l[a]? = some x ∧ l.drop (a + 1) = t := by
  have ha : a < l.length := by
    by_contra hc
    rw [List.drop_eq_nil_of_le (Nat.le_of_not_lt hc)] at h
    cases h
  rw [List.drop_eq_getElem_cons ha] at h
  obtain ⟨h1, h2⟩ := List.cons.inj h
  exact ⟨(List.getElem?_eq_getElem ha).trans (congrArg some h1), h2⟩

/-- by induction over the run: the tree conforms to every assignment that agrees with the tables
the run ends with -/
theorem compileAll_sound :
    (∀ (r : Raw α) (prev : Prev) (s : BState α) (n : Node α) (s' : BState α),
      compile r prev s = .ok (n, s') → Raw.Shape r → Inv s →
      ∀ (A : Assignment α), AgreeW A s' → ∀ h1 h2, PrevH s prev h1 h2 → Conforms A r h1 h2) ∧
    (∀ (ws : List α) (ks : List (Raw α)) (prev : Prev) (s : BState α) (ps : List α)
      (ns : List (Node α)) (s' : BState α), compileOutcomes ws ks prev s = .ok (ps, ns, s') →
      ws.length = ks.length → Raw.ShapeL ks → Inv s →
      ∀ (A : Assignment α), AgreeW A s' → ∀ h1 h2, PrevH s prev h1 h2 → ConformsL A ks h1 h2) ∧
    (∀ (ks : List (Raw α)) (one : Bool) (i a : Nat) (prev : Prev) (s : BState α)
      (ns : List (Node α)) (s' : BState α), compileActions ks one i a prev s = .ok (ns, s') →
      Raw.ShapeL ks → Inv s →
      ∀ (A : Assignment α), AgreeW A s' → ∀ h1 h2, PrevH s prev h1 h2 →
      ∀ (E : PInfo) (as : List Nat) (multi : Prop) [Decidable multi], multi →
        (s.infos one)[i]? = some E → E.prev = prev.get one → E.actions.drop a = as →
        as.length = ks.length → ConformsA A one E.label multi as ks h1 h2) :=
  compile_ok_rec {
    term := fun _ _ _ _ _ _ _ _ _ _ => trivial
    chance := by
      intro info ws kids prev s probs nodes s1 n s' hco ih hr hs hi A hA h1 h2 hp
      obtain ⟨_, hpos, hshape⟩ := compileOutcomes_shape hco
      obtain ⟨rfl, hlen⟩ := hshape hs.1
      obtain ⟨_, hmem, hnode⟩ := registerChance_cases hr
      have hl : probs.length = nodes.length := hs.1.trans hlen.symm
      refine ⟨hs.1, ?_, hpos, fun l hl' => ?_,
        ih hs.1 hs.2 hi A (hA.down (registerChance_spec hr).1) h1 h2 hp⟩
      · rintro rfl
        rcases hnode with rfl | ⟨h2, _⟩
        · cases hl
        · rw [← hl] at h2; cases h2
      · rw [hA.ch _ (hmem l hl') l rfl]
        exact chanceDist_eq_normalise hl hpos
    single := by
      intro one info a k ks prev s s1 n s' hr hc ih hs hi A hA h1 h2 hp
      obtain rfl : ks = [] := List.eq_nil_of_length_eq_zero (Nat.succ.inj hs.1).symm
      obtain ⟨hg1, hm, _⟩ := registerSingle_spec hr
      have hk := ih hs.2.1 (hi.registerSingle hr) A hA h1 h2 (hp.mono hg1)
      have ha := hA.sing one _ (((compile_grows hc).singles one).subset hm)
      have h21 : ¬ 2 ≤ [a].length := Nat.lt_irrefl 1
      refine ⟨rfl, nofun, ha, List.nodup_singleton a, fun h => absurd h h21, ?_, trivial⟩
      rw [if_neg fun h => h21 h.1, if_neg fun h => h21 h.1]
      exact hk
    multi := by
      intro one info a b as k ks prev s i s1 nodes s' hr hco ih hs hi A hA h1 h2 hp
      obtain ⟨hg1, hE, _⟩ := registerPlayer_spec hr
      have i1 := hi.registerPlayer (by simp) hr
      have hg2 := compileActions_grows hco
      have hE' := List.mem_of_getElem? (prefix_getElem? (hg2.infos one) hE)
      exact ⟨hs.1, by simp, hA.acts one _ hE', (i1.acts one _ (List.mem_of_getElem? hE)).1,
        fun _ => hA.hist one _ hE' _ ((hp one).mono ((hg1.trans hg2).infos one)),
        ih hs.2 i1 A hA h1 h2 (hp.mono hg1) ⟨info, a :: b :: as, prev.get one⟩ (a :: b :: as) _
          (by simp) hE rfl rfl hs.1⟩
    onil := by
      intro ws ks prev s h hl _ _ A _ h1 h2 _
      obtain rfl : ks = [] := by
        rcases h with rfl | h
        · exact List.eq_nil_of_length_eq_zero hl.symm
        · exact h
      trivial
    ocons := by
      intro w ws k ks prev s n s1 ps ns s' _ hc1 ih1 hc2 ih2 hl hs hi A hA h1 h2 hp
      exact ⟨ih1 hs.1 hi A (hA.down (compileOutcomes_grows hc2)) h1 h2 hp,
        ih2 (Nat.succ.inj hl) hs.2 (hi.compile hc1) A hA h1 h2 (hp.mono (compile_grows hc1))⟩
    anil := by
      intro one i a prev s _ _ A _ h1 h2 _ E as multi _ _ _ _ _ _
      cases as <;> trivial
    acons := by
      intro k ks one i a prev s n s1 ns s' hc1 ih1 hc2 ih2 hs hi A hA h1 h2 hp E as multi _ hm hE hpr
        hd hl
      match as, hd, hl with
      | x :: as, hd, hl =>
        obtain ⟨hx, hd'⟩ := drop_eq_cons hd
        have g1 := compile_grows hc1
        exact ⟨ih1 hs.1 hi A (hA.down (compileActions_grows hc2)) _ _ (hp.set multi hm hE hpr hx),
          ih2 hs.2 (hi.compile hc1) A hA h1 h2 (hp.mono g1) E as multi hm
            (prefix_getElem? (g1.infos one) hE) hpr hd' (Nat.succ.inj hl)⟩ }

theorem compileOutcomes_sound : ∀ (ws : List α) (ks : List (Raw α)) (prev : Prev) (s : BState α)
    (ps : List α) (ns : List (Node α)) (s' : BState α),
    compileOutcomes ws ks prev s = .ok (ps, ns, s') → ws.length = ks.length → Raw.ShapeL ks → Inv s →
    (ps = ws ∧ ns.length = ks.length ∧ ∀ w ∈ ws, 0 < w) ∧
    ∀ (A : Assignment α), AgreeW A s' → ∀ h1 h2, PrevH s prev h1 h2 → ConformsL A ks h1 h2 :=
  fun ws ks prev s ps ns s' h hl hs hi => by
    obtain ⟨_, hpos, hshape⟩ := compileOutcomes_shape h
    obtain ⟨rfl, hlen⟩ := hshape hl
    exact ⟨⟨rfl, hlen, hpos⟩, compileAll_sound.2.1 _ _ _ _ _ _ _ h hl hs hi⟩

theorem compileActions_sound : ∀ (ks : List (Raw α)) (one : Bool) (i a : Nat) (prev : Prev)
    (s : BState α) (ns : List (Node α)) (s' : BState α),
    compileActions ks one i a prev s = .ok (ns, s') → Raw.ShapeL ks → Inv s →
    ∀ (A : Assignment α), AgreeW A s' → ∀ h1 h2, PrevH s prev h1 h2 →
    ∀ (E : PInfo) (as : List Nat) (multi : Prop) [Decidable multi], multi →
      (s.infos one)[i]? = some E → E.prev = prev.get one → E.actions.drop a = as →
      as.length = ks.length → ConformsA A one E.label multi as ks h1 h2 :=
  compileAll_sound.2.2

theorem Inv.lab_mem {s : BState α} (hi : Inv s) {one : Bool} {e e' : PInfo}
    (he : e ∈ s.infos one) (he' : e' ∈ s.infos one) (h : e.label = e'.label) : e = e' := by
  obtain ⟨i, hi1⟩ := List.getElem?_of_mem he
  obtain ⟨j, hj1⟩ := List.getElem?_of_mem he'
  have := hi.lab one i j e e' hi1 hj1 h
  subst this
  rw [hi1] at hj1; exact Option.some.inj hj1

open Classical in
noncomputable def assignOf (s : BState α) : Assignment α where
  cprob l := match s.chance.find? (fun e => e.1 == some l) with
    | some e => e.2
    | none => []
  acts one l := match (s.infos one).find? (fun e => e.label == l) with
    | some e => e.actions
    | none => match (s.singles one).find? (fun e => e.1 == l) with
      | some e => [e.2]
      | none => []
  hist one l :=
    if h : ∃ hh, ∃ e ∈ s.infos one, e.label = l ∧ LH (s.infos one) e.prev hh then Classical.choose h
    else []

theorem agreeW_assignOf (s : BState α) (hi : Inv s) : AgreeW (assignOf s) s := by
  refine ⟨?_, ?_, ?_, ?_⟩
  · intro e he l hl
    simp only [assignOf]
    split
    · rename_i e' hf
      have hp := List.find?_some hf
      exact hi.ch e' (List.mem_of_find?_eq_some hf) e he l (eq_of_beq hp) hl
    · rename_i hf
      exact absurd (beq_iff_eq.mpr hl) (List.find?_eq_none.mp hf e he)
  · intro one e he
    simp only [assignOf]
    split
    · rename_i e' hf
      have hp := List.find?_some hf
      rw [hi.lab_mem (List.mem_of_find?_eq_some hf) he (eq_of_beq hp)]
    · rename_i hf
      exact absurd (beq_iff_eq.mpr rfl) (List.find?_eq_none.mp hf e he)
  · intro one e he h hh
    have hex : ∃ hh, ∃ e' ∈ s.infos one, e'.label = e.label ∧ LH (s.infos one) e'.prev hh :=
      ⟨h, e, he, rfl, hh⟩
    simp only [assignOf, hex, dif_pos]
    obtain ⟨e', he', hl', hh'⟩ := Classical.choose_spec hex
    have := hi.lab_mem he' he hl'
    subst this
    exact hh'.func hh
  · intro one e he
    simp only [assignOf]
    split
    · rename_i e' hf
      have hp := List.find?_some hf
      exact absurd (eq_of_beq hp) (hi.disj one e' (List.mem_of_find?_eq_some hf) e he)
    · split
      · rename_i e' hf
        have hp := List.find?_some hf
        rw [hi.sing one e' (List.mem_of_find?_eq_some hf) e he (eq_of_beq hp)]
      · rename_i hf
        exact absurd (beq_iff_eq.mpr rfl) (List.find?_eq_none.mp hf e he)

theorem PrevH.empty : PrevH ({} : BState α) {} [] [] := by
  intro o
  rw [Prev.get_empty, ite_self]
  exact LH.nil

theorem fromRoot_ok_valid (r : Raw α) (hs : Raw.Shape r) (g : Game α) (h : fromRoot r = .ok g) :
    Valid r := by
  obtain ⟨root, s, hc, _⟩ := fromRoot_state h
  exact ⟨assignOf s, compileAll_sound.1 r {} {} root s hc hs Inv.empty _
    (agreeW_assignOf s (Inv.empty.compile hc)) [] [] PrevH.empty⟩

/-! ## completeness: a tree conforming to an assignment is accepted -/

/-- the tables agree with the assignment (history part: the `prev` pointer of an entry spells
the assigned history) -/
structure AgreeS (A : Assignment α) (s : BState α) : Prop where
  ch : ∀ e ∈ s.chance, ∀ l, e.1 = some l → A.cprob l = e.2
  acts : ∀ one, ∀ e ∈ s.infos one, A.acts one e.label = e.actions
  hist : ∀ one, ∀ e ∈ s.infos one, LH (s.infos one) e.prev (A.hist one e.label)
  sing : ∀ one, ∀ e ∈ s.singles one, A.acts one e.1 = [e.2]

theorem AgreeS.empty (A : Assignment α) : AgreeS A ({} : BState α) where
  ch e he := by cases he
  acts one e he := by rw [BState.infos_empty] at he; cases he
  hist one e he := by rw [BState.infos_empty] at he; cases he
  sing one e he := by rw [BState.singles_empty] at he; cases he

theorem AgreeS.addSingle {A : Assignment α} {s : BState α} (hA : AgreeS A s) {one : Bool}
    {x : Nat × Nat} (hx : A.acts one x.1 = [x.2]) : AgreeS A (s.addSingle one x) where
  ch := by simpa only [BState.chance_addSingle] using hA.ch
  acts := by simpa only [BState.infos_addSingle] using hA.acts
  hist := by simpa only [BState.infos_addSingle] using hA.hist
  sing := BState.forall_singles_addSingle (P := fun me S => ∀ e ∈ S, A.acts me e.1 = [e.2])
    hA.sing (by
      intro e he
      rcases List.mem_append.mp he with he | he
      · exact hA.sing one e he
      · rw [List.mem_singleton.mp he]; exact hx)

theorem AgreeS.addInfo {A : Assignment α} {s : BState α} (hA : AgreeS A s) {one : Bool}
    {e0 : PInfo} (h1 : A.acts one e0.label = e0.actions)
    (h2 : LH (s.infos one) e0.prev (A.hist one e0.label)) : AgreeS A (s.addInfo one e0) where
  ch := by simpa only [BState.chance_addInfo] using hA.ch
  acts := BState.forall_infos_addInfo (P := fun me I => ∀ e ∈ I, A.acts me e.label = e.actions)
    hA.acts (by
      intro e he
      rcases List.mem_append.mp he with he | he
      · exact hA.acts one e he
      · rw [List.mem_singleton.mp he]; exact h1)
  hist := BState.forall_infos_addInfo
    (P := fun me I => ∀ e ∈ I, LH I e.prev (A.hist me e.label)) hA.hist (by
      intro e he
      rcases List.mem_append.mp he with he | he
      · exact (hA.hist one e he).mono (List.prefix_append _ _)
      · rw [List.mem_singleton.mp he]; exact h2.mono (List.prefix_append _ _))
  sing := by simpa only [BState.singles_addInfo] using hA.sing

theorem AgreeS.addChance {A : Assignment α} {s : BState α} (hA : AgreeS A s)
    {E : Option Nat × List α} (hE : ∀ l, E.1 = some l → A.cprob l = E.2) :
    AgreeS A (s.addChance E) where
  ch := by
    intro e hm l hl
    rcases List.mem_append.mp hm with hm | hm
    · exact hA.ch e hm l hl
    · rw [List.mem_singleton.mp hm] at hl ⊢; exact hE l hl
  acts := by simpa only [BState.infos_addChance] using hA.acts
  hist := by simpa only [BState.infos_addChance] using hA.hist
  sing := by simpa only [BState.singles_addChance] using hA.sing

theorem registerSingle_complete {A : Assignment α} {one : Bool} {info a : Nat} {s : BState α}
    (hA : AgreeS A s) (hi : Inv s) (ha : A.acts one info = [a]) :
    ∃ s', registerSingle one info a s = .ok s' ∧ AgreeS A s' := by
  obtain ⟨s', h⟩ := registerSingle_ok_of (s := s) (one := one) (info := info) (a := a)
    (fun e he hl => by
      have h3 := (hi.acts one e he).2
      rw [← hA.acts one e he, hl, ha] at h3
      cases h3 with | step h => cases h)
    (fun e he hl => by
      have := hA.sing one e he
      rw [hl, ha] at this
      exact (List.cons.inj this).1.symm)
  refine ⟨s', h, ?_⟩
  rcases registerSingle_cases h with ⟨rfl, _⟩ | ⟨rfl, _⟩
  exacts [hA, hA.addSingle ha]

theorem registerPlayer_complete {A : Assignment α} {one : Bool} {info : Nat} {acts : List Nat}
    {prev : Prev} {s : BState α}
    (hA : AgreeS A s) (hi : Inv s) (ha : A.acts one info = acts) (hnd : acts.Nodup)
    (h2 : 2 ≤ acts.length) (hh : LH (s.infos one) (prev.get one) (A.hist one info)) :
    ∃ i s', registerPlayer one info acts prev s = .ok (i, s') ∧ AgreeS A s' := by
  obtain ⟨i, s', h⟩ := registerPlayer_ok_of (prev := prev) (s := s) (one := one) (info := info)
    (acts := acts)
    (fun e he hl => by
      refine ⟨by rw [← hA.acts one e he, hl, ha], ?_⟩
      have := hA.hist one e he
      rw [hl] at this
      exact LH.inj (hi.lab one) (fun e he => (hi.acts one e he).1) this hh rfl)
    (fun e he hl => by
      have := hA.sing one e he
      rw [hl, ha] at this
      rw [this] at h2
      cases h2 with | step h => cases h)
    hnd
  refine ⟨i, s', h, ?_⟩
  rcases registerPlayer_cases h with ⟨rfl, _⟩ | ⟨rfl, _⟩
  exacts [hA, hA.addInfo ha hh]

theorem registerChance_complete {A : Assignment α} {info : Option Nat} {probs : List α}
    {nodes : List (Node α)} {s : BState α}
    (hA : AgreeS A s) (hne : nodes ≠ [])
    (hc : ∀ l, info = some l → A.cprob l = chanceDist probs nodes) :
    ∃ n s', registerChance info probs nodes s = .ok (n, s') ∧ AgreeS A s' := by
  obtain ⟨n, s', h⟩ := registerChance_ok_of (info := info) (probs := probs) (s := s) hne
    (fun l hl e he hel => by rw [← hc l hl]; exact (hA.ch e he l hel).symm)
  refine ⟨n, s', h, ?_⟩
  rcases (registerChance_cases h).1 with rfl | ⟨rfl, _⟩
  exacts [hA, hA.addChance hc]

mutual
theorem compile_complete (r : Raw α) : ∀ (prev : Prev) (s : BState α) (A : Assignment α)
    (h1 h2 : LHist), Conforms A r h1 h2 → AgreeS A s → Inv s → PrevH s prev h1 h2 →
    ∃ n s', compile r prev s = .ok (n, s') ∧ AgreeS A s' :=
  match r with
  | .term pay => fun prev s A h1 h2 hc hA hi hp => ⟨_, _, compile_term pay, hA⟩
  | .chance info ws kids => fun prev s A h1 h2 hc hA hi hp => by
    obtain ⟨c1, c2, c3, c4, c5⟩ := hc
    obtain ⟨ns, s1, ho, hl, hA1⟩ := compileOutcomes_complete ws kids prev s A h1 h2 c1 c3 c5 hA hi hp
    rw [compile_chance, ho]
    refine registerChance_complete hA1 ?_ fun l hl' => ?_
    · rintro rfl
      exact c2 (List.eq_nil_of_length_eq_zero (c1.trans hl.symm))
    · rw [c4 l hl']
      exact (chanceDist_eq_normalise (c1.trans hl.symm) c3).symm
  | .player one info [] kids => fun prev s A h1 h2 hc hA hi hp => absurd rfl hc.2.1
  | .player one info (a :: as) [] => fun prev s A h1 h2 hc hA hi hp => nomatch hc.1
  | .player one info [a] (k :: ks) => fun prev s A h1 h2 hc hA hi hp => by
    obtain ⟨_, _, c3, _, _, c6, _⟩ := hc
    obtain ⟨s1, hr, hA1⟩ := registerSingle_complete hA hi c3
    have h21 : ¬ 2 ≤ [a].length := Nat.lt_irrefl 1
    rw [if_neg fun h => h21 h.1, if_neg fun h => h21 h.1] at c6
    rw [compile_single, hr]
    exact compile_complete k prev s1 A h1 h2 c6 hA1 (hi.registerSingle hr)
      (hp.mono (registerSingle_spec hr).1)
  | .player one info (a :: b :: as) (k :: ks) => fun prev s A h1 h2 hc hA hi hp => by
    obtain ⟨c1, _, c3, c4, c5, c6⟩ := hc
    have hm : 2 ≤ (a :: b :: as).length := Nat.le_add_left 2 _
    have hh : LH (s.infos one) (prev.get one) (A.hist one info) := by rw [c5 hm]; exact hp one
    obtain ⟨i, s1, hr, hA1⟩ := registerPlayer_complete (prev := prev) hA hi c3 c4 hm hh
    obtain ⟨g1, hE, _⟩ := registerPlayer_spec hr
    obtain ⟨ns, s2, hk, hA2⟩ := compileActions_complete (k :: ks) one i 0 prev s1 A h1 h2
      ⟨info, a :: b :: as, prev.get one⟩ (a :: b :: as) (2 ≤ (a :: b :: as).length) hm hE rfl rfl
      c6 c1 hA1 (hi.registerPlayer hm hr) (hp.mono g1)
    exact ⟨_, _, by rw [compile_multi, hr, Except.bind_ok, hk]; rfl, hA2⟩
theorem compileOutcomes_complete : ∀ (ws : List α) (ks : List (Raw α)) (prev : Prev) (s : BState α)
    (A : Assignment α) (h1 h2 : LHist), ws.length = ks.length → (∀ w ∈ ws, 0 < w) →
    ConformsL A ks h1 h2 → AgreeS A s → Inv s → PrevH s prev h1 h2 →
    ∃ ns s', compileOutcomes ws ks prev s = .ok (ws, ns, s') ∧ ns.length = ks.length ∧ AgreeS A s' :=
  fun ws ks prev s A h1 h2 hl hw hc hA hi hp =>
  match ws, ks, hl, hw, hc with
  | [], [], _, _, _ => ⟨_, _, compileOutcomes_nil, rfl, hA⟩
  | w :: ws, k :: ks, hl, hw, hc => by
    obtain ⟨n, s1, hk, hA1⟩ := compile_complete k prev s A h1 h2 hc.1 hA hi hp
    obtain ⟨ns, s2, ho, hl2, hA2⟩ := compileOutcomes_complete ws ks prev s1 A h1 h2
      (Nat.succ.inj hl) (fun x hx => hw x (List.mem_cons_of_mem _ hx)) hc.2 hA1 (hi.compile hk)
      (hp.mono (compile_grows hk))
    exact ⟨_, _, by rw [compileOutcomes_cons, if_pos (hw w List.mem_cons_self), hk, Except.bind_ok, ho]; rfl,
      congrArg (· + 1) hl2, hA2⟩
theorem compileActions_complete : ∀ (ks : List (Raw α)) (one : Bool) (i a : Nat) (prev : Prev)
    (s : BState α) (A : Assignment α) (h1 h2 : LHist) (E : PInfo) (as : List Nat)
    (multi : Prop) [Decidable multi], multi →
    (s.infos one)[i]? = some E → E.prev = prev.get one → E.actions.drop a = as →
    ConformsA A one E.label multi as ks h1 h2 → as.length = ks.length →
    AgreeS A s → Inv s → PrevH s prev h1 h2 →
    ∃ ns s', compileActions ks one i a prev s = .ok (ns, s') ∧ AgreeS A s' :=
  fun ks one i a prev s A h1 h2 E as multi _ hm hE hpr hd hc hl hA hi hp =>
  match ks, as, hd, hc, hl with
  | [], _, _, _, _ => ⟨_, _, compileActions_nil, hA⟩
  | k :: ks, x :: as, hd, hc, hl => by
    obtain ⟨hx, hd'⟩ := drop_eq_cons hd
    obtain ⟨n, s1, hk, hA1⟩ := compile_complete k (prev.set one (some (i, a))) s A _ _ hc.1 hA hi
      (hp.set multi hm hE hpr hx)
    have g1 := compile_grows hk
    obtain ⟨ns, s2, ho, hA2⟩ := compileActions_complete ks one i (a + 1) prev s1 A h1 h2 E as multi hm
      (prefix_getElem? (g1.infos one) hE) hpr hd' hc.2 (Nat.succ.inj hl) hA1 (hi.compile hk)
      (hp.mono g1)
    exact ⟨_, _, by rw [compileActions_cons, hk, Except.bind_ok, ho]; rfl, hA2⟩
end

theorem valid_fromRoot_ok (r : Raw α) (hv : Valid r) : ∃ g, fromRoot r = .ok g := by
  obtain ⟨A, hc⟩ := hv
  obtain ⟨n, s, hk, _⟩ := compile_complete r {} {} A [] [] hc (AgreeS.empty A) Inv.empty PrevH.empty
  unfold fromRoot
  simp only [hk]
  exact ⟨_, rfl⟩

/-! ## the local errors are raised at a node violating the rule -/

/-- the four errors naming a rule about one node -/
def LocalErr (e : GameError) : Prop :=
  e = .emptyChance ∨ e = .nonPositiveChance ∨ e = .emptyPlayer ∨ e = .actionsNotUnique

mutual
theorem compile_err (r : Raw α) : ∀ (prev : Prev) (s : BState α) (e : GameError),
    compile r prev s = .error e → Raw.Shape r →
    e ≠ .nonFinitePayoff ∧ (LocalErr e → AnyNode (Violates e) r) :=
  match r with
  | .term pay => fun prev s e h hs => by
    rw [compile_term] at h
    cases h
  | .chance info ws kids => fun prev s e h hs => by
    rw [compile_chance] at h
    rcases Except.bind_eq_error.mp h with ho | ⟨x, ho, hr⟩
    · obtain ⟨h1, h2⟩ := compileOutcomes_err ws kids prev s e ho hs.1 hs.2
      refine ⟨h1, fun hl => (h2 hl).imp_left fun hw => ?_⟩
      rw [hw.1]; exact hw.2
    · rcases registerChance_err hr with ⟨rfl, hx⟩ | rfl
      · refine ⟨nofun, fun _ => Or.inl ?_⟩
        have := ((compileOutcomes_shape ho).2.2 hs.1).2
        rw [hx] at this
        exact List.eq_nil_of_length_eq_zero (hs.1.trans this.symm)
      · exact ⟨nofun, fun hl => by simp [LocalErr] at hl⟩
  | .player one info [] kids => fun prev s e h hs => by
    rw [compile] at h
    cases h
    exact ⟨nofun, fun _ => Or.inl rfl⟩
  | .player one info (a :: as) [] => fun prev s e h hs => nomatch hs.1
  | .player one info [a] (k :: ks) => fun prev s e h hs => by
    rw [compile_single] at h
    rcases Except.bind_eq_error.mp h with hr | ⟨s1, _, hk⟩
    · rw [registerSingle_err hr]
      exact ⟨nofun, fun hl => by simp [LocalErr] at hl⟩
    · obtain ⟨h1, h2⟩ := compile_err k prev s1 e hk hs.2.1
      exact ⟨h1, fun hl => Or.inr (Or.inl (h2 hl))⟩
  | .player one info (a :: b :: as) (k :: ks) => fun prev s e h hs => by
    rw [compile_multi] at h
    rcases Except.bind_eq_error.mp h with hr | ⟨x, _, h⟩
    · rcases registerPlayer_err hr with rfl | rfl | ⟨rfl, hn⟩
      · exact ⟨nofun, fun hl => by simp [LocalErr] at hl⟩
      · exact ⟨nofun, fun hl => by simp [LocalErr] at hl⟩
      · exact ⟨nofun, fun _ => Or.inl hn⟩
    · rcases Except.bind_eq_error.mp h with hc | ⟨_, _, h⟩
      · obtain ⟨h1, h2⟩ := compileActions_err (k :: ks) one x.1 0 prev x.2 e hc hs.2
        exact ⟨h1, fun hl => Or.inr (h2 hl)⟩
      · cases h
theorem compileOutcomes_err : ∀ (ws : List α) (ks : List (Raw α)) (prev : Prev) (s : BState α)
    (e : GameError), compileOutcomes ws ks prev s = .error e → ws.length = ks.length →
    Raw.ShapeL ks →
    e ≠ .nonFinitePayoff ∧
    (LocalErr e → (e = .nonPositiveChance ∧ ∃ w ∈ ws, ¬ 0 < w) ∨ AnyNodeL (Violates e) ks) :=
  fun ws ks prev s e h hl hs =>
  match ws, ks, h, hl, hs with
  | [], ks, h, _, _ => nomatch compileOutcomes_nil.symm.trans h
  | w :: ws, k :: ks, h, hl, hs => by
    rw [compileOutcomes_cons] at h
    by_cases hw : 0 < w
    · rw [if_pos hw] at h
      rcases Except.bind_eq_error.mp h with hc | ⟨x, _, h⟩
      · obtain ⟨h1, h2⟩ := compile_err k prev s e hc hs.1
        exact ⟨h1, fun hl => Or.inr (Or.inl (h2 hl))⟩
      · rcases Except.bind_eq_error.mp h with ho | ⟨_, _, h⟩
        · obtain ⟨h1, h2⟩ := compileOutcomes_err ws ks prev x.2 e ho (Nat.succ.inj hl) hs.2
          refine ⟨h1, fun hl => ?_⟩
          rcases h2 hl with ⟨h3, y, hy, hy'⟩ | h3
          · exact Or.inl ⟨h3, y, List.mem_cons_of_mem _ hy, hy'⟩
          · exact Or.inr (Or.inr h3)
        · cases h
    · rw [if_neg hw] at h
      cases h
      exact ⟨nofun, fun _ => Or.inl ⟨rfl, w, List.mem_cons_self, hw⟩⟩
theorem compileActions_err : ∀ (ks : List (Raw α)) (one : Bool) (i a : Nat) (prev : Prev)
    (s : BState α) (e : GameError), compileActions ks one i a prev s = .error e → Raw.ShapeL ks →
    e ≠ .nonFinitePayoff ∧ (LocalErr e → AnyNodeL (Violates e) ks) :=
  fun ks one i a prev s e h hs =>
  match ks, h, hs with
  | [], h, _ => nomatch compileActions_nil.symm.trans h
  | k :: ks, h, hs => by
    rw [compileActions_cons] at h
    rcases Except.bind_eq_error.mp h with hc | ⟨x, _, h⟩
    · obtain ⟨h1, h2⟩ := compile_err k _ s e hc hs.1
      exact ⟨h1, fun hl => Or.inl (h2 hl)⟩
    · rcases Except.bind_eq_error.mp h with ho | ⟨_, _, h⟩
      · obtain ⟨h1, h2⟩ := compileActions_err ks one i (a + 1) prev x.2 e ho hs.2
        exact ⟨h1, fun hl => Or.inr (h2 hl)⟩
      · cases h
end

theorem fromRoot_err (r : Raw α) (hs : Raw.Shape r) (e : GameError) (h : fromRoot r = .error e) :
    e ≠ .nonFinitePayoff ∧ (LocalErr e → AnyNode (Violates e) r) := by
  unfold fromRoot at h
  split at h
  · rename_i e' hc
    cases h
    exact compile_err r {} {} e hc hs
  · cases h

end CompileValid
end Cfr
