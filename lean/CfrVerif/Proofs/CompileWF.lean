import CfrVerif.Proofs.GameWF
import CfrVerif.Proofs.CompileLemmas
/-!
# Whatever `fromRoot` accepts is well formed
-/
set_option linter.unusedSectionVars false
namespace Cfr
variable {α : Type}

mutual
/-- the two component lists of every node have equal lengths (the crate iterates pairs) -/
def Raw.Shape : Raw α → Prop
  | .term _ => True
  | .chance _ ws kids => ws.length = kids.length ∧ Raw.ShapeL kids
  | .player _ _ acts kids => acts.length = kids.length ∧ Raw.ShapeL kids
def Raw.ShapeL : List (Raw α) → Prop
  | [] => True
  | k :: ks => Raw.Shape k ∧ Raw.ShapeL ks
end

variable [Field α] [LinearOrder α] [IsStrictOrderedRing α]

abbrev G (s : BState α) : Game α := s.game (.term 0)

/-- histories read off a larger table agree on the nodes of the smaller one -/
theorem Grows.pr {s s' : BState α} (h : Grows s s') {me : Bool} {H : Hist} {n : Node α}
    (hn : NodeOK (G s) n) (hp : PR me (histOf (s.infos me)) H n) :
    PR me (histOf (s'.infos me)) H n :=
  PR_lift (G s) me _ _ (fun i hi => histOf_prefix (h.infos me) i (by simpa using hi)) n H hn hp

/-- by induction over the run: the invariant is kept, the node built is in range of the final
tables and has perfect recall along the histories those tables spell -/
theorem compileAll_inv :
    (∀ (r : Raw α) (prev : Prev) (s : BState α) (n : Node α) (s' : BState α),
      compile r prev s = .ok (n, s') → Raw.Shape r → BInv s → PrevOK prev s →
      BInv s' ∧ NodeOK (G s') n ∧
        ∀ me, PR me (histOf (s'.infos me)) (histP (s.infos me) (prev.get me)) n) ∧
    (∀ (ws : List α) (ks : List (Raw α)) (prev : Prev) (s : BState α) (ps : List α)
      (ns : List (Node α)) (s' : BState α), compileOutcomes ws ks prev s = .ok (ps, ns, s') →
      Raw.ShapeL ks → BInv s → PrevOK prev s →
      BInv s' ∧ NodeOKL (G s') ns ∧
        ∀ me, PRL me (histOf (s'.infos me)) (histP (s.infos me) (prev.get me)) ns) ∧
    (∀ (ks : List (Raw α)) (one : Bool) (i a : Nat) (prev : Prev) (s : BState α)
      (ns : List (Node α)) (s' : BState α), compileActions ks one i a prev s = .ok (ns, s') →
      Raw.ShapeL ks → BInv s → PrevOK prev s →
      (∃ e, (s.infos one)[i]? = some e ∧ e.prev = prev.get one) →
      BInv s' ∧ NodeOKL (G s') ns ∧ ns.length = ks.length ∧
        ∀ me, if one = me
          then PRD me (histOf (s'.infos me)) (histP (s.infos me) (prev.get me)) i a ns
          else PRL me (histOf (s'.infos me)) (histP (s.infos me) (prev.get me)) ns) :=
  compile_ok_rec {
    term := fun pay prev s _ hb hp => ⟨hb, trivial, fun _ => trivial⟩
    chance := by
      intro info ws kids prev s probs nodes s1 n s' hco ih hr hs hb hp
      obtain ⟨hb1, hn1, hpr1⟩ := ih hs.2 hb hp
      obtain ⟨hl, hpos, _⟩ := compileOutcomes_shape hco
      obtain ⟨hb2, hn2, hpr2⟩ := registerChance_inv hr hb1 hl hpos hn1
      refine ⟨hb2, hn2, fun me => hpr2 me _ _ ?_⟩
      rw [(registerChance_spec hr).2 me]; exact hpr1 me
    single := by
      intro one info a k ks prev s s1 n s' hr _ ih hs hb hp
      obtain ⟨hg1, _, hi1⟩ := registerSingle_spec hr
      obtain ⟨hb2, hn2, hpr2⟩ := ih hs.2.1 (registerSingle_inv hr hb) (hp.mono hg1.grows)
      refine ⟨hb2, hn2, fun me => ?_⟩
      rw [← hi1 me]; exact hpr2 me
    multi := by
      intro one info a b as k ks prev s i s1 nodes s' hr hco ih hs hb hp
      obtain ⟨hg1, he, _⟩ := registerPlayer_spec hr
      have hg1 := hg1.grows
      have hg2 := (compileActions_grows hco).grows
      have hb1 := registerPlayer_inv hr (Nat.le_add_left 2 _) hb hp
      obtain ⟨hb2, hn2, hl2, hpr2⟩ := ih hs.2 hb1 (hp.mono hg1) ⟨_, he, rfl⟩
      have he' : ((G s').infos one)[i]? = some ⟨info, a :: b :: as, prev.get one⟩ := by
        rw [BState.game_infos]; exact prefix_getElem? (hg2.infos one) he
      refine ⟨hb2, ⟨⟨_, he', hs.1.trans hl2.symm⟩, ?_, hn2⟩, fun me => ?_⟩
      · rw [hl2, ← hs.1]; exact Nat.le_add_left 2 _
      · have hrest := hpr2 me
        rw [histP_prefix (hg1.infos me) _ (hp me)] at hrest
        change if one = me then _ else _
        by_cases hm : one = me
        · subst hm
          rw [if_pos rfl] at hrest ⊢
          refine ⟨?_, hrest⟩
          rw [histOf_prefix (hg2.infos one) i (lt_of_getElem?_some he),
            histOf_eq_histP he (hb1.prevLt one i _ he), histP_prefix (hg1.infos one) _ (hp one)]
        · rw [if_neg hm] at hrest ⊢
          exact hrest
    onil := fun ws ks prev s _ _ hb hp => ⟨hb, trivial, fun _ => trivial⟩
    ocons := by
      intro w ws k ks prev s n s1 ps ns s' hw hc1 ih1 hc2 ih2 hs hb hp
      have hg1 := (compile_grows hc1).grows
      have hg2 := (compileOutcomes_grows hc2).grows
      obtain ⟨hb1, hn1, hpr1⟩ := ih1 hs.1 hb hp
      obtain ⟨hb2, hn2, hpr2⟩ := ih2 hs.2 hb1 (hp.mono hg1)
      refine ⟨hb2, ⟨hg2.nodeOK hn1, hn2⟩, fun me => ?_⟩
      have hrest := hpr2 me
      rw [histP_prefix (hg1.infos me) _ (hp me)] at hrest
      exact ⟨hg2.pr hn1 (hpr1 me), hrest⟩
    anil := by
      intro one i a prev s _ hb hp hi
      refine ⟨hb, trivial, rfl, fun me => ?_⟩
      by_cases hm : one = me
      · rw [if_pos hm]; trivial
      · rw [if_neg hm]; trivial
    acons := by
      intro k ks one i a prev s n s1 ns s' hc1 ih1 hc2 ih2 hs hb hp hi
      obtain ⟨e, he, hep⟩ := hi
      have hg1 := (compile_grows hc1).grows
      have hg2 := (compileActions_grows hc2).grows
      have hp' : PrevOK (prev.set one (some (i, a))) s := by
        intro me j b hj
        rw [Prev.get_set] at hj
        by_cases hm : one = me
        · rw [if_pos hm] at hj; subst hm; cases hj
          exact lt_of_getElem?_some he
        · rw [if_neg hm] at hj; exact hp me j b hj
      obtain ⟨hb1, hn1, hpr1⟩ := ih1 hs.1 hb hp'
      obtain ⟨hb2, hn2, hl2, hpr2⟩ := ih2 hs.2 hb1 (hp.mono hg1)
        ⟨e, prefix_getElem? (hg1.infos one) he, hep⟩
      refine ⟨hb2, ⟨hg2.nodeOK hn1, hn2⟩, congrArg (· + 1) hl2, fun me => ?_⟩
      have hk := hg2.pr hn1 (hpr1 me)
      have hrest := hpr2 me
      rw [histP_prefix (hg1.infos me) _ (hp me)] at hrest
      rw [Prev.get_set] at hk
      by_cases hm : one = me
      · subst hm
        rw [if_pos rfl] at hrest hk ⊢
        rw [histP, histOf_eq_histP he (hb.prevLt one i e he), hep] at hk
        exact ⟨hk, hrest⟩
      · rw [if_neg hm] at hrest hk ⊢
        exact ⟨hk, hrest⟩ }

theorem compile_inv : ∀ (r : Raw α) (prev : Prev) (s s' : BState α) (n : Node α),
    Raw.Shape r → BInv s → PrevOK prev s → compile r prev s = .ok (n, s') →
    BInv s' ∧ Grows s s' ∧ NodeOK (G s') n ∧
      ∀ me, PR me (histOf (s'.infos me)) (histP (s.infos me) (prev.get me)) n :=
  fun r prev s s' n hs hb hp h =>
    have ⟨h1, h2⟩ := compileAll_inv.1 r prev s n s' h hs hb hp
    ⟨h1, (compile_grows h).grows, h2⟩

theorem compileOutcomes_inv : ∀ (ws : List α) (ks : List (Raw α)) (prev : Prev)
    (s s' : BState α) (ps : List α) (ns : List (Node α)),
    Raw.ShapeL ks → BInv s → PrevOK prev s → compileOutcomes ws ks prev s = .ok (ps, ns, s') →
    BInv s' ∧ Grows s s' ∧ ps.length = ns.length ∧ (∀ p ∈ ps, 0 < p) ∧ NodeOKL (G s') ns ∧
      ∀ me, PRL me (histOf (s'.infos me)) (histP (s.infos me) (prev.get me)) ns :=
  fun ws ks prev s s' ps ns hs hb hp h =>
    have ⟨h1, h2⟩ := compileAll_inv.2.1 ws ks prev s ps ns s' h hs hb hp
    have ⟨h3, h4, _⟩ := compileOutcomes_shape h
    ⟨h1, (compileOutcomes_grows h).grows, h3, h4, h2⟩

theorem compileActions_inv : ∀ (ks : List (Raw α)) (one : Bool) (i a : Nat) (prev : Prev)
    (s s' : BState α) (ns : List (Node α)),
    Raw.ShapeL ks → BInv s → PrevOK prev s →
    (∃ e, (s.infos one)[i]? = some e ∧ e.prev = prev.get one) →
    compileActions ks one i a prev s = .ok (ns, s') →
    BInv s' ∧ Grows s s' ∧ NodeOKL (G s') ns ∧ ns.length = ks.length ∧
      ∀ me, if one = me
        then PRD me (histOf (s'.infos me)) (histP (s.infos me) (prev.get me)) i a ns
        else PRL me (histOf (s'.infos me)) (histP (s.infos me) (prev.get me)) ns :=
  fun ks one i a prev s s' ns hs hb hp hi h =>
    have ⟨h1, h2⟩ := compileAll_inv.2.2 ks one i a prev s ns s' h hs hb hp hi
    ⟨h1, (compileActions_grows h).grows, h2⟩

/-- **everything that is accepted is well formed**: indices in range, arities as declared,
chance probabilities positive and summing to one, perfect recall in history form for both
players (with earlier infosets at smaller indices), well-formed label tables -/
theorem compile_ok_wf (r : Raw α) (hs : Raw.Shape r) (g : Game α) (h : fromRoot r = .ok g) :
    GameWF g := by
  obtain ⟨root, s, hc, rfl⟩ := fromRoot_state h
  obtain ⟨hb, _, hn, hpr⟩ := compile_inv r {} {} s root hs BInv.empty PrevOK.empty hc
  refine ⟨?_, (Grows.refl s).nodeOK hn, fun me => ⟨histOf (s.infos me), ?_, histOf_lt _⟩,
    hb.tables true, hb.tables false, fun me e he => hb.acts me e (by cases me <;> exact he)⟩
  · intro ps hps
    obtain ⟨e, he, rfl⟩ := List.mem_map.mp hps
    exact hb.chance e he
  · have := hpr me
    rw [Prev.get_empty] at this
    exact this

end Cfr
