import CfrVerif.Proofs.TreeInd
import CfrVerif.Proofs.Traversal
import CfrVerif.Model.Vanilla
import CfrVerif.Model.External
import CfrVerif.Proofs.NodeInd
/-!
# Helper lemmas for `Proofs/InvScale.lean` (C12, part 2)

* evaluation is homogeneous (`expected_scale`, `view_scale`, `collect_mapTerm`, `search_scale`,
  `resolveAll_scale`, `bestResponse_scale`);
* regret matching is scale-free, discounting and the bounds are homogeneous;
* a traversal of the scaled game returns the scaled value and the same effects with the regret
  increments scaled (`vrec_scale`, `erec_scale`); applying them and `advance` commute with scaling
  the cumulative regrets (`SolveSt.scaleR`).
-/
set_option linter.unusedSectionVars false
namespace Cfr
variable {α : Type} [Field α] [LinearOrder α] [IsStrictOrderedRing α]

/-! ## evaluation -/

theorem expected_scale (c : α) (ch : List (List α)) (σ : Bool → Strat α) (n : Node α) :
    expected ch σ (n.mapPay (fun x => c * x)) = c * expected ch σ n := by
  induction n using Node.induct with
  | term p => simp only [Node.mapPay, expected]
  | chance i ks ih =>
    simp only [Node.mapPay_chance, expected]; exact expectedL_map_smul c _ false ih _
  | player one i ks ih =>
    simp only [Node.mapPay_player, expected]; exact expectedL_map_smul c _ true ih _

theorem expectedL_scale (c : α) (ch : List (List α)) (σ : Bool → Strat α) (skip : Bool) :
    ∀ (ps : List α) (ks : List (Node α)),
    expectedL ch σ skip ps (Node.mapPayL (fun x => c * x) ks) = c * expectedL ch σ skip ps ks := by
  intro ps ks
  rw [Node.mapPayL_eq_map]
  exact expectedL_map_smul c _ skip (fun k _ => expected_scale c ch σ k) ps

mutual
def V.mapTerm (f : α → α) : V α → V α
  | .term u => .term (f u)
  | .nature ws ks => .nature ws (V.mapTermL f ks)
  | .decide i ks => .decide i (V.mapTermL f ks)
def V.mapTermL (f : α → α) : List (V α) → List (V α)
  | [] => []
  | k :: ks => V.mapTerm f k :: V.mapTermL f ks
end

mutual
theorem view_scale (c : α) (ch : List (List α)) (σo : Strat α) (me : Bool) : ∀ n : Node α,
    view ch σo me (n.mapPay (fun x => c * x)) = (view ch σo me n).mapTerm (fun x => c * x)
  | .term p => by
    cases me <;> simp [Node.mapPay, view, V.mapTerm]
  | .chance i ks => by
    simp only [Node.mapPay, view, V.mapTerm, viewL_scale c ch σo me ks]
  | .player one i ks => by
    simp only [Node.mapPay, view, viewL_scale c ch σo me ks, apply_ite (V.mapTerm _), V.mapTerm]
theorem viewL_scale (c : α) (ch : List (List α)) (σo : Strat α) (me : Bool) : ∀ ks : List (Node α),
    viewL ch σo me (Node.mapPayL (fun x => c * x) ks) = V.mapTermL (fun x => c * x) (viewL ch σo me ks)
  | [] => rfl
  | k :: ks => by
    simp only [Node.mapPayL, viewL, V.mapTermL, view_scale c ch σo me k, viewL_scale c ch σo me ks]
end

def Reached.mapTerm (f : α → α) (h : Reached α) : Reached α := ⟨h.info, V.mapTermL f h.kids, h.reach⟩

mutual
theorem collect_mapTerm (f : α → α) : ∀ (v : V α) (r : α),
    collect (v.mapTerm f) r = (collect v r).map (Reached.mapTerm f)
  | .term u, r => by simp only [V.mapTerm, collect, List.map_nil]
  | .nature ws ks, r => by
    simp only [V.mapTerm, collect]; exact collectN_mapTerm f ws ks r
  | .decide i ks, r => by
    simp only [V.mapTerm, collect, List.map_cons, collectD_mapTerm f ks r]; rfl
theorem collectN_mapTerm (f : α → α) : ∀ (ws : List α) (ks : List (V α)) (r : α),
    collectN ws (V.mapTermL f ks) r = (collectN ws ks r).map (Reached.mapTerm f)
  | [], ks, r => by cases ks <;> rfl
  | _ :: _, [], r => rfl
  | w :: ws, k :: ks, r => by
    simp only [V.mapTermL, collectN, List.map_append, collectN_mapTerm f ws ks r,
      collect_mapTerm f k (w * r), apply_ite (List.map _), List.map_nil]
theorem collectD_mapTerm (f : α → α) : ∀ (ks : List (V α)) (r : α),
    collectD (V.mapTermL f ks) r = (collectD ks r).map (Reached.mapTerm f)
  | [], r => rfl
  | k :: ks, r => by
    simp only [V.mapTermL, collectD, List.map_append, collect_mapTerm f k r, collectD_mapTerm f ks r]
end

theorem getD_scale (c : α) (mu : List α) (i : Nat) :
    (mu.map (fun x => c * x)).getD i 0 = c * mu.getD i 0 := by
  simp only [List.getD_eq_getElem?_getD, List.getElem?_map]
  cases mu[i]? <;> simp

mutual
theorem search_scale (c : α) (mu : List α) : ∀ v : V α,
    search (mu.map (fun x => c * x)) (v.mapTerm (fun x => c * x)) = c * search mu v
  | .term u => by simp only [V.mapTerm, search]
  | .nature ws ks => by
    simp only [V.mapTerm, search]; exact searchN_scale c mu ws ks
  | .decide i ks => by
    simp only [V.mapTerm, search]; exact getD_scale c mu i
theorem searchN_scale (c : α) (mu : List α) : ∀ (ws : List α) (ks : List (V α)),
    searchN (mu.map (fun x => c * x)) ws (V.mapTermL (fun x => c * x) ks) = c * searchN mu ws ks
  | [], ks => by cases ks <;> exact (mul_zero c).symm
  | _ :: _, [] => (mul_zero c).symm
  | w :: ws, k :: ks => by
    simp only [V.mapTermL, searchN, search_scale c mu k, searchN_scale c mu ws ks, mul_add,
      mul_ite, mul_zero, mul_left_comm w c]
end

theorem addPayoffs_scale (c : α) (mu : List α) (r : α) : ∀ (acc : List α) (ks : List (V α)),
    addPayoffs (mu.map (fun x => c * x)) r (acc.map (fun x => c * x)) (V.mapTermL (fun x => c * x) ks)
      = (addPayoffs mu r acc ks).map (fun x => c * x)
  | [], ks => by simp [addPayoffs]
  | _ :: _, [] => by simp [addPayoffs, V.mapTermL]
  | a :: acc, k :: ks => by
    simp only [V.mapTermL, List.map_cons, addPayoffs, search_scale c mu k,
      addPayoffs_scale c mu r acc ks, mul_add, mul_assoc]

theorem foldl_addPayoffs_scale (c : α) (mu : List α) : ∀ (l : List (Reached α)) (acc : List α),
    (l.map (Reached.mapTerm (fun x => c * x))).foldl
        (fun acc n => addPayoffs (mu.map (fun x => c * x)) n.reach acc n.kids) (acc.map (fun x => c * x))
      = (l.foldl (fun acc n => addPayoffs mu n.reach acc n.kids) acc).map (fun x => c * x)
  | [], acc => rfl
  | h :: l, acc => by
    simp only [List.map_cons, List.foldl_cons]
    have := addPayoffs_scale c mu h.reach acc h.kids
    simp only [Reached.mapTerm]
    rw [this]
    exact foldl_addPayoffs_scale c mu l _

theorem filter_mapTerm (f : α → α) (I : Nat) (nodes : List (Reached α)) :
    (nodes.map (Reached.mapTerm f)).filter (·.info == I)
      = (nodes.filter (·.info == I)).map (Reached.mapTerm f) := by
  rw [List.filter_map]; rfl

theorem infoPayoffs_scale (c : α) (nodes : List (Reached α)) (nActs I : Nat) (mu : List α) :
    infoPayoffs (nodes.map (Reached.mapTerm (fun x => c * x))) nActs I (mu.map (fun x => c * x))
      = (infoPayoffs nodes nActs I mu).map (fun x => c * x) := by
  unfold infoPayoffs
  rw [filter_mapTerm, ← foldl_addPayoffs_scale]
  simp

theorem foldl_fmax_scale (c : α) (hc : 0 < c) : ∀ (l : List α) (x : α),
    (l.map (fun x => c * x)).foldl fmax (c * x) = c * l.foldl fmax x
  | [], x => rfl
  | y :: l, x => by
    simp only [List.map_cons, List.foldl_cons]
    rw [fmax_eq_max, fmax_eq_max, ← mul_max_of_nonneg _ _ hc.le]
    exact foldl_fmax_scale c hc l _

theorem maxList_scale (c : α) (hc : 0 < c) (l : List α) :
    maxList (l.map (fun x => c * x)) = (maxList l).map (fun x => c * x) := by
  cases l with
  | nil => rfl
  | cons x xs => simp [maxList, foldl_fmax_scale c hc]

theorem resolveOne_scale (c : α) (hc : 0 < c) (nodes : List (Reached α)) (nActs I : Nat) (mu : List α) :
    resolveOne (nodes.map (Reached.mapTerm (fun x => c * x))) nActs I (mu.map (fun x => c * x))
      = (resolveOne nodes nActs I mu).map (fun x => c * x) := by
  unfold resolveOne
  simp only [infoPayoffs_scale, maxList_scale c hc, filter_mapTerm]
  have h1 : ((nodes.filter (·.info == I)).map (Reached.mapTerm (fun x => c * x))).isEmpty
      = (nodes.filter (·.info == I)).isEmpty := by simp
  have h2 : ((nodes.filter (·.info == I)).map (Reached.mapTerm (fun x => c * x))).map (·.reach)
      = (nodes.filter (·.info == I)).map (·.reach) := by
    simp [Reached.mapTerm, Function.comp_def]
  rw [h1, h2]
  split_ifs
  · rfl
  · cases maxList (infoPayoffs nodes nActs I mu) with
    | none => rfl
    | some m => simp [List.map_set, mul_div_assoc]

theorem resolveAll_scale (c : α) (hc : 0 < c) (nodes : List (Reached α)) (nActs : Nat → Nat) :
    ∀ (n : Nat) (mu : List α),
    resolveAll (nodes.map (Reached.mapTerm (fun x => c * x))) nActs n (mu.map (fun x => c * x))
      = (resolveAll nodes nActs n mu).map (fun x => c * x)
  | 0, mu => rfl
  | n + 1, mu => by
    simp only [resolveAll]
    rw [resolveOne_scale c hc, resolveAll_scale c hc nodes nActs n]

theorem bestResponse_scale (c : α) (hc : 0 < c) (N : Nat) (nActs : Nat → Nat) (v : V α) :
    bestResponse N nActs (v.mapTerm (fun x => c * x)) = c * bestResponse N nActs v := by
  unfold bestResponse
  simp only
  rw [collect_mapTerm]
  have : List.replicate N (0 : α) = (List.replicate N (0 : α)).map (fun x => c * x) := by simp
  rw [this, resolveAll_scale c hc, search_scale, ← this]

theorem optimalDeviations_scale (c : α) (hc : 0 < c) (g : Game α) (me : Bool) (σo : Strat α) :
    optimalDeviations (g.mapPay (fun x => c * x)) me σo = c * optimalDeviations g me σo := by
  unfold optimalDeviations
  simp only [Game.mapPay, Game.infos]
  rw [view_scale, bestResponse_scale c hc]

theorem fmax_zero_scale {c : α} (hc : 0 < c) (m : α) : fmax (c * m) 0 = c * fmax m 0 := by
  rw [fmax_eq_max, fmax_eq_max, mul_max_of_nonneg _ _ hc.le, mul_zero]

/-- **evaluation is homogeneous**: utilities and regrets are multiplied by `c` (every game, every
profile) -/
theorem getInfo_scale (c : α) (hc : 0 < c) (g : Game α) (σ : Bool → Strat α) :
    (getInfo (g.mapPay (fun x => c * x)) σ).util = c * (getInfo g σ).util ∧
    (getInfo (g.mapPay (fun x => c * x)) σ).regretOne = c * (getInfo g σ).regretOne ∧
    (getInfo (g.mapPay (fun x => c * x)) σ).regretTwo = c * (getInfo g σ).regretTwo := by
  have he : expected (g.mapPay (fun x => c * x)).chance σ (g.mapPay (fun x => c * x)).root
      = c * expected g.chance σ g.root := expected_scale c g.chance σ g.root
  simp only [getInfo, optimalDeviations_scale c hc, he, ← mul_sub, ← mul_add, fmax_zero_scale hc,
    and_self]

/-! ## regret matching, discounting, bounds -/

theorem pos_scale_iff {c : α} (hc : 0 < c) (r : α) : 0 < c * r ↔ 0 < r :=
  mul_pos_iff_of_pos_left hc

theorem neg_scale_iff {c : α} (hc : 0 < c) (r : α) : c * r < 0 ↔ r < 0 := by
  have := mul_lt_mul_iff_right₀ hc (b := r) (c := 0)
  rwa [mul_zero] at this

theorem argmaxLast_go_scale {c : α} (hc : 0 < c) : ∀ (ys : List α) (i : Nat) (b : α) (bi : Nat),
    argmaxLast.go (ys.map (fun x => c * x)) i (c * b) bi = argmaxLast.go ys i b bi
  | [], i, b, bi => rfl
  | y :: ys, i, b, bi => by
    simp only [List.map_cons, argmaxLast.go, mul_lt_mul_iff_right₀ hc]
    split_ifs
    · exact argmaxLast_go_scale hc ys _ b bi
    · exact argmaxLast_go_scale hc ys _ y i

theorem argmaxLast_scale {c : α} (hc : 0 < c) (l : List α) :
    argmaxLast (l.map (fun x => c * x)) = argmaxLast l := by
  cases l with
  | nil => rfl
  | cons x xs => simp only [List.map_cons, argmaxLast]; exact argmaxLast_go_scale hc xs 1 x 0

theorem argminFirst_go_scale {c : α} (hc : 0 < c) : ∀ (ys : List α) (i : Nat) (b : α) (bi : Nat),
    argminFirst.go (ys.map (fun x => c * x)) i (c * b) bi = argminFirst.go ys i b bi
  | [], i, b, bi => rfl
  | y :: ys, i, b, bi => by
    simp only [List.map_cons, argminFirst.go, mul_lt_mul_iff_right₀ hc]
    split_ifs
    · exact argminFirst_go_scale hc ys _ y i
    · exact argminFirst_go_scale hc ys _ b bi

theorem argminFirst_scale {c : α} (hc : 0 < c) (l : List α) :
    argminFirst (l.map (fun x => c * x)) = argminFirst l := by
  cases l with
  | nil => rfl
  | cons x xs => simp only [List.map_cons, argminFirst]; exact argminFirst_go_scale hc xs 1 x 0

theorem lsum_filter_pos_scale {c : α} (hc : 0 < c) : ∀ l : List α,
    lsum ((l.map (fun x => c * x)).filter (fun v => 0 < v)) = c * lsum (l.filter (fun v => 0 < v))
  | [] => by simp
  | x :: l => by
    simp only [List.map_cons, List.filter_cons, pos_scale_iff hc, decide_eq_true_eq]
    split_ifs
    · rw [lsum_cons, lsum_cons, lsum_filter_pos_scale hc l]; ring
    · exact lsum_filter_pos_scale hc l

theorem regretMatch_scale [Transc α] {c : α} (hc : 0 < c) (np : Ext α)
    (hnp : np = .fin 0 ∨ np = .posInf ∨ np = .negInf) (R : List α) :
    regretMatch np (R.map (fun x => c * x)) = regretMatch np R := by
  unfold regretMatch
  simp only [lsum_filter_pos_scale hc, pos_scale_iff hc, List.length_map, argmaxLast_scale hc,
    argminFirst_scale hc, List.map_map]
  by_cases h : 0 < lsum (R.filter (fun v => 0 < v))
  · rw [if_pos h, if_pos h]
    apply List.map_congr_left
    intro r _
    simp only [Function.comp, pos_scale_iff hc, mul_div_mul_left _ _ hc.ne']
  · rw [if_neg h, if_neg h]
    -- the soft-max branch is the only one that looks at the values, and it is excluded
    rcases hnp with rfl | rfl | rfl
    · simp only [beq_self_eq_true, if_true]
    · rfl
    · rfl

theorem discountCumRegret_scale [Transc α] {c : α} (hc : 0 < c) (p : RegretParams α) (it : Nat)
    (R : List α) :
    discountCumRegret p it (R.map (fun x => c * x)) = (discountCumRegret p it R).map (fun x => c * x) := by
  unfold discountCumRegret
  simp only [List.map_map]
  apply List.map_congr_left
  intro r _
  simp only [Function.comp, pos_scale_iff hc, neg_scale_iff hc, mul_ite, mul_assoc]

theorem maxD_scale {c : α} (hc : 0 < c) (l : List α) :
    maxD 0 (l.map (fun x => c * x)) = c * maxD 0 l := by
  cases l with
  | nil => simp [maxD]
  | cons x xs => simp only [List.map_cons, maxD]; exact foldl_fmax_scale c hc xs x

theorem cumRegretBound_scale {c : α} (hc : 0 < c) (it : Nat) (R : List α) :
    cumRegretBound it (R.map (fun x => c * x)) = c * cumRegretBound it R := by
  unfold cumRegretBound
  rw [maxD_scale hc, fmax_zero_scale hc]; ring

/-! ## solver states -/

/-- cumulative regrets multiplied by `c`, everything else unchanged -/
def InfoSt.scaleR (c : α) (x : InfoSt α) : InfoSt α :=
  ⟨x.cumRegret.map (fun r => c * r), x.cumStrat, x.strat⟩

def SolveSt.scaleR (c : α) (s : SolveSt α) : SolveSt α :=
  ⟨s.one.map (InfoSt.scaleR c), s.two.map (InfoSt.scaleR c)⟩

def Eff.sc (c : α) (e : Eff α) : Eff α :=
  match e.slot with
  | .regret => { e with delta := c * e.delta }
  | .strat => e

theorem advance_scale [Transc α] {c : α} (hc : 0 < c) (p : RegretParams α) (hp : p.noPositive = .fin 0 ∨ p.noPositive = .posInf ∨ p.noPositive = .negInf)
    (it itAvg : Nat) (x : InfoSt α) :
    (x.scaleR c).advance p it itAvg
      = ((x.advance p it itAvg).1.scaleR c, c * (x.advance p it itAvg).2) := by
  simp only [InfoSt.advance, InfoSt.scaleR, regretMatch_scale hc _ hp, discountCumRegret_scale hc,
    cumRegretBound_scale hc]

theorem advanceAll_scale [Transc α] {c : α} (hc : 0 < c) (p : RegretParams α) (hp : p.noPositive = .fin 0 ∨ p.noPositive = .posInf ∨ p.noPositive = .negInf)
    (it itAvg : Nat) : ∀ (xs : List (InfoSt α)) (acc : α),
    advanceAll p it itAvg (xs.map (InfoSt.scaleR c)) (c * acc)
      = ((advanceAll p it itAvg xs acc).1.map (InfoSt.scaleR c), c * (advanceAll p it itAvg xs acc).2)
  | [], acc => rfl
  | x :: xs, acc => by
    simp only [List.map_cons, advanceAll, advance_scale hc p hp]
    rw [← mul_add, advanceAll_scale hc p hp it itAvg xs]

theorem get_scaleR (c : α) (s : SolveSt α) (one : Bool) :
    (s.scaleR c).get one = (s.get one).map (InfoSt.scaleR c) := by
  cases one <;> rfl

theorem set_scaleR (c : α) (s : SolveSt α) (one : Bool) (l : List (InfoSt α)) :
    (s.scaleR c).set one (l.map (InfoSt.scaleR c)) = (s.set one l).scaleR c := by
  cases one <;> rfl

theorem strat_scaleR (c : α) (s : SolveSt α) : (s.scaleR c).strat = s.strat := by
  funext one i
  simp only [SolveSt.strat, get_scaleR, List.getElem?_map]
  cases (s.get one)[i]? <;> rfl

theorem avg_scaleR (c : α) (s : SolveSt α) (one : Bool) : (s.scaleR c).avg one = s.avg one := by
  simp only [SolveSt.avg, get_scaleR, List.map_map]
  rfl

theorem modify_map {β γ : Type} (f : β → γ) (g : γ → γ) (g' : β → β) (h : ∀ x, g (f x) = f (g' x)) :
    ∀ (l : List β) (i : Nat), (l.map f).modify i g = (l.modify i g').map f
  | [], i => by simp
  | x :: l, 0 => by simp [h]
  | x :: l, i + 1 => by simp [modify_map f g g' h l i]

theorem apply_sc (c : α) (x : InfoSt α) (slot : Slot) (a : Nat) (d : α) :
    (x.scaleR c).apply slot a (match slot with | .regret => c * d | .strat => d)
      = (x.apply slot a d).scaleR c := by
  cases slot
  · simp only [InfoSt.apply, InfoSt.scaleR, addAt]
    congr 1
    exact modify_map _ _ _ (fun x => by ring) _ _
  · rfl

theorem applyEff_sc (c : α) (s : SolveSt α) (e : Eff α) :
    (s.scaleR c).applyEff (e.sc c) = (s.applyEff e).scaleR c := by
  obtain ⟨one, info, slot, act, delta⟩ := e
  have h1 : (Eff.sc c ⟨one, info, slot, act, delta⟩) =
      ⟨one, info, slot, act, (match slot with | .regret => c * delta | .strat => delta)⟩ := by
    cases slot <;> rfl
  rw [h1]
  simp only [SolveSt.applyEff, get_scaleR]
  rw [modify_map (InfoSt.scaleR c) _ (fun x => x.apply slot act delta) (fun x => apply_sc c x slot act delta)]
  exact set_scaleR c s one _

theorem applyEffs_sc (c : α) : ∀ (es : List (Eff α)) (s : SolveSt α),
    (s.scaleR c).applyEffs (es.map (Eff.sc c)) = (s.applyEffs es).scaleR c
  | [], s => rfl
  | e :: es, s => by
    simp only [SolveSt.applyEffs, List.map_cons, List.foldl_cons]
    rw [applyEff_sc]
    exact applyEffs_sc c es _

theorem init_mapPay (f : α → α) (g : Game α) : SolveSt.init (g.mapPay f) = SolveSt.init g := rfl

theorem init_scaleR (c : α) (g : Game α) : (SolveSt.init g).scaleR c = SolveSt.init g := by
  simp [SolveSt.init, SolveSt.scaleR, InfoSt.scaleR, InfoSt.new, Function.comp_def]



/-! ## traversals -/

/-- the image of a traversal result: value and regret effects multiplied by `c` -/
def scRes (c : α) (r : α × List (Eff α) × DrawSt α) : α × List (Eff α) × DrawSt α :=
  (c * r.1, r.2.1.map (Eff.sc c), r.2.2)

theorem stratEffs_sc (c : α) (one : Bool) (i : Nat) (own : α) : ∀ (σ : List α) (a : Nat),
    (stratEffs one i own σ a).map (Eff.sc c) = stratEffs one i own σ a
  | [], a => rfl
  | s :: σ, a => by
    simp only [stratEffs, List.map_cons, stratEffs_sc c one i own σ]; rfl

theorem subEffs_sc (c : α) (one : Bool) (i : Nat) (sub : α) (n : Nat) :
    (subEffs one i sub n).map (Eff.sc c) = subEffs one i (c * sub) n := by
  simp only [subEffs, List.map_map]
  apply List.map_congr_left
  intro a _
  simp [Eff.sc]

theorem extStratEffs_sc (c : α) (one : Bool) (i : Nat) : ∀ (σ : List α) (a : Nat),
    (extStratEffs one i σ a).map (Eff.sc c) = extStratEffs one i σ a
  | [], a => rfl
  | s :: σ, a => by
    simp only [extStratEffs, List.map_cons, extStratEffs_sc c one i σ]; rfl

theorem subEffsE_sc (c : α) (one : Bool) (i : Nat) (sub : α) (n : Nat) :
    (subEffsE one i sub n).map (Eff.sc c) = subEffsE one i (c * sub) n := by
  simp only [subEffsE, List.map_map]
  apply List.map_congr_left
  intro a _
  simp [Eff.sc]

variable [Transc α]

section vrecLoops
variable (c : α) (x : VCtx α) {ks : List (Node α)}
  (h : ∀ k ∈ ks, ∀ pc p1 p2 d,
    vrec x (k.mapPay (fun y => c * y)) pc p1 p2 d = scRes c (vrec x k pc p1 p2 d))
include h

theorem vrecNth_map_scale (n : Nat) (pc p1 p2 : α) (d : DrawSt α) :
    vrecNth x (ks.map (Node.mapPay (fun y => c * y))) n pc p1 p2 d
      = scRes c (vrecNth x ks n pc p1 p2 d) := by
  induction ks generalizing n with
  | nil => simp only [List.map_nil, vrecNth, scRes, mul_zero]
  | cons k ks ih =>
    rw [List.forall_mem_cons] at h
    cases n with
    | zero => exact h.1 pc p1 p2 d
    | succ n => exact ih h.2 n

theorem vrecChance_map_scale (ps : List α) (pc p1 p2 : α) (d : DrawSt α) (acc : α) :
    vrecChance x ps (ks.map (Node.mapPay (fun y => c * y))) pc p1 p2 d (c * acc)
      = scRes c (vrecChance x ps ks pc p1 p2 d acc) := by
  induction ks generalizing ps d acc with
  | nil => simp only [List.map_nil, vrecChance_nil_right, scRes]
  | cons k ks ih =>
    rw [List.forall_mem_cons] at h
    cases ps with
    | nil => simp only [vrecChance, scRes, List.map_nil]
    | cons p ps =>
      simp only [List.map_cons, vrecChance_cons, h.1, scRes, ← mul_assoc, mul_comm p c]
      simp only [mul_assoc, ← mul_add, ih h.2, scRes, List.map_append]

theorem vrecActs_map_scale (one : Bool) (i : Nat) (mult : α) (σ : List α) (pc p1 p2 : α)
    (d : DrawSt α) (a : Nat) (eo ex : α) :
    vrecActs x one i mult σ (ks.map (Node.mapPay (fun y => c * y))) pc p1 p2 d a (c * eo) (c * ex)
      = (c * (vrecActs x one i mult σ ks pc p1 p2 d a eo ex).1,
         c * (vrecActs x one i mult σ ks pc p1 p2 d a eo ex).2.1,
         (vrecActs x one i mult σ ks pc p1 p2 d a eo ex).2.2.1.map (Eff.sc c),
         (vrecActs x one i mult σ ks pc p1 p2 d a eo ex).2.2.2) := by
  induction ks generalizing σ d a eo ex with
  | nil => simp only [List.map_nil, vrecActs_nil_right]
  | cons k ks ih =>
    rw [List.forall_mem_cons] at h
    cases σ with
    | nil => simp only [vrecActs_nil_left, List.map_nil]
    | cons s σ =>
      simp only [List.map_cons, vrecActs_cons', h.1, scRes, ← mul_assoc, mul_comm s c]
      simp only [mul_assoc, ← mul_add, ih h.2, List.map_append, List.map_cons, Eff.sc]

end vrecLoops

theorem vrec_scale (c : α) (x : VCtx α) (n : Node α) : ∀ (pc p1 p2 : α) (d : DrawSt α),
    vrec x (n.mapPay (fun y => c * y)) pc p1 p2 d = scRes c (vrec x n pc p1 p2 d) := by
  induction n using Node.induct with
  | term p => intro pc p1 p2 d; simp only [Node.mapPay, vrec_term, scRes, List.map_nil]
  | chance i ks ih =>
    intro pc p1 p2 d
    rw [Node.mapPay_chance]
    cases hs : x.sampled
    · rw [vrec_chance x hs, vrec_chance x hs, ← vrecChance_map_scale c x ih, mul_zero]
    · rw [vrec_chance_s x hs, vrec_chance_s x hs]
      exact vrecNth_map_scale c x ih _ _ _ _ _
  | player one i ks ih =>
    intro pc p1 p2 d
    have := vrecActs_map_scale c x ih one i (if one then pc * p2 else -p1 * pc) (x.strat one i)
      pc p1 p2 d 0 0 0
    rw [mul_zero] at this
    simp only [Node.mapPay_player, vrec_player, this, scRes, List.map_append, stratEffs_sc,
      subEffs_sc]

theorem vrecNth_scale (c : α) (x : VCtx α) : ∀ (ks : List (Node α)) (k : Nat) (pc p1 p2 : α) (d : DrawSt α),
    vrecNth x (Node.mapPayL (fun y => c * y) ks) k pc p1 p2 d = scRes c (vrecNth x ks k pc p1 p2 d) := by
  intro ks
  rw [Node.mapPayL_eq_map]
  exact vrecNth_map_scale c x (fun k _ => vrec_scale c x k)

theorem vrecChance_scale (c : α) (x : VCtx α) : ∀ (ps : List α) (ks : List (Node α)) (pc p1 p2 : α)
    (d : DrawSt α) (acc : α),
    vrecChance x ps (Node.mapPayL (fun y => c * y) ks) pc p1 p2 d (c * acc)
      = scRes c (vrecChance x ps ks pc p1 p2 d acc) := by
  intro ps ks
  rw [Node.mapPayL_eq_map]
  exact vrecChance_map_scale c x (fun k _ => vrec_scale c x k) ps

theorem vrecActs_scale (c : α) (x : VCtx α) (one : Bool) (i : Nat) (mult : α) :
    ∀ (σ : List α) (ks : List (Node α)) (pc p1 p2 : α) (d : DrawSt α) (a : Nat) (eo ex : α),
    vrecActs x one i mult σ (Node.mapPayL (fun y => c * y) ks) pc p1 p2 d a (c * eo) (c * ex)
      = (c * (vrecActs x one i mult σ ks pc p1 p2 d a eo ex).1,
         c * (vrecActs x one i mult σ ks pc p1 p2 d a eo ex).2.1,
         (vrecActs x one i mult σ ks pc p1 p2 d a eo ex).2.2.1.map (Eff.sc c),
         (vrecActs x one i mult σ ks pc p1 p2 d a eo ex).2.2.2) := by
  intro σ ks
  rw [Node.mapPayL_eq_map]
  exact vrecActs_map_scale c x (fun k _ => vrec_scale c x k) one i mult σ

section erecLoops
variable (c : α) (x : ECtx α) {ks : List (Node α)}
  (h : ∀ k ∈ ks, ∀ d, erec x (k.mapPay (fun y => c * y)) d = scRes c (erec x k d))
include h

theorem erecNth_map_scale (n : Nat) (d : DrawSt α) :
    erecNth x (ks.map (Node.mapPay (fun y => c * y))) n d = scRes c (erecNth x ks n d) := by
  induction ks generalizing n with
  | nil => simp only [List.map_nil, erecNth, scRes, mul_zero]
  | cons k ks ih =>
    rw [List.forall_mem_cons] at h
    cases n with
    | zero => exact h.1 d
    | succ n => exact ih h.2 n

theorem erecActs_map_scale (one : Bool) (i : Nat) (σ : List α) (d : DrawSt α) (a : Nat) (ex : α) :
    erecActs x one i σ (ks.map (Node.mapPay (fun y => c * y))) d a (c * ex)
      = scRes c (erecActs x one i σ ks d a ex) := by
  induction ks generalizing σ d a ex with
  | nil => simp only [List.map_nil, erecActs_nil_right, scRes]
  | cons k ks ih =>
    rw [List.forall_mem_cons] at h
    cases σ with
    | nil => simp only [erecActs_nil_left, scRes, List.map_nil]
    | cons s σ =>
      simp only [List.map_cons, erecActs_cons_eq, h.1, scRes, ← mul_assoc, mul_comm s c]
      simp only [mul_assoc, ← mul_add, ih h.2, scRes, List.map_append, List.map_cons, Eff.sc]

end erecLoops

theorem erec_scale (c : α) (x : ECtx α) (n : Node α) : ∀ d : DrawSt α,
    erec x (n.mapPay (fun y => c * y)) d = scRes c (erec x n d) := by
  induction n using Node.induct with
  | term p =>
    intro d
    simp only [Node.mapPay, erec, scRes, List.map_nil, mul_ite, mul_neg]
  | chance i ks ih =>
    intro d
    rw [Node.mapPay_chance, erec_chance_eq, erec_chance_eq]
    exact erecNth_map_scale c x ih _ _
  | player one i ks ih =>
    intro d
    rw [Node.mapPay_player]
    by_cases hf : (one == x.first) = true
    · have := erecActs_map_scale c x ih one i (x.strat one i) d 0 0
      rw [mul_zero] at this
      simp only [erec_own_eq x one i _ d hf, this, scRes, List.map_append, subEffsE_sc]
    · simp only [erec_opp_eq x one i _ d hf, erecNth_map_scale c x ih, scRes, List.map_append,
        extStratEffs_sc]

theorem erecNth_scale (c : α) (x : ECtx α) : ∀ (ks : List (Node α)) (k : Nat) (d : DrawSt α),
    erecNth x (Node.mapPayL (fun y => c * y) ks) k d = scRes c (erecNth x ks k d) := by
  intro ks
  rw [Node.mapPayL_eq_map]
  exact erecNth_map_scale c x (fun k _ => erec_scale c x k)

theorem erecActs_scale (c : α) (x : ECtx α) (one : Bool) (i : Nat) :
    ∀ (σ : List α) (ks : List (Node α)) (d : DrawSt α) (a : Nat) (ex : α),
    erecActs x one i σ (Node.mapPayL (fun y => c * y) ks) d a (c * ex)
      = scRes c (erecActs x one i σ ks d a ex) := by
  intro σ ks
  rw [Node.mapPayL_eq_map]
  exact erecActs_map_scale c x (fun k _ => erec_scale c x k) one i σ

/-! ## iterations -/

def scIter (c : α) (r : SolveSt α × α × α × List (DrawRec α)) : SolveSt α × α × α × List (DrawRec α) :=
  (r.1.scaleR c, c * r.2.1, c * r.2.2.1, r.2.2.2)

theorem vanillaIter_scale {c : α} (hc : 0 < c) (g : Game α) (sampled : Bool) (p : RegretParams α)
    (hp : p.noPositive = .fin 0 ∨ p.noPositive = .posInf ∨ p.noPositive = .negInf)
    (draw : DrawFn α) (it : Nat) (s : SolveSt α) (log : List (DrawRec α)) :
    vanillaIter (g.mapPay (fun y => c * y)) sampled p draw it (s.scaleR c) log
      = scIter c (vanillaIter g sampled p draw it s log) := by
  simp only [vanillaIter, strat_scaleR, Game.mapPay, vrec_scale, scRes, applyEffs_sc, scIter]
  have h1 := advanceAll_scale hc p hp it it
    (s.applyEffs (vrec ⟨g.chance, sampled, s.strat, draw, it - 1⟩ g.root 1 1 1 { log := log }).2.1).one 0
  have h2 := advanceAll_scale hc p hp it it
    (s.applyEffs (vrec ⟨g.chance, sampled, s.strat, draw, it - 1⟩ g.root 1 1 1 { log := log }).2.1).two 0
  rw [mul_zero] at h1 h2
  simp only [SolveSt.scaleR, h1, h2]

theorem externalPass_scale {c : α} (hc : 0 < c) (g : Game α) (first : Bool) (p : RegretParams α)
    (hp : p.noPositive = .fin 0 ∨ p.noPositive = .posInf ∨ p.noPositive = .negInf)
    (draw : DrawFn α) (it : Nat) (s : SolveSt α) (log : List (DrawRec α)) :
    externalPass (g.mapPay (fun y => c * y)) first p draw it (s.scaleR c) log
      = ((externalPass g first p draw it s log).1.scaleR c, c * (externalPass g first p draw it s log).2.1,
          (externalPass g first p draw it s log).2.2) := by
  simp only [externalPass, strat_scaleR, Game.mapPay, erec_scale, scRes, applyEffs_sc, get_scaleR]
  have h1 := fun (xs : List (InfoSt α)) => advanceAll_scale hc p hp it (if first then it - 1 else it) xs 0
  simp only [mul_zero] at h1
  simp only [h1, set_scaleR]

theorem externalIter_scale {c : α} (hc : 0 < c) (g : Game α) (p : RegretParams α)
    (hp : p.noPositive = .fin 0 ∨ p.noPositive = .posInf ∨ p.noPositive = .negInf)
    (draw : DrawFn α) (it : Nat) (s : SolveSt α) (log : List (DrawRec α)) :
    externalIter (g.mapPay (fun y => c * y)) p draw it (s.scaleR c) log
      = scIter c (externalIter g p draw it s log) := by
  simp only [externalIter, externalPass_scale hc g _ p hp, scIter]

/-! ## the loop -/

theorem belowThreshold_scale {c : α} (hc : 0 < c) (r1 r2 : α) (thr : Option (Ext α)) :
    belowThreshold (c * r1) (c * r2) (thr.map (Ext.scale c)) = belowThreshold r1 r2 thr := by
  cases thr with
  | none => rfl
  | some t =>
    simp only [Option.map_some, belowThreshold, fmax_eq_max, ← mul_max_of_nonneg _ _ hc.le]
    cases t with
    | negInf => rfl
    | posInf => rfl
    | fin y => simp only [Ext.scale, Ext.lt, mul_lt_mul_iff_right₀ hc]

theorem solveLoop_scale {c : α} (hc : 0 < c) (step step' : IterFn α)
    (hstep : ∀ it s log, step' it (s.scaleR c) log = scIter c (step it s log))
    (thr : Option (Ext α)) : ∀ (n it : Nat) (s : SolveSt α) (r1 r2 : Ext α) (log : List (DrawRec α)),
    solveLoop step' (thr.map (Ext.scale c)) n it (s.scaleR c) (r1.scale c) (r2.scale c) log
      = (solveLoop step thr n it s r1 r2 log).scale c
  | 0, it, s, r1, r2, log => by
    simp only [solveLoop, SolveOut.scale, avg_scaleR]
  | n + 1, it, s, r1, r2, log => by
    simp only [solveLoop, hstep, scIter, belowThreshold_scale hc]
    split_ifs
    · simp only [SolveOut.scale, avg_scaleR, Ext.scale]
    · exact solveLoop_scale hc step step' hstep thr n (it + 1) _ (.fin _) (.fin _) _

theorem solveWith_scale {c : α} (hc : 0 < c) (g : Game α) (step step' : IterFn α)
    (hstep : ∀ it s log, step' it (s.scaleR c) log = scIter c (step it s log))
    (T : Nat) (thr : Option (Ext α)) :
    solveWith (g.mapPay (fun y => c * y)) step' T (thr.map (Ext.scale c))
      = (solveWith g step T thr).scale c := by
  unfold solveWith
  have := solveLoop_scale hc step step' hstep thr T 1 (SolveSt.init g) .posInf .posInf []
  rw [init_scaleR] at this
  exact this


end Cfr
