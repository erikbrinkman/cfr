import CfrVerif.Proofs.TablesOK
import CfrVerif.Proofs.FrontierBase
import CfrVerif.Proofs.GameWFLemmas
/-!
# Tree-level facts used by the rate proofs

* `Has me I n` : the subtree `n` contains a decision node of infoset `I` of player `me`;
* `GoodR me I n` : what perfect recall gives for the pair `(me, I)`: below an own node of `I` there
  is no further node of `I`; below an own node of another infoset at most one child contains
  nodes of `I` (`Uniq`);
* `TFit ch st n` : the chance tables and current strategies fit the tree (lengths, distributions);
  it follows from `GameWF`, `StOK` and `NodeOK`;
* `DrawLt draw` : the draw oracle returns an index into the weight list it is given.

These predicates (like `PayIn`, `PR`, `NodeOK`) are structural recursions, so on a constructor
(`.chance i ks`, `k :: ks`) a hypothesis of one of them *is* the conjunction or disjunction of its
definition: the proofs take its parts by projection (`hf.1`, `hf.2`) or `obtain`.  The definition
is unfolded only where an `if` or a `getD` in it has to be decided (`PR_own`, `PR_opp`,
`tfit_of_fits`).
-/
set_option linter.unusedSectionVars false
namespace Cfr

mutual
def Has (me : Bool) (I : ℕ) : Node ℝ → Prop
  | .term _ => False
  | .chance _ ks => HasL me I ks
  | .player one i ks => (one = me ∧ i = I) ∨ HasL me I ks
def HasL (me : Bool) (I : ℕ) : List (Node ℝ) → Prop
  | [] => False
  | k :: ks => Has me I k ∨ HasL me I ks
end

def Uniq (me : Bool) (I : ℕ) : List (Node ℝ) → Prop
  | [] => True
  | k :: ks => (Has me I k → ¬ HasL me I ks) ∧ Uniq me I ks

mutual
def GoodR (me : Bool) (I : ℕ) : Node ℝ → Prop
  | .term _ => True
  | .chance _ ks => GoodL me I ks
  | .player one i ks =>
    GoodL me I ks ∧ (one = me → (i = I → ¬ HasL me I ks) ∧ (i ≠ I → Uniq me I ks))
def GoodL (me : Bool) (I : ℕ) : List (Node ℝ) → Prop
  | [] => True
  | k :: ks => GoodR me I k ∧ GoodL me I ks
end

mutual
theorem has_prefix (me : Bool) (hist : ℕ → Hist) (I : ℕ) :
    ∀ (n : Node ℝ) (H : Hist), PR me hist H n → Has me I n → H <+: hist I
  | .term _, _, _, h => h.elim
  | .chance _ ks, H, hp, h => hasL_prefix me hist I ks H hp h
  | .player one i ks, H, hp, h => by
    by_cases ho : one = me
    · rw [PR_player, if_pos ho] at hp
      obtain ⟨hH, hD⟩ := hp
      rcases h with ⟨-, rfl⟩ | hk
      · rw [hH]
      · obtain ⟨b, -, hb⟩ := hasD_prefix me hist I ks H i 0 hD hk
        exact (List.prefix_append _ _).trans hb
    · rcases h with ⟨h1, -⟩ | hk
      · exact absurd h1 ho
      · exact hasL_prefix me hist I ks H ((PR_player_other ho).mp hp) hk
theorem hasL_prefix (me : Bool) (hist : ℕ → Hist) (I : ℕ) :
    ∀ (ks : List (Node ℝ)) (H : Hist), PRL me hist H ks → HasL me I ks → H <+: hist I
  | [], _, _, h => h.elim
  | k :: ks, H, hp, h =>
    h.elim (has_prefix me hist I k H hp.1) (hasL_prefix me hist I ks H hp.2)
theorem hasD_prefix (me : Bool) (hist : ℕ → Hist) (I : ℕ) :
    ∀ (ks : List (Node ℝ)) (H : Hist) (j a : ℕ), PRD me hist H j a ks → HasL me I ks →
      ∃ b, a ≤ b ∧ (H ++ [(j, b)]) <+: hist I
  | [], _, _, _, _, h => h.elim
  | k :: ks, H, j, a, hp, h =>
    h.elim (fun hk => ⟨a, le_rfl, has_prefix me hist I k _ hp.1 hk⟩) fun hk =>
      have ⟨b, hb, hpre⟩ := hasD_prefix me hist I ks H j (a + 1) hp.2 hk
      ⟨b, Nat.le_of_succ_le hb, hpre⟩
end

/-- two children of an own node that both contain `(me, I)` would extend the history of `I` by two
different actions -/
theorem uniq_of_PRD (me : Bool) (hist : ℕ → Hist) (I : ℕ) :
    ∀ (ks : List (Node ℝ)) (H : Hist) (j a : ℕ), PRD me hist H j a ks → Uniq me I ks
  | [], _, _, _, _ => trivial
  | k :: ks, H, j, a, hp => by
    refine ⟨fun hk hks => ?_, uniq_of_PRD me hist I ks H j (a + 1) hp.2⟩
    obtain ⟨b, hb, p2⟩ := hasD_prefix me hist I ks H j (a + 1) hp.2 hks
    have := prefix_snoc_inj (has_prefix me hist I k _ hp.1 hk) p2
    simp only [Prod.mk.injEq, true_and] at this
    omega

theorem noHas_of_PRD (me : Bool) (hist : ℕ → Hist) (I : ℕ) (ks : List (Node ℝ)) (a : ℕ)
    (hp : PRD me hist (hist I) I a ks) : ¬ HasL me I ks := by
  intro h
  obtain ⟨b, -, hpre⟩ := hasD_prefix me hist I ks _ I a hp h
  have := hpre.length_le
  simp at this

mutual
theorem good_of_PR (me : Bool) (hist : ℕ → Hist) (I : ℕ) :
    ∀ (n : Node ℝ) (H : Hist), PR me hist H n → GoodR me I n
  | .term _, _, _ => trivial
  | .chance _ ks, H, hp => goodL_of_PRL me hist I ks H hp
  | .player one i ks, H, hp => by
    by_cases ho : one = me
    · rw [PR_player, if_pos ho] at hp
      obtain ⟨hH, hD⟩ := hp
      refine ⟨goodL_of_PRD me hist I ks H i 0 hD, fun _ => ⟨fun hi => ?_, fun _ => ?_⟩⟩
      · subst hi
        rw [← hH] at hD
        exact noHas_of_PRD me hist i ks 0 hD
      · exact uniq_of_PRD me hist I ks H i 0 hD
    · exact ⟨goodL_of_PRL me hist I ks H ((PR_player_other ho).mp hp), fun h => absurd h ho⟩
theorem goodL_of_PRL (me : Bool) (hist : ℕ → Hist) (I : ℕ) :
    ∀ (ks : List (Node ℝ)) (H : Hist), PRL me hist H ks → GoodL me I ks
  | [], _, _ => trivial
  | k :: ks, H, hp => ⟨good_of_PR me hist I k H hp.1, goodL_of_PRL me hist I ks H hp.2⟩
theorem goodL_of_PRD (me : Bool) (hist : ℕ → Hist) (I : ℕ) :
    ∀ (ks : List (Node ℝ)) (H : Hist) (j a : ℕ), PRD me hist H j a ks → GoodL me I ks
  | [], _, _, _, _ => trivial
  | k :: ks, H, j, a, hp =>
    ⟨good_of_PR me hist I k _ hp.1, goodL_of_PRD me hist I ks H j (a + 1) hp.2⟩
end

mutual
def TFit (ch : List (List ℝ)) (st : Bool → ℕ → List ℝ) : Node ℝ → Prop
  | .term _ => True
  | .chance i ks =>
    (ch.getD i []).length = ks.length ∧ ks ≠ [] ∧ IsDist (ch.getD i []) ∧ TFitL ch st ks
  | .player one i ks =>
    (st one i).length = ks.length ∧ ks ≠ [] ∧ IsDist (st one i) ∧ TFitL ch st ks
def TFitL (ch : List (List ℝ)) (st : Bool → ℕ → List ℝ) : List (Node ℝ) → Prop
  | [] => True
  | k :: ks => TFit ch st k ∧ TFitL ch st ks
end

mutual
theorem tfit_of_fits (g : Game ℝ) (hg : GameWF g) (st : Bool → ℕ → List ℝ)
    (hst : ∀ one i e, (g.infos one)[i]? = some e →
      (st one i).length = e.actions.length ∧ IsDist (st one i)) :
    ∀ n : Node ℝ, NodeOK g n → TFit g.chance st n
  | .term _, _ => trivial
  | .chance i ks, h => by
    obtain ⟨⟨ps, hps, hl⟩, h2, hk⟩ := h
    have e : g.chance.getD i [] = ps := by rw [List.getD_eq_getElem?_getD, hps]; rfl
    obtain ⟨hp, hsum⟩ := hg.chancePos ps (List.mem_of_getElem? hps)
    rw [TFit, e]
    exact ⟨hl, List.ne_nil_of_length_pos (by omega), ⟨fun p hp' => (hp p hp').le, hsum⟩,
      tfitL_of_fits g hg st hst ks hk⟩
  | .player one i ks, h => by
    obtain ⟨⟨e, he, hl⟩, h2, hk⟩ := h
    obtain ⟨hlen, hdist⟩ := hst one i e he
    exact ⟨hlen.trans hl, List.ne_nil_of_length_pos (by omega), hdist,
      tfitL_of_fits g hg st hst ks hk⟩
theorem tfitL_of_fits (g : Game ℝ) (hg : GameWF g) (st : Bool → ℕ → List ℝ)
    (hst : ∀ one i e, (g.infos one)[i]? = some e →
      (st one i).length = e.actions.length ∧ IsDist (st one i)) :
    ∀ ks : List (Node ℝ), NodeOKL g ks → TFitL g.chance st ks
  | [], _ => trivial
  | k :: ks, h => ⟨tfit_of_fits g hg st hst k h.1, tfitL_of_fits g hg st hst ks h.2⟩
end

theorem stOK_fits (g : Game ℝ) (s : SolveSt ℝ) (hs : StOK g s) (one : Bool) (i : ℕ) (e : PInfo)
    (he : (g.infos one)[i]? = some e) :
    (s.strat one i).length = e.actions.length ∧ IsDist (s.strat one i) := by
  obtain ⟨x, hx, hok⟩ := (tableOK_get (hs one)).1 i e he
  rw [strat_of_get s one i x hx]
  exact ⟨hok.lenσ, hok.dist⟩

theorem tfit_of_ok (g : Game ℝ) (hg : GameWF g) (s : SolveSt ℝ) (hs : StOK g s) :
    ∀ n : Node ℝ, NodeOK g n → TFit g.chance s.strat n :=
  tfit_of_fits g hg s.strat (stOK_fits g s hs)

theorem tfitL_of_ok (g : Game ℝ) (hg : GameWF g) (s : SolveSt ℝ) (hs : StOK g s) :
    ∀ ks : List (Node ℝ), NodeOKL g ks → TFitL g.chance s.strat ks :=
  tfitL_of_fits g hg s.strat (stOK_fits g s hs)

/-- the draw oracle returns an index into the weight list it is given -/
def DrawLt (draw : DrawFn ℝ) : Prop :=
  ∀ (kind i pass : ℕ) (ws : List ℝ), ws ≠ [] → draw kind i pass ws < ws.length

end Cfr
