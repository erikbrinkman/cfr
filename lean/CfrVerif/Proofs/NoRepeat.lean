import CfrVerif.Proofs.RealInst
import CfrVerif.Proofs.GameWFLemmas
import CfrVerif.Proofs.NodeInd
/-!
# No decision infoset occurs twice on a root-to-leaf path (from perfect recall)
(used by `Props/C05.lean`; the borrow held across `recurse_single` relies on it)
-/
set_option linter.unusedSectionVars false
namespace Cfr

mutual
def NoRepeat : List (Bool × Nat) → Node ℝ → Prop
  | _, .term _ => True
  | seen, .chance _ ks => NoRepeatL seen ks
  | seen, .player one i ks => (one, i) ∉ seen ∧ NoRepeatL ((one, i) :: seen) ks
def NoRepeatL : List (Bool × Nat) → List (Node ℝ) → Prop
  | _, [] => True
  | seen, k :: ks => NoRepeat seen k ∧ NoRepeatL seen ks
end

theorem noRepeatL_iff (seen : List (Bool × Nat)) (ks : List (Node ℝ)) :
    NoRepeatL seen ks ↔ ∀ k ∈ ks, NoRepeat seen k := by
  induction ks with
  | nil => exact iff_of_true trivial (fun _ h => absurd h List.not_mem_nil)
  | cons k ks ih => rw [NoRepeatL, ih, List.forall_mem_cons]

/-- every infoset already seen on the path has a strictly shorter own history than the current
own history of its player (`L1`, `L2` are the lengths of the current own histories) -/
def SeenOK (h1 h2 : ℕ → Hist) (seen : List (Bool × ℕ)) (L1 L2 : ℕ) : Prop :=
  (∀ j, (true, j) ∈ seen → (h1 j).length < L1) ∧ (∀ j, (false, j) ∈ seen → (h2 j).length < L2)

theorem SeenOK.nil (h1 h2 : ℕ → Hist) (L1 L2 : ℕ) : SeenOK h1 h2 [] L1 L2 :=
  ⟨fun _ h => absurd h List.not_mem_nil, fun _ h => absurd h List.not_mem_nil⟩

theorem SeenOK.cons_true {h1 h2 : ℕ → Hist} {seen : List (Bool × ℕ)} {L1 L2 : ℕ}
    (h : SeenOK h1 h2 seen L1 L2) (i : ℕ) (hi : (h1 i).length = L1) :
    SeenOK h1 h2 ((true, i) :: seen) (L1 + 1) L2 := by
  constructor
  · intro j hj
    rcases List.mem_cons.mp hj with hj | hj
    · cases hj; exact hi ▸ Nat.lt_succ_self _
    · exact Nat.lt_succ_of_lt (h.1 j hj)
  · intro j hj
    rcases List.mem_cons.mp hj with hj | hj
    · cases hj
    · exact h.2 j hj

theorem SeenOK.cons_false {h1 h2 : ℕ → Hist} {seen : List (Bool × ℕ)} {L1 L2 : ℕ}
    (h : SeenOK h1 h2 seen L1 L2) (i : ℕ) (hi : (h2 i).length = L2) :
    SeenOK h1 h2 ((false, i) :: seen) L1 (L2 + 1) := by
  constructor
  · intro j hj
    rcases List.mem_cons.mp hj with hj | hj
    · cases hj
    · exact h.1 j hj
  · intro j hj
    rcases List.mem_cons.mp hj with hj | hj
    · cases hj; exact hi ▸ Nat.lt_succ_self _
    · exact Nat.lt_succ_of_lt (h.2 j hj)

/-- a node of infoset `(one, i)` is reached with an own history as long as `hist i`, which is longer
than that of every infoset seen before; so `(one, i)` is new, and below the node the histories are
one longer -/
theorem noRepeat_of_PR (h1 h2 : ℕ → Hist) :
    ∀ (n : Node ℝ) (seen : List (Bool × ℕ)) (H1 H2 : Hist), PR true h1 H1 n → PR false h2 H2 n →
      SeenOK h1 h2 seen H1.length H2.length → NoRepeat seen n := by
  intro n
  induction n using Node.induct with
  | term _ => exact fun _ _ _ _ _ _ => trivial
  | chance _ ks ih =>
    intro seen H1 H2 p1 p2 hs
    rw [PR, prl_iff] at p1 p2
    rw [NoRepeat, noRepeatL_iff]
    exact fun k m => ih k m seen H1 H2 (p1 k m) (p2 k m) hs
  | player one i ks ih =>
    intro seen H1 H2 p1 p2 hs
    rw [NoRepeat, noRepeatL_iff]
    cases one
    · rw [PR, if_neg Bool.false_ne_true, prl_iff] at p1
      rw [PR, if_pos rfl] at p2
      have hi : (h2 i).length = H2.length := by rw [p2.1]
      refine ⟨fun hm => absurd hi (hs.2 i hm).ne, fun k m => ?_⟩
      obtain ⟨H', hl, pk⟩ := prd_child _ _ _ _ _ _ p2.2 k m
      exact ih k m _ H1 H' (p1 k m) pk (hl ▸ hs.cons_false i hi)
    · rw [PR, if_pos rfl] at p1
      rw [PR, if_neg Bool.false_ne_true.symm, prl_iff] at p2
      have hi : (h1 i).length = H1.length := by rw [p1.1]
      refine ⟨fun hm => absurd hi (hs.1 i hm).ne, fun k m => ?_⟩
      obtain ⟨H', hl, pk⟩ := prd_child _ _ _ _ _ _ p1.2 k m
      exact ih k m _ H' H2 pk (p2 k m) (hl ▸ hs.cons_true i hi)

theorem noRepeatL_of_PRL (h1 h2 : ℕ → Hist) :
    ∀ (ks : List (Node ℝ)) (seen : List (Bool × ℕ)) (H1 H2 : Hist), PRL true h1 H1 ks →
      PRL false h2 H2 ks → SeenOK h1 h2 seen H1.length H2.length → NoRepeatL seen ks :=
  fun ks seen H1 H2 p1 p2 hs => (noRepeatL_iff seen ks).mpr fun k m =>
    noRepeat_of_PR h1 h2 k seen H1 H2 ((prl_iff _ _ _ _).mp p1 k m) ((prl_iff _ _ _ _).mp p2 k m) hs

theorem noRepeatL_of_PRD_true (h1 h2 : ℕ → Hist) :
    ∀ (ks : List (Node ℝ)) (seen : List (Bool × ℕ)) (H1 H2 : Hist) (i a : ℕ),
      PRD true h1 H1 i a ks → PRL false h2 H2 ks →
      SeenOK h1 h2 seen (H1.length + 1) H2.length → NoRepeatL seen ks :=
  fun ks seen H1 H2 i a p1 p2 hs => (noRepeatL_iff seen ks).mpr fun k m => by
    obtain ⟨H', hl, pk⟩ := prd_child _ _ _ _ _ _ p1 k m
    exact noRepeat_of_PR h1 h2 k seen H' H2 pk ((prl_iff _ _ _ _).mp p2 k m) (hl ▸ hs)

theorem noRepeatL_of_PRD_false (h1 h2 : ℕ → Hist) :
    ∀ (ks : List (Node ℝ)) (seen : List (Bool × ℕ)) (H1 H2 : Hist) (i a : ℕ),
      PRL true h1 H1 ks → PRD false h2 H2 i a ks →
      SeenOK h1 h2 seen H1.length (H2.length + 1) → NoRepeatL seen ks :=
  fun ks seen H1 H2 i a p1 p2 hs => (noRepeatL_iff seen ks).mpr fun k m => by
    obtain ⟨H', hl, pk⟩ := prd_child _ _ _ _ _ _ p2 k m
    exact noRepeat_of_PR h1 h2 k seen H1 H' ((prl_iff _ _ _ _).mp p1 k m) pk (hl ▸ hs)

/-- perfect recall excludes a repeated infoset on a path, so the mutable borrow of an infoset
held across the recursion of `recurse_single` is never taken twice -/
theorem wf_no_infoset_twice_on_path (g : Game ℝ) (hg : GameWF g) : NoRepeat [] g.root := by
  obtain ⟨h1, p1, -⟩ := hg.recall true
  obtain ⟨h2, p2, -⟩ := hg.recall false
  exact noRepeat_of_PR h1 h2 g.root [] [] [] p1 p2 (SeenOK.nil h1 h2 _ _)

end Cfr
