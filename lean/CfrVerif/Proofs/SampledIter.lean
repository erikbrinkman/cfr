import CfrVerif.Proofs.PresetSpecLemmas
import CfrVerif.Model.Locks
import CfrVerif.Proofs.RateExternal
/-!
# One iteration of a solver, one cell = the DCFR update with the increments of the traversal

Every solver runs a traversal, applies its effect list, and `advance`s a table.  For one cell
`(me, I)` this is `Q ↦ disc_t(Q + r)`, `S ↦ (t/(t+1))^γ (S + s)`, `σ ↦ RM(Q + r)`, where `r`, `s` are
what the traversal of the pass adds (`effSum` of its effect list, as vectors: `incVec`).
`vanillaIter_cell` says so for both vanilla solvers; for the unsampled one `PG.cell_step` identifies
the increments with the exact counterfactual regrets, for the sampled one C04 shows them to be
unbiased estimates.  In external sampling (`external_pass_update`) a pass updates the regrets and
the strategy of the updating player only, and the average-strategy accumulator of the other player
only.
-/
set_option linter.unusedSectionVars false
set_option linter.unusedVariables false
namespace Cfr

noncomputable def incVec (es : List (Eff ℝ)) (me : Bool) (I : Nat) (slot : Slot) (n : Nat) : List ℝ :=
  (List.range n).map (fun a => effSum es me I slot a)

namespace SI

theorem incVec_length (es : List (Eff ℝ)) (me : Bool) (I : Nat) (slot : Slot) (n : Nat) :
    (incVec es me I slot n).length = n := by
  rw [incVec, List.length_map, List.length_range]

theorem getD_range_map (n : ℕ) (f : ℕ → ℝ) (a : ℕ) (ha : a < n) :
    ((List.range n).map f).getD a 0 = f a := by
  simp [List.getD_eq_getElem?_getD, List.getElem?_map, List.getElem?_range ha]

theorem eq_vadd (n : ℕ) (x x' : List ℝ) (f : ℕ → ℝ) (hx : x.length = n) (hx' : x'.length = n)
    (h : ∀ a, a < n → x'.getD a 0 = x.getD a 0 + f a) :
    x' = vadd x ((List.range n).map f) := by
  have hl : (vadd x ((List.range n).map f)).length = n := by
    rw [vadd_length, hx, List.length_map, List.length_range, min_self]
  apply list_ext_getD _ _ (hx'.trans hl.symm)
  intro a ha
  rw [hl] at ha
  rw [h a ha, vadd_getD _ _ _ (hx.symm ▸ ha) (by simpa using ha), getD_range_map n f a ha]

theorem vadd_zeros (x : List ℝ) (f : ℕ → ℝ) (h : ∀ a, f a = 0) :
    vadd x ((List.range x.length).map f) = x :=
  (eq_vadd _ x x f rfl rfl fun a _ => by rw [h a, add_zero]).symm

theorem applyEffs_vec (s : SolveSt ℝ) (es : List (Eff ℝ)) (me : Bool) (I : Nat) (x : InfoSt ℝ)
    (hx : (s.get me)[I]? = some x) :
    ∃ x', ((s.applyEffs es).get me)[I]? = some x' ∧ x'.strat = x.strat ∧
      x'.cumRegret = vadd x.cumRegret (incVec es me I Slot.regret x.cumRegret.length) ∧
      x'.cumStrat = vadd x.cumStrat (incVec es me I Slot.strat x.cumStrat.length) := by
  obtain ⟨x', g1, s1, r2, t2, cr2, cs2⟩ := (applyEffs_cell s es me).2 I x hx
  exact ⟨x', g1, s1, eq_vadd _ _ _ _ rfl r2 cr2, eq_vadd _ _ _ _ rfl t2 cs2⟩

theorem vanillaIter_get (g : Game ℝ) (sampled : Bool) (p : RegretParams ℝ) (draw : DrawFn ℝ)
    (it : ℕ) (s : SolveSt ℝ) (log : List (DrawRec ℝ)) (me : Bool) :
    (vanillaIter g sampled p draw it s log).1.get me
      = ((s.applyEffs (vrec ⟨g.chance, sampled, s.strat, draw, it - 1⟩ g.root 1 1 1
          { log := log }).2.1).get me).map (fun x => (x.advance p it it).1) := by
  simp only [vanillaIter]
  cases me <;> exact (advanceAll_spec p it it _ 0).1

noncomputable def passEffs (g : Game ℝ) (first : Bool) (draw : DrawFn ℝ) (it : Nat) (s : SolveSt ℝ)
    (log : List (DrawRec ℝ)) : List (Eff ℝ) :=
  (erec (externalCtx g first draw it s) g.root { log := log }).2.1

theorem externalPass_get_self (g : Game ℝ) (first : Bool) (p : RegretParams ℝ) (draw : DrawFn ℝ)
    (it : Nat) (s : SolveSt ℝ) (log : List (DrawRec ℝ)) :
    (externalPass g first p draw it s log).1.get first
      = ((s.applyEffs (passEffs g first draw it s log)).get first).map
          (fun x => (x.advance p it (if first then it - 1 else it)).1) :=
  (SolveSt.get_set_same _ _ _).trans (advanceAll_spec p it _ _ 0).1

theorem externalPass_get_other (g : Game ℝ) (first : Bool) (p : RegretParams ℝ) (draw : DrawFn ℝ)
    (it : Nat) (s : SolveSt ℝ) (log : List (DrawRec ℝ)) (me : Bool) (h : me ≠ first) :
    (externalPass g first p draw it s log).1.get me
      = (s.applyEffs (passEffs g first draw it s log)).get me :=
  SolveSt.get_set_ne _ _ _ _ h

theorem stratZero_closed (me : Bool) (I a : ℕ) :
    EffClosed fun es => effSum es me I Slot.strat a = 0 where
  nil := effSum_nil ..
  append ha hb := by rw [effSum_append, ha, hb, add_zero]
  cons_regret one i k δ hb := by rw [effSum_cons_regret_strat, hb]

theorem erec_strat_zero (c : ECtx ℝ) (I a : ℕ) :
    ∀ (n : Node ℝ) (d : DrawSt ℝ), effSum (erec c n d).2.1 c.first I Slot.strat a = 0 :=
  (stratZero_closed c.first I a).of_erec c fun one i ho => by
    rw [effSum_stratEffs_strat, if_neg (fun h => ho h.1.1)]

theorem erecNth_strat_zero (c : ECtx ℝ) (I a : ℕ) :
    ∀ (ks : List (Node ℝ)) (k : ℕ) (d : DrawSt ℝ),
      effSum (erecNth c ks k d).2.1 c.first I Slot.strat a = 0 :=
  fun _ => (stratZero_closed c.first I a).of_erecNth c fun k _ => erec_strat_zero c I a k

theorem erecActs_strat_zero (c : ECtx ℝ) (I a : ℕ) (one : Bool) (i : ℕ) :
    ∀ (ss : List ℝ) (ks : List (Node ℝ)) (d : DrawSt ℝ) (k : ℕ) (ex : ℝ),
      effSum (erecActs c one i ss ks d k ex).2.1 c.first I Slot.strat a = 0 :=
  fun ss _ => (stratZero_closed c.first I a).of_erecActs c (fun k _ => erec_strat_zero c I a k)
    one i ss

end SI

/-- **both vanilla solvers, one iteration**: the DCFR update with the increments of the traversal
(sampled: any draw oracle) -/
theorem vanillaIter_cell (g : Game ℝ) (sampled : Bool) (p : RegretParams ℝ) (draw : DrawFn ℝ)
    (it : Nat) (s : SolveSt ℝ) (log : List (DrawRec ℝ)) (me : Bool) (I : Nat)
    (x : InfoSt ℝ) (hx : (s.get me)[I]? = some x) :
    let es := (vrec ⟨g.chance, sampled, s.strat, draw, it - 1⟩ g.root 1 1 1 { log := log }).2.1
    ∃ x', ((vanillaIter g sampled p draw it s log).1.get me)[I]? = some x' ∧
      x'.cumRegret = discountCumRegret p it
        (vadd x.cumRegret (incVec es me I Slot.regret x.cumRegret.length)) ∧
      x'.cumStrat = discountAverageStrat p it
        (vadd x.cumStrat (incVec es me I Slot.strat x.cumStrat.length)) ∧
      x'.strat = regretMatch p.noPositive
        (vadd x.cumRegret (incVec es me I Slot.regret x.cumRegret.length)) := by
  intro es
  obtain ⟨x', g1, _, eR, eS⟩ := SI.applyEffs_vec s es me I x hx
  refine ⟨(x'.advance p it it).1, ?_, ?_, ?_, ?_⟩
  · rw [SI.vanillaIter_get, List.getElem?_map, g1]; rfl
  · rw [← eR]; rfl
  · rw [← eS]; rfl
  · rw [← eR]; rfl

/-- **external sampling, one pass**: the updating player's infosets get the DCFR regret update
with the sampled increments and their average-strategy accumulator is only discounted; the other
player's infosets only receive the sampled strategy additions -/
theorem external_pass_update (g : Game ℝ) (first : Bool) (p : RegretParams ℝ)
    (draw : DrawFn ℝ) (it : Nat) (s : SolveSt ℝ) (log : List (DrawRec ℝ))
    (me : Bool) (I : Nat) (x : InfoSt ℝ) (hx : (s.get me)[I]? = some x) :
    let c : ECtx ℝ := ⟨g.chance, first, s.strat, draw, 2 * (it - 1) + (if first then 0 else 1),
      if first then it - 1 else it⟩
    let es := (erec c g.root { log := log }).2.1
    ∃ x', ((externalPass g first p draw it s log).1.get me)[I]? = some x' ∧
      (me = first →
        x'.cumRegret = discountCumRegret p it
          (vadd x.cumRegret (incVec es me I Slot.regret x.cumRegret.length)) ∧
        x'.cumStrat = discountAverageStrat p (if first then it - 1 else it) x.cumStrat ∧
        x'.strat = regretMatch p.noPositive
          (vadd x.cumRegret (incVec es me I Slot.regret x.cumRegret.length))) ∧
      (me ≠ first →
        x'.cumRegret = x.cumRegret ∧ x'.strat = x.strat ∧
        x'.cumStrat = vadd x.cumStrat (incVec es me I Slot.strat x.cumStrat.length)) := by
  intro c es
  obtain ⟨x', g1, sS, eR, eS⟩ := SI.applyEffs_vec s es me I x hx
  by_cases hm : me = first
  · subst hm
    have eS' : x'.cumStrat = x.cumStrat :=
      eS.trans (SI.vadd_zeros _ _ fun a => SI.erec_strat_zero c I a g.root _)
    refine ⟨(x'.advance p it (if me then it - 1 else it)).1, ?_, fun _ => ⟨?_, ?_, ?_⟩,
      fun h => absurd rfl h⟩
    · rw [SI.externalPass_get_self, List.getElem?_map]
      exact congrArg _ g1
    · rw [← eR]; rfl
    · rw [← eS']; rfl
    · rw [← eR]; rfl
  · have eR' : x'.cumRegret = x.cumRegret :=
      eR.trans (SI.vadd_zeros _ _ fun a => erec_zero c me I a g.root _ fun h => absurd h hm)
    refine ⟨x', ?_, fun h => absurd h hm, fun _ => ⟨eR', sS, eS⟩⟩
    rw [SI.externalPass_get_other _ _ _ _ _ _ _ _ hm]
    exact g1

end Cfr
