import CfrVerif.Proofs.GameWF
import CfrVerif.Proofs.CompileSteps
/-!
# Helper lemmas for `compile_ok_wf`: histories from `prev` pointers, monotonicity of
`NodeOK` / `PR` under table extension, the builder-state invariant
-/
set_option linter.unusedSectionVars false
namespace Cfr

/-! ## own histories from the `prev` pointers -/

/-- follow the `prev` pointers (which point to strictly smaller indices) -/
def histOf (infos : List PInfo) (i : Nat) : Hist :=
  match infos[i]? with
  | some e =>
    match e.prev with
    | some (j, a) => if _h : j < i then histOf infos j ++ [(j, a)] else []
    | none => []
  | none => []
termination_by i

/-- the history that corresponds to a `Prev` component -/
def histP (infos : List PInfo) : Option (Nat × Nat) → Hist
  | none => []
  | some (j, a) => histOf infos j ++ [(j, a)]

theorem histOf_lt (infos : List PInfo) : ∀ i, ∀ e ∈ histOf infos i, e.1 < i := by
  intro i
  induction i using Nat.strong_induction_on with
  | _ i ih =>
    intro e he
    rw [histOf] at he
    split at he
    · split at he
      · split_ifs at he with hj
        · rcases List.mem_append.mp he with h | h
          · have := ih _ hj e h; omega
          · simp only [List.mem_singleton] at h; subst h; exact hj
        · simp at he
      · simp at he
    · simp at he

theorem histOf_prefix {infos infos' : List PInfo} (h : infos <+: infos') :
    ∀ i, i < infos.length → histOf infos' i = histOf infos i := by
  intro i
  induction i using Nat.strong_induction_on with
  | _ i ih =>
    intro hi
    obtain ⟨e, he⟩ : ∃ e, infos[i]? = some e := ⟨infos[i], by simp [hi]⟩
    have he' := prefix_getElem? h he
    rw [histOf, histOf.eq_1 infos, he, he']
    simp only
    split
    · split_ifs with hj
      · rw [ih _ hj (by omega)]
      · rfl
    · rfl

theorem histP_prefix {infos infos' : List PInfo} (h : infos <+: infos') (p : Option (Nat × Nat))
    (hp : ∀ j a, p = some (j, a) → j < infos.length) : histP infos' p = histP infos p := by
  match p, hp with
  | none, _ => rfl
  | some (j, a), hp => simp only [histP]; rw [histOf_prefix h j (hp j a rfl)]

theorem histOf_eq_histP {infos : List PInfo} {i : Nat} {e : PInfo} (he : infos[i]? = some e)
    (hlt : ∀ j a, e.prev = some (j, a) → j < i) : histOf infos i = histP infos e.prev := by
  rw [histOf, he]
  simp only
  split
  · rename_i j a hja
    rw [hja, dif_pos (hlt j a hja)]; rfl
  · rename_i hn
    rw [hn]; rfl

/-! ## monotonicity of `NodeOK` and `PR` -/

variable {α : Type}

mutual
theorem NodeOK_mono {g g' : Game α} (hc : g.chance <+: g'.chance)
    (hi : ∀ one, g.infos one <+: g'.infos one) : ∀ n : Node α, NodeOK g n → NodeOK g' n
  | .term _, _ => trivial
  | .chance _ ks, h =>
    ⟨h.1.imp fun _ hp => ⟨prefix_getElem? hc hp.1, hp.2⟩, h.2.1, NodeOKL_mono hc hi ks h.2.2⟩
  | .player one _ ks, h =>
    ⟨h.1.imp fun _ he => ⟨prefix_getElem? (hi one) he.1, he.2⟩, h.2.1, NodeOKL_mono hc hi ks h.2.2⟩
theorem NodeOKL_mono {g g' : Game α} (hc : g.chance <+: g'.chance)
    (hi : ∀ one, g.infos one <+: g'.infos one) : ∀ ns : List (Node α), NodeOKL g ns → NodeOKL g' ns
  | [], _ => trivial
  | k :: ks, h => ⟨NodeOK_mono hc hi k h.1, NodeOKL_mono hc hi ks h.2⟩
end

mutual
theorem PR_lift (g : Game α) (me : Bool) (hist hist' : Nat → Hist)
    (hh : ∀ i, i < (g.infos me).length → hist' i = hist i) :
    ∀ (n : Node α) (H : Hist), NodeOK g n → PR me hist H n → PR me hist' H n
  | .term _, _, _, _ => trivial
  | .chance i ks, H, hn, h => PRL_lift g me hist hist' hh ks H hn.2.2 h
  | .player one i ks, H, hn, h => by
    obtain ⟨⟨e, h1, h2⟩, h3, h4⟩ := hn
    change if one = me then _ else _ at h ⊢
    by_cases hm : one = me
    · subst hm
      rw [if_pos rfl] at h ⊢
      exact ⟨(hh i (lt_of_getElem?_some h1)).trans h.1, PRD_lift g one hist hist' hh ks H i 0 h4 h.2⟩
    · rw [if_neg hm] at h ⊢
      exact PRL_lift g me hist hist' hh ks H h4 h
theorem PRL_lift (g : Game α) (me : Bool) (hist hist' : Nat → Hist)
    (hh : ∀ i, i < (g.infos me).length → hist' i = hist i) :
    ∀ (ns : List (Node α)) (H : Hist), NodeOKL g ns → PRL me hist H ns → PRL me hist' H ns
  | [], _, _, _ => trivial
  | k :: ks, H, hn, h =>
    ⟨PR_lift g me hist hist' hh k H hn.1 h.1, PRL_lift g me hist hist' hh ks H hn.2 h.2⟩
theorem PRD_lift (g : Game α) (me : Bool) (hist hist' : Nat → Hist)
    (hh : ∀ i, i < (g.infos me).length → hist' i = hist i) :
    ∀ (ns : List (Node α)) (H : Hist) (i a : Nat), NodeOKL g ns → PRD me hist H i a ns →
      PRD me hist' H i a ns
  | [], _, _, _, _, _ => trivial
  | k :: ks, H, i, a, hn, h =>
    ⟨PR_lift g me hist hist' hh k _ hn.1 h.1, PRD_lift g me hist hist' hh ks H i (a + 1) hn.2 h.2⟩
end

/-! ## builder states -/

/-- a builder state read as a game (the root is irrelevant for `NodeOK`) -/
def BState.game (s : BState α) (root : Node α) : Game α :=
  { chance := s.chance.map (·.2), p1 := s.p1, p2 := s.p2, s1 := s.s1, s2 := s.s2, root }

@[simp] theorem BState.game_infos (s : BState α) (r : Node α) (one : Bool) :
    (s.game r).infos one = s.infos one := by cases one <;> rfl

@[simp] theorem BState.game_chance (s : BState α) (r : Node α) :
    (s.game r).chance = s.chance.map (·.2) := rfl

@[simp] theorem BState.game_singles (s : BState α) (r : Node α) (one : Bool) :
    (s.game r).singles one = s.singles one := by cases one <;> rfl

structure Grows (s s' : BState α) : Prop where
  chance : s.chance <+: s'.chance
  infos : ∀ one, s.infos one <+: s'.infos one

theorem Grows.refl (s : BState α) : Grows s s := ⟨List.prefix_refl _, fun _ => List.prefix_refl _⟩
theorem Grows.trans {s s' s'' : BState α} (h : Grows s s') (h' : Grows s' s'') : Grows s s'' :=
  ⟨h.chance.trans h'.chance, fun one => (h.infos one).trans (h'.infos one)⟩
theorem GrowsAll.grows {s s' : BState α} (h : GrowsAll s s') : Grows s s' := ⟨h.chance, h.infos⟩

theorem Grows.nodeOK {s s' : BState α} (h : Grows s s') {r r' : Node α} {n : Node α}
    (hn : NodeOK (s.game r) n) : NodeOK (s'.game r') n :=
  NodeOK_mono (by simpa using h.chance.map _) (by simpa using h.infos) n hn
theorem Grows.nodeOKL {s s' : BState α} (h : Grows s s') {r r' : Node α} {ns : List (Node α)}
    (hn : NodeOKL (s.game r) ns) : NodeOKL (s'.game r') ns :=
  NodeOKL_mono (by simpa using h.chance.map _) (by simpa using h.infos) ns hn

def PrevOK (prev : Prev) (s : BState α) : Prop :=
  ∀ one j a, prev.get one = some (j, a) → j < (s.infos one).length

theorem PrevOK.empty : PrevOK ({} : Prev) ({} : BState α) := by
  intro one j a hj
  rw [Prev.get_empty] at hj; cases hj

theorem PrevOK.mono {prev : Prev} {s s' : BState α} (h : PrevOK prev s) (he : Grows s s') :
    PrevOK prev s' := fun one j a hp =>
  Nat.lt_of_lt_of_le (h one j a hp) (he.infos one).length_le

theorem TablesWF.addSingle {I : List PInfo} {S : List (Nat × Nat)} (h : TablesWF I S) (l a : Nat)
    (h1 : ∀ e ∈ I, e.label ≠ l) (h2 : ∀ e ∈ S, e.1 ≠ l) : TablesWF I (S ++ [(l, a)]) where
  labelsNodup := h.labelsNodup
  singlesNodup := by
    rw [List.map_append, List.nodup_append]
    refine ⟨h.singlesNodup, by simp, ?_⟩
    intro x hx y hy
    simp only [List.map_cons, List.map_nil, List.mem_singleton] at hy
    obtain ⟨e, he, rfl⟩ := List.mem_map.mp hx
    rw [hy]; exact h2 e he
  disjoint := by
    intro x hx
    rw [List.map_append, List.mem_append, not_or]
    refine ⟨h.disjoint x hx, ?_⟩
    obtain ⟨e, he, rfl⟩ := List.mem_map.mp hx
    simpa using h1 e he
  actionsNodup := h.actionsNodup

theorem TablesWF.addInfo {I : List PInfo} {S : List (Nat × Nat)} (h : TablesWF I S) (e0 : PInfo)
    (h1 : ∀ e ∈ I, e.label ≠ e0.label) (h2 : ∀ e ∈ S, e.1 ≠ e0.label) (h3 : e0.actions.Nodup) :
    TablesWF (I ++ [e0]) S where
  labelsNodup := by
    rw [List.map_append, List.nodup_append]
    refine ⟨h.labelsNodup, by simp, ?_⟩
    intro x hx y hy
    simp only [List.map_cons, List.map_nil, List.mem_singleton] at hy
    obtain ⟨e, he, rfl⟩ := List.mem_map.mp hx
    rw [hy]; exact h1 e he
  singlesNodup := h.singlesNodup
  disjoint := by
    intro x hx
    rw [List.map_append, List.mem_append] at hx
    rcases hx with hx | hx
    · exact h.disjoint x hx
    · simp only [List.map_cons, List.map_nil, List.mem_singleton] at hx
      subst hx
      intro hm
      obtain ⟨e, he, hel⟩ := List.mem_map.mp hm
      exact h2 e he hel
  actionsNodup := by
    intro i hi
    rcases List.mem_append.mp hi with hi | hi
    · exact h.actionsNodup i hi
    · simp only [List.mem_singleton] at hi; subst hi; exact h3

/-! ## the builder-state invariant and the registration steps -/

section
variable [Field α] [LinearOrder α] [IsStrictOrderedRing α]

theorem fromRoot_state {r : Raw α} {g : Game α} (h : fromRoot r = .ok g) :
    ∃ root s, compile r {} {} = .ok (root, s) ∧ g = s.game root := by
  unfold fromRoot at h
  split at h
  · cases h
  · rename_i root s hc
    simp only [Except.ok.injEq] at h
    exact ⟨root, s, hc, h.symm⟩

theorem chanceDist_dist {probs : List α} {nodes : List (Node α)} (hl : probs.length = nodes.length)
    (hne : nodes ≠ []) (hpos : ∀ p ∈ probs, 0 < p) :
    (∀ p ∈ chanceDist probs nodes, 0 < p) ∧ (chanceDist probs nodes).sum = 1 := by
  unfold chanceDist
  by_cases h : nodes.length = 1
  · rw [if_pos h]
    exact ⟨fun p hp => by rw [List.mem_singleton.mp hp]; exact one_pos, List.sum_singleton⟩
  · have hne' : probs ≠ [] := fun e => hne (List.eq_nil_of_length_eq_zero (by rw [← hl, e]; rfl))
    have htot : 0 < probs.sum := List.sum_pos probs hpos hne'
    rw [if_neg h, lsum_eq_sum, sum_map_div, div_self htot.ne']
    refine ⟨fun p hp => ?_, rfl⟩
    obtain ⟨q, hq, rfl⟩ := List.mem_map.mp hp
    exact div_pos (hpos q hq) htot

structure BInv (s : BState α) : Prop where
  tables : ∀ one, TablesWF (s.infos one) (s.singles one)
  acts : ∀ one, ∀ e ∈ s.infos one, 2 ≤ e.actions.length
  prevLt : ∀ one i (e : PInfo), (s.infos one)[i]? = some e → ∀ j a, e.prev = some (j, a) → j < i
  chance : ∀ e ∈ s.chance, (∀ p ∈ e.2, 0 < p) ∧ e.2.sum = 1

theorem BInv.empty : BInv ({} : BState α) where
  tables one := by rw [BState.infos_empty, BState.singles_empty]; exact ⟨by simp, by simp, by simp, by simp⟩
  acts one e he := by rw [BState.infos_empty] at he; cases he
  prevLt one i e he := by rw [BState.infos_empty] at he; cases he
  chance e he := by cases he

theorem BInv.addSingle {s : BState α} (hb : BInv s) {one : Bool} {l : Nat} (a : Nat)
    (h1 : ∀ e ∈ s.infos one, e.label ≠ l) (h2 : ∀ e ∈ s.singles one, e.1 ≠ l) :
    BInv (s.addSingle one (l, a)) where
  tables := by
    simp only [BState.infos_addSingle]
    exact BState.forall_singles_addSingle (P := fun me S => TablesWF (s.infos me) S) hb.tables
      ((hb.tables one).addSingle l a h1 h2)
  acts := by simpa only [BState.infos_addSingle] using hb.acts
  prevLt := by simpa only [BState.infos_addSingle] using hb.prevLt
  chance := by simpa only [BState.chance_addSingle] using hb.chance

theorem BInv.addInfo {s : BState α} (hb : BInv s) {one : Bool} {e0 : PInfo}
    (h1 : ∀ e ∈ s.infos one, e.label ≠ e0.label) (h2 : ∀ e ∈ s.singles one, e.1 ≠ e0.label)
    (h3 : e0.actions.Nodup) (h4 : 2 ≤ e0.actions.length)
    (h5 : ∀ j a, e0.prev = some (j, a) → j < (s.infos one).length) : BInv (s.addInfo one e0) where
  tables := by
    simp only [BState.singles_addInfo]
    exact BState.forall_infos_addInfo (P := fun me I => TablesWF I (s.singles me)) hb.tables
      ((hb.tables one).addInfo e0 h1 h2 h3)
  acts := BState.forall_infos_addInfo (P := fun _ I => ∀ e ∈ I, 2 ≤ e.actions.length) hb.acts (by
    intro e he
    rcases List.mem_append.mp he with he | he
    · exact hb.acts one e he
    · rw [List.mem_singleton.mp he]; exact h4)
  prevLt := BState.forall_infos_addInfo
    (P := fun _ I => ∀ i (e : PInfo), I[i]? = some e → ∀ j a, e.prev = some (j, a) → j < i)
    hb.prevLt (by
      intro i e he j a hja
      rcases getElem?_concat_eq_some.mp he with he | ⟨rfl, rfl⟩
      · exact hb.prevLt one i e he j a hja
      · exact h5 j a hja)
  chance := by simpa only [BState.chance_addInfo] using hb.chance

theorem BInv.addChance {s : BState α} (hb : BInv s) (x : Option Nat) {P : List α}
    (hP : (∀ p ∈ P, 0 < p) ∧ P.sum = 1) : BInv (s.addChance (x, P)) where
  tables := by simpa only [BState.infos_addChance, BState.singles_addChance] using hb.tables
  acts := by simpa only [BState.infos_addChance] using hb.acts
  prevLt := by simpa only [BState.infos_addChance] using hb.prevLt
  chance := by
    intro e he
    rcases List.mem_append.mp he with he | he
    · exact hb.chance e he
    · rw [List.mem_singleton.mp he]; exact hP

theorem registerSingle_inv {one : Bool} {info a : Nat} {s s' : BState α}
    (h : registerSingle one info a s = .ok s') (hb : BInv s) : BInv s' := by
  rcases registerSingle_cases h with ⟨rfl, _⟩ | ⟨rfl, h1, h2⟩
  · exact hb
  · exact hb.addSingle a h1 h2

theorem registerPlayer_inv {one : Bool} {info : Nat} {acts : List Nat} {prev : Prev}
    {s s' : BState α} {i : Nat}
    (h : registerPlayer one info acts prev s = .ok (i, s')) (h2 : 2 ≤ acts.length)
    (hb : BInv s) (hp : PrevOK prev s) : BInv s' := by
  rcases registerPlayer_cases h with ⟨rfl, _⟩ | ⟨rfl, _, h3, h4, h5⟩
  · exact hb
  · exact hb.addInfo h3 h4 h5 h2 (hp one)

theorem registerChance_inv {info : Option Nat} {probs : List α} {nodes : List (Node α)}
    {s s' : BState α} {n r : Node α}
    (h : registerChance info probs nodes s = .ok (n, s')) (hb : BInv s)
    (hl : probs.length = nodes.length) (hpos : ∀ p ∈ probs, 0 < p)
    (hn : NodeOKL (s.game r) nodes) :
    BInv s' ∧ NodeOK (s'.game r) n ∧
      ∀ (me : Bool) (hist : Nat → Hist) (H : Hist), PRL me hist H nodes → PR me hist H n := by
  obtain ⟨hs, _, hnode⟩ := registerChance_cases h
  have hg := (registerChance_spec h).1.grows
  have hne : nodes ≠ [] := by
    rcases hnode with rfl | ⟨h2, _⟩
    · simp
    · intro e; rw [e] at h2; cases h2
  refine ⟨?_, ?_⟩
  · rcases hs with rfl | ⟨rfl, _⟩
    · exact hb
    · exact hb.addChance _ (chanceDist_dist hl hne hpos)
  · rcases hnode with rfl | ⟨h2, i, rfl, hi⟩
    · exact ⟨hg.nodeOK hn.1, fun me hist H hh => hh.1⟩
    · refine ⟨⟨⟨chanceDist probs nodes, ?_, ?_⟩, h2, hg.nodeOKL hn⟩, fun me hist H hh => hh⟩
      · rw [BState.game_chance, List.getElem?_map, hi]; rfl
      · rw [chanceDist, if_neg (by omega), List.length_map, hl]

end

end Cfr
