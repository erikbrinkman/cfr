import CfrVerif.Proofs.BestResponse
import CfrVerif.Proofs.GameWFLemmas
/-!
# From the compiled game to the player view

* `evV_view` : evaluating the view of player `me` with `me`'s own strategy gives `me`'s expected
  payoff (`expected`, negated for player two), provided no strategy entry is negative
  (`expected` skips the edges whose probability is not positive, `evV` multiplies by it).
* `view_VOK`, `view_PRV` : the view of a well-formed game is a well-formed view with perfect
  recall, for exactly the `N`, `nActs` that `optimalDeviations` passes to `bestResponse`.
* `stratOK_iff` : the strategies that fit the view are the valid strategies that fit the game.
-/
set_option linter.unusedSectionVars false
namespace Cfr
variable {α : Type} [Field α] [LinearOrder α] [IsStrictOrderedRing α]

/-- a payoff of player one as seen by player `me` -/
def sg (me : Bool) (x : α) : α := if me then x else -x

theorem sg_zero (me : Bool) : sg me (0 : α) = 0 := by cases me <;> simp [sg]
theorem sg_add (me : Bool) (x y : α) : sg me (x + y) = sg me x + sg me y := by
  cases me
  · exact neg_add x y
  · rfl
theorem sg_mul (me : Bool) (p x : α) : sg me (p * x) = p * sg me x := by
  cases me
  · exact (mul_neg p x).symm
  · rfl

/-! ## the defining equations of `view` -/

section
variable {ch : List (List α)} {σo : Strat α} {me one : Bool} {i : Nat} {k : Node α}
  {ks : List (Node α)}

@[simp] theorem viewL_nil : viewL ch σo me [] = [] := by rw [viewL]
@[simp] theorem viewL_cons : viewL ch σo me (k :: ks) = view ch σo me k :: viewL ch σo me ks := by
  rw [viewL]

theorem view_chance : view ch σo me (.chance i ks) = .nature (ch.getD i []) (viewL ch σo me ks) := by
  rw [view]

theorem view_player_self : view ch σo me (.player me i ks) = .decide i (viewL ch σo me ks) := by
  rw [view, if_pos (beq_self_eq_true me)]

theorem view_player_other (h : one ≠ me) :
    view ch σo me (.player one i ks) = .nature (σo.at i) (viewL ch σo me ks) := by
  rw [view, if_neg (by simpa using h)]

end

theorem viewL_length (ch : List (List α)) (σo : Strat α) (me : Bool) :
    ∀ ks : List (Node α), (viewL ch σo me ks).length = ks.length
  | [] => by rw [viewL_nil]; rfl
  | k :: ks => by rw [viewL_cons, List.length_cons, List.length_cons, viewL_length ch σo me ks]

/-! ## value of the view = expected payoff -/

mutual
theorem evV_view (ch : List (List α)) (σ : Bool → Strat α) (me : Bool)
    (hnn : ∀ one i, ∀ p ∈ (σ one).at i, 0 ≤ p) :
    ∀ n : Node α, evV (σ me) (view ch (σ (!me)) me n) = sg me (expected ch σ n)
  | .term p => by cases me <;> simp [view, evV, expected, sg]
  | .chance i ks => by
    rw [view_chance, evV, expected]
    exact evVN_viewL ch σ me hnn false (ch.getD i []) ks (fun h => Bool.noConfusion h)
  | .player one i ks => by
    by_cases h : one = me
    · subst h
      rw [view_player_self, evV, expected]
      exact evVN_viewL ch σ one hnn true _ ks (fun _ => hnn one i)
    · rw [view_player_other h, evV, expected, Bool.eq_not_of_ne h]
      exact evVN_viewL ch σ me hnn true _ ks (fun _ => hnn (!me) i)
theorem evVN_viewL (ch : List (List α)) (σ : Bool → Strat α) (me : Bool)
    (hnn : ∀ one i, ∀ p ∈ (σ one).at i, 0 ≤ p) (skip : Bool) :
    ∀ (ws : List α) (ks : List (Node α)), (skip = true → ∀ w ∈ ws, 0 ≤ w) →
      evVN (σ me) ws (viewL ch (σ (!me)) me ks) = sg me (expectedL ch σ skip ws ks)
  | [], ks, _ => by simp [evVN, expectedL, sg_zero]
  | _ :: _, [], _ => by simp [evVN, expectedL, sg_zero]
  | w :: ws, k :: ks, hw => by
    rw [viewL_cons, evVN, expectedL, sg_add, evV_view ch σ me hnn k,
      evVN_viewL ch σ me hnn skip ws ks (fun hs w hw' => hw hs w (List.mem_cons_of_mem _ hw'))]
    congr 1
    -- an edge that `expected` skips has weight zero
    by_cases hs : (skip && !(decide (0 < w))) = true
    · obtain ⟨hsk, hw'⟩ := (Bool.and_eq_true _ _).mp hs
      have hw0 : ¬ 0 < w := of_decide_eq_false ((Bool.not_eq_true' _).mp hw')
      obtain rfl : w = 0 := le_antisymm (not_lt.mp hw0) (hw hsk w List.mem_cons_self)
      rw [if_pos hs, zero_mul, sg_zero]
    · rw [if_neg hs, sg_mul]
end

/-! ## the view is well formed -/

theorem fits_at (g : Game α) (p : Bool) (τ : Strat α) (hfit : FitsGame g p τ) (i : Nat) (e : PInfo)
    (he : (g.infos p)[i]? = some e) : ∃ v, τ[i]? = some v ∧ v.length = e.actions.length := by
  have h := congrArg (fun l => l[i]?) hfit
  simp only [List.getElem?_map, he, Option.map_some] at h
  cases hv : τ[i]? with
  | none => simp [hv] at h
  | some v => exact ⟨v, rfl, by simpa [hv] using h⟩

/-- the `nActs` that `optimalDeviations` passes to `bestResponse` -/
abbrev nActsOf (g : Game α) (me : Bool) : Nat → Nat :=
  fun i => ((g.infos me).getD i default).actions.length

mutual
theorem view_VOK (g : Game α) (hch : ∀ ps ∈ g.chance, ∀ p ∈ ps, 0 ≤ p) (me : Bool) (σo : Strat α)
    (hσ : IsStrat σo) (hfit : FitsGame g (!me) σo) :
    ∀ n : Node α, NodeOK g n →
      VOK (g.infos me).length (nActsOf g me) (view g.chance σo me n)
  | .term p, _ => by simp [view]
  | .chance i ks, h => by
    obtain ⟨⟨ps, hps, hl⟩, _, hk⟩ := NodeOK_chance.mp h
    have e : g.chance.getD i [] = ps := by simp [List.getD_eq_getElem?_getD, hps]
    rw [view_chance, VOK_nature, e, viewL_length]
    exact ⟨hl, hch ps (List.mem_of_getElem? hps), view_VOKL g hch me σo hσ hfit ks hk⟩
  | .player one i ks, h => by
    obtain ⟨⟨e, he, hl⟩, h2, hk⟩ := NodeOK_player.mp h
    have ih := view_VOKL g hch me σo hσ hfit ks hk
    by_cases hm : one = me
    · subst hm
      rw [view_player_self, VOK_decide, viewL_length]
      refine ⟨(List.getElem?_eq_some_iff.mp he).1, ?_, by omega, ih⟩
      simp [nActsOf, List.getD_eq_getElem?_getD, he, hl]
    · obtain ⟨v, hv, hvl⟩ := fits_at g (!me) σo hfit i e (Bool.eq_not_of_ne hm ▸ he)
      have e' : σo.at i = v := by simp [Strat.at, List.getD_eq_getElem?_getD, hv]
      rw [view_player_other hm, VOK_nature, viewL_length, e']
      exact ⟨by omega, (hσ v (List.mem_of_getElem? hv)).1, ih⟩
theorem view_VOKL (g : Game α) (hch : ∀ ps ∈ g.chance, ∀ p ∈ ps, 0 ≤ p) (me : Bool) (σo : Strat α)
    (hσ : IsStrat σo) (hfit : FitsGame g (!me) σo) :
    ∀ ks : List (Node α), NodeOKL g ks →
      VOKL (g.infos me).length (nActsOf g me) (viewL g.chance σo me ks)
  | [], _ => by simp
  | k :: ks, h => by
    obtain ⟨h1, h2⟩ := NodeOKL_cons.mp h
    rw [viewL_cons, VOKL_cons]
    exact ⟨view_VOK g hch me σo hσ hfit k h1, view_VOKL g hch me σo hσ hfit ks h2⟩
end

/-! ## perfect recall carries over -/

mutual
theorem view_PRV (ch : List (List α)) (σo : Strat α) (me : Bool) (hist : Nat → Hist) :
    ∀ (n : Node α) (H : Hist), PR me hist H n → PRV hist H (view ch σo me n)
  | .term p, H, _ => by simp [view]
  | .chance i ks, H, h => by
    rw [view_chance, PRV_nature]
    exact view_PRVL ch σo me hist ks H (PR_chance.mp h)
  | .player one i ks, H, h => by
    by_cases hm : one = me
    · subst hm
      obtain ⟨h1, h2⟩ := PR_player_self.mp h
      rw [view_player_self, PRV_decide]
      exact ⟨h1, view_PRVD ch σo one hist ks H i 0 h2⟩
    · rw [view_player_other hm, PRV_nature]
      exact view_PRVL ch σo me hist ks H ((PR_player_other hm).mp h)
theorem view_PRVL (ch : List (List α)) (σo : Strat α) (me : Bool) (hist : Nat → Hist) :
    ∀ (ks : List (Node α)) (H : Hist), PRL me hist H ks → PRVL hist H (viewL ch σo me ks)
  | [], H, _ => by simp
  | k :: ks, H, h => by
    obtain ⟨h1, h2⟩ := PRL_cons.mp h
    rw [viewL_cons, PRVL_cons]
    exact ⟨view_PRV ch σo me hist k H h1, view_PRVL ch σo me hist ks H h2⟩
theorem view_PRVD (ch : List (List α)) (σo : Strat α) (me : Bool) (hist : Nat → Hist) :
    ∀ (ks : List (Node α)) (H : Hist) (i a : Nat), PRD me hist H i a ks →
      PRVD hist H i a (viewL ch σo me ks)
  | [], H, i, a, _ => by simp
  | k :: ks, H, i, a, h => by
    obtain ⟨h1, h2⟩ := PRD_cons.mp h
    rw [viewL_cons, PRVD_cons]
    exact ⟨view_PRV ch σo me hist k _ h1, view_PRVD ch σo me hist ks H i (a + 1) h2⟩
end

/-! ## strategies -/

theorem stratOK_iff (g : Game α) (me : Bool) (τ : Strat α) :
    StratOK (g.infos me).length (nActsOf g me) τ ↔ IsStrat τ ∧ FitsGame g me τ := by
  unfold StratOK FitsGame
  constructor
  · rintro ⟨hl, hlen, hs⟩
    refine ⟨hs, ?_⟩
    apply List.ext_getElem (by simp [hl])
    intro i h1 h2
    have hi : i < (g.infos me).length := by simpa using h2
    have hi' : i < τ.length := by simpa using h1
    have := hlen i hi
    simpa [Strat.at, nActsOf, List.getD_eq_getElem?_getD, hi, hi'] using this
  · rintro ⟨hs, hfit⟩
    have hl : τ.length = (g.infos me).length := by simpa using congrArg List.length hfit
    refine ⟨hl, ?_, hs⟩
    intro i hi
    obtain ⟨v, hv, hvl⟩ := fits_at g me τ hfit i _ (List.getElem?_eq_getElem hi)
    simp [Strat.at, nActsOf, List.getD_eq_getElem?_getD, hv, hvl, hi]

end Cfr
