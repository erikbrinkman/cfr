import CfrVerif.Proofs.CompileWF
import CfrVerif.Proofs.ViewBridge
import CfrVerif.Proofs.Lookup
/-!
# What a game tree means, independently of its compiled form

`rawEV ρ r` is the expected payoff of player one on the *input* tree `r` (the game as the caller
wrote it: labels, unnormalised chance weights, degenerate nodes and all) under a labelled
profile `ρ : player → infoset label → action label → probability`.  `compile_expected` says that
`Game::from_root` preserves this meaning: evaluating the compiled game under an indexed profile
`σ` equals evaluating the input tree under the labelled reading of `σ` (single-action infosets
play their only action).
-/
set_option linter.unusedSectionVars false
namespace Cfr
variable {α : Type} [Field α] [LinearOrder α] [IsStrictOrderedRing α]

/-- a labelled profile: the probability with which player `o` plays action label `a` at the
infoset labelled `l` -/
abbrev LProfile (α : Type) := Bool → Nat → Nat → α

mutual
/-- expected payoff of player one on the input tree -/
def rawEV (ρ : LProfile α) : Raw α → α
  | .term p => p
  | .chance _ ws ks => rawEVC ρ ws.sum ws ks
  | .player o l as ks => rawEVP ρ o l as ks
/-- chance children: outcome `i` has probability `w_i / total` -/
def rawEVC (ρ : LProfile α) (total : α) : List α → List (Raw α) → α
  | w :: ws, k :: ks => w / total * rawEV ρ k + rawEVC ρ total ws ks
  | _, _ => 0
/-- decision children: action `a_i` has probability `ρ o l a_i` -/
def rawEVP (ρ : LProfile α) (o : Bool) (l : Nat) : List Nat → List (Raw α) → α
  | a :: as, k :: ks => ρ o l a * rawEV ρ k + rawEVP ρ o l as ks
  | _, _ => 0
end

/-- the labelled reading of an indexed profile on a compiled game: a multi-action infoset plays
its vector, a single-action infoset its only action, anything else nothing -/
def Game.labelled (g : Game α) (σ : Bool → Strat α) : LProfile α := fun o l a =>
  match (g.infos o).findIdx? (fun e => e.label == l) with
  | some i =>
    match ((g.infos o).getD i default).actions.findIdx? (fun b => b == a) with
    | some k => ((σ o).at i).getD k 0
    | none => 0
  | none => if (g.singles o).any (fun e => e.1 == l && e.2 == a) then 1 else 0


/-! ## the labelled reading on registered infosets -/

theorem labelled_single (g : Game α) (σ : Bool → Strat α) (o : Bool) (l a : Nat)
    (htw : TablesWF (g.infos o) (g.singles o)) (hm : (l, a) ∈ g.singles o) :
    g.labelled σ o l a = 1 := by
  have hnone : (g.infos o).findIdx? (fun e => e.label == l) = none :=
    (findIdx?_key_none PInfo.label l _).mpr fun hl =>
      htw.disjoint l hl (List.mem_map.mpr ⟨(l, a), hm, rfl⟩)
  unfold Game.labelled
  rw [hnone]
  simp only
  rw [if_pos]
  exact List.any_eq_true.mpr ⟨(l, a), hm, by simp⟩

theorem labelled_at (g : Game α) (σ : Bool → Strat α) (o : Bool) (i : Nat) (e : PInfo)
    (htw : TablesWF (g.infos o) (g.singles o)) (he : (g.infos o)[i]? = some e)
    (k : Nat) (hk : k < e.actions.length) :
    g.labelled σ o e.label e.actions[k] = ((σ o).at i).getD k 0 := by
  unfold Game.labelled
  rw [lookupOK_findIdx?.key_some (·.label) htw.labelsNodup he]
  simp only
  have hget : (g.infos o).getD i default = e := by simp [List.getD_eq_getElem?_getD, he]
  rw [hget, lookupOK_findIdx?.key_some (fun b => b)
    (by rw [List.map_id']; exact htw.actionsNodup e (List.mem_of_getElem? he))
    (List.getElem?_eq_getElem hk)]

theorem labelled_multi (g : Game α) (σ : Bool → Strat α) (o : Bool) (i : Nat) (e : PInfo)
    (htw : TablesWF (g.infos o) (g.singles o)) (he : (g.infos o)[i]? = some e)
    (hfit : FitsGame g o (σ o)) :
    e.actions.map (g.labelled σ o e.label) = (σ o).at i := by
  obtain ⟨v, hv, hvl⟩ := fits_at g o (σ o) hfit i e he
  have e' : (σ o).at i = v := by simp [Strat.at, List.getD_eq_getElem?_getD, hv]
  apply List.ext_getElem (by simp [e', hvl])
  intro k h1 h2
  have hk : k < e.actions.length := by simpa using h1
  rw [List.getElem_map, labelled_at g σ o i e htw he k hk]
  simp [List.getD_eq_getElem?_getD, h2]

/-! ## the tree is registered in the tables -/

mutual
/-- every decision node of the tree has its infoset in the tables `sf`: a single-action node in the
singles table, a multi-action node in the infoset table with exactly its actions -/
def Reg (sf : BState α) : Raw α → Prop
  | .term _ => True
  | .chance _ _ ks => RegL sf ks
  | .player o l as ks =>
    ((∃ a, as = [a] ∧ (l, a) ∈ sf.singles o) ∨
      (∃ (i : Nat) (e : PInfo), (sf.infos o)[i]? = some e ∧ e.label = l ∧ e.actions = as)) ∧ RegL sf ks
def RegL (sf : BState α) : List (Raw α) → Prop
  | [] => True
  | k :: ks => Reg sf k ∧ RegL sf ks
end

def Good (sf : BState α) (σ : Bool → Strat α) : Prop :=
  ∀ me : Bool, IsStrat (σ me) ∧ FitsGame (G sf) me (σ me)

/-- `expectedL` may skip an edge of probability zero: its term vanishes anyway -/
theorem skip_mul {p : α} (h0 : 0 ≤ p) (x : α) :
    (if (true && !decide (0 < p)) = true then 0 else p * x) = p * x := by
  by_cases hp : 0 < p
  · rw [if_neg (by simp [hp])]
  · rw [if_pos (by simp [hp]), le_antisymm (not_lt.mp hp) h0, zero_mul]

/-- by induction over the run: the tree is registered in every later state of the tables, and
the compiled node evaluates to what the tree means -/
theorem compileAll_sem :
    (∀ (r : Raw α) (prev : Prev) (s : BState α) (n : Node α) (s' : BState α),
      compile r prev s = .ok (n, s') → Raw.Shape r →
      ∀ sf, GrowsAll s' sf → (∀ o, TablesWF (sf.infos o) (sf.singles o)) →
        Reg sf r ∧ ∀ σ, Good sf σ →
          expected (G sf).chance σ n = rawEV ((G sf).labelled σ) r) ∧
    (∀ (ws : List α) (ks : List (Raw α)) (prev : Prev) (s : BState α) (ps : List α)
      (ns : List (Node α)) (s' : BState α), compileOutcomes ws ks prev s = .ok (ps, ns, s') →
      ws.length = ks.length → Raw.ShapeL ks →
      ∀ sf, GrowsAll s' sf → (∀ o, TablesWF (sf.infos o) (sf.singles o)) →
        RegL sf ks ∧ ∀ σ, Good sf σ → ∀ t : α,
          expectedL (G sf).chance σ false (ws.map (· / t)) ns =
            rawEVC ((G sf).labelled σ) t ws ks) ∧
    (∀ (ks : List (Raw α)) (one : Bool) (i a : Nat) (prev : Prev) (s : BState α)
      (ns : List (Node α)) (s' : BState α), compileActions ks one i a prev s = .ok (ns, s') →
      Raw.ShapeL ks →
      ∀ sf, GrowsAll s' sf → (∀ o, TablesWF (sf.infos o) (sf.singles o)) →
        RegL sf ks ∧ ∀ σ, Good sf σ → ∀ (o : Bool) (l : Nat) (as : List Nat),
          as.length = ks.length → (∀ x ∈ as, 0 ≤ (G sf).labelled σ o l x) →
            expectedL (G sf).chance σ true (as.map ((G sf).labelled σ o l)) ns =
              rawEVP ((G sf).labelled σ) o l as ks) :=
  compile_ok_rec {
    term := fun pay prev s _ sf _ _ => ⟨trivial, fun σ _ => rfl⟩
    chance := by
      intro info ws kids prev s probs nodes s1 n s' hco ih hr hs sf hgf htw
      obtain ⟨_, hpos, hshape⟩ := compileOutcomes_shape hco
      obtain ⟨rfl, hlen⟩ := hshape hs.1
      obtain ⟨hreg, hev⟩ := ih hs.1 hs.2 sf ((registerChance_spec hr).1.trans hgf) htw
      refine ⟨hreg, fun σ hσ => ?_⟩
      refine Eq.trans ?_ (hev σ hσ probs.sum)
      rcases (registerChance_cases hr).2.2 with hone | ⟨h2, i, rfl, hi⟩
      · subst hone
        obtain ⟨w, rfl⟩ := List.length_eq_one_iff.mp (hs.1.trans hlen.symm)
        have hw : (0 : α) < w := hpos w List.mem_cons_self
        simp only [List.map_cons, List.map_nil, List.sum_cons, List.sum_nil, add_zero,
          div_self hw.ne', expectedL, Bool.false_and, Bool.false_eq_true, if_false, one_mul]
      · have hd : (G sf).chance.getD i [] = probs.map (· / probs.sum) := by
          rw [List.getD_eq_getElem?_getD, BState.game_chance, List.getElem?_map,
            prefix_getElem? hgf.chance hi, Option.map_some, Option.getD_some, chanceDist,
            if_neg (by omega), lsum_eq_sum]
        rw [expected, hd]
    single := by
      intro one info a k ks prev s s1 n s' hr hc ih hs sf hgf htw
      obtain rfl : ks = [] := List.eq_nil_of_length_eq_zero (Nat.succ.inj hs.1).symm
      obtain ⟨hreg, hev⟩ := ih hs.2.1 sf hgf htw
      have hm' : (info, a) ∈ sf.singles one :=
        (((compile_grows hc).trans hgf).singles one).subset (registerSingle_spec hr).2.1
      refine ⟨⟨Or.inl ⟨a, rfl, hm'⟩, hreg, trivial⟩, fun σ hσ => ?_⟩
      · change _ = (G sf).labelled σ one info a * rawEV _ k + 0
        rw [hev σ hσ, labelled_single (G sf) σ one info a (htw one) hm',
          one_mul, add_zero]
    multi := by
      intro one info a b as k ks prev s i s1 nodes s' hr hco ih hs sf hgf htw
      obtain ⟨hreg, hev⟩ := ih hs.2 sf hgf htw
      have he' := prefix_getElem? (((compileActions_grows hco).trans hgf).infos one)
        (registerPlayer_spec hr).2.1
      refine ⟨⟨Or.inr ⟨i, _, he', rfl, rfl⟩, hreg⟩, fun σ hσ => ?_⟩
      · have hm := labelled_multi (G sf) σ one i _ (htw one) he'
          (hσ one).2
        change expectedL _ σ true ((σ one).at i) nodes = rawEVP _ one info _ _
        rw [← hm]
        apply hev σ hσ one info _ hs.1
        intro x hx
        apply isStrat_at_nonneg (σ one) (hσ one).1 i
        rw [← hm]
        exact List.mem_map.mpr ⟨x, hx, rfl⟩
    onil := by
      intro ws ks prev s h hl _ sf _ _
      have hws : ws = [] := by
        rcases h with h | h
        · exact h
        · exact List.eq_nil_of_length_eq_zero (by rw [hl, h]; rfl)
      have hks : ks = [] := List.eq_nil_of_length_eq_zero (by rw [← hl, hws]; rfl)
      subst hws hks
      exact ⟨trivial, fun σ _ t => rfl⟩
    ocons := by
      intro w ws k ks prev s n s1 ps ns s' _ _ ih1 hc2 ih2 hl hs sf hgf htw
      obtain ⟨hreg1, hev1⟩ := ih1 hs.1 sf ((compileOutcomes_grows hc2).trans hgf) htw
      obtain ⟨hreg2, hev2⟩ := ih2 (Nat.succ.inj hl) hs.2 sf hgf htw
      exact ⟨⟨hreg1, hreg2⟩, fun σ hσ t =>
        congrArg₂ (fun x y => w / t * x + y) (hev1 σ hσ) (hev2 σ hσ t)⟩
    anil := by
      intro one i a prev s _ sf _ _
      refine ⟨trivial, fun σ _ o l as hl _ => ?_⟩
      obtain rfl := List.eq_nil_of_length_eq_zero hl
      rfl
    acons := by
      intro k ks one i a prev s n s1 ns s' _ ih1 hc2 ih2 hs sf hgf htw
      obtain ⟨hreg1, hev1⟩ := ih1 hs.1 sf ((compileActions_grows hc2).trans hgf) htw
      obtain ⟨hreg2, hev2⟩ := ih2 hs.2 sf hgf htw
      refine ⟨⟨hreg1, hreg2⟩, fun σ hσ o l as hl hnn => ?_⟩
      match as, hl, hnn with
      | x :: as, hl, hnn =>
        exact congrArg₂ (· + ·)
          ((skip_mul (hnn x List.mem_cons_self) _).trans (congrArg (_ * ·) (hev1 σ hσ)))
          (hev2 σ hσ o l as (Nat.succ.inj hl) fun y hy => hnn y (List.mem_cons_of_mem _ hy)) }

theorem compileOutcomes_sem : ∀ (ws : List α) (ks : List (Raw α)) (prev : Prev)
    (s s' : BState α) (ps : List α) (ns : List (Node α)),
    ws.length = ks.length → Raw.ShapeL ks → compileOutcomes ws ks prev s = .ok (ps, ns, s') →
    GrowsAll s s' ∧ ps = ws ∧ ns.length = ks.length ∧ (∀ w ∈ ws, 0 < w) ∧
      ∀ sf, GrowsAll s' sf → (∀ o, TablesWF (sf.infos o) (sf.singles o)) →
        RegL sf ks ∧ ∀ σ, Good sf σ → ∀ t : α,
          expectedL (G sf).chance σ false (ws.map (· / t)) ns =
            rawEVC ((G sf).labelled σ) t ws ks :=
  fun ws ks prev s s' ps ns hl hs h => by
    obtain ⟨_, hpos, hshape⟩ := compileOutcomes_shape h
    obtain ⟨rfl, hlen⟩ := hshape hl
    exact ⟨compileOutcomes_grows h, rfl, hlen, hpos, compileAll_sem.2.1 _ _ _ _ _ _ _ h hl hs⟩

theorem compileActions_sem : ∀ (ks : List (Raw α)) (one : Bool) (i a : Nat) (prev : Prev)
    (s s' : BState α) (ns : List (Node α)),
    Raw.ShapeL ks → compileActions ks one i a prev s = .ok (ns, s') →
    GrowsAll s s' ∧ ∀ sf, GrowsAll s' sf → (∀ o, TablesWF (sf.infos o) (sf.singles o)) →
      RegL sf ks ∧ ∀ σ, Good sf σ → ∀ (o : Bool) (l : Nat) (as : List Nat),
        as.length = ks.length → (∀ x ∈ as, 0 ≤ (G sf).labelled σ o l x) →
          expectedL (G sf).chance σ true (as.map ((G sf).labelled σ o l)) ns =
            rawEVP ((G sf).labelled σ) o l as ks :=
  fun _ _ _ _ _ _ _ _ hs h => ⟨compileActions_grows h, compileAll_sem.2.2 _ _ _ _ _ _ _ _ h hs⟩

/-- **`from_root` preserves the meaning of the tree**: the expected payoff computed on the compiled
game equals the expected payoff of the input tree under the labelled reading of the profile -/
theorem compile_expected (r : Raw α) (hs : Raw.Shape r) (g : Game α) (h : fromRoot r = .ok g)
    (σ : Bool → Strat α) (hσ : ∀ me : Bool, IsStrat (σ me) ∧ FitsGame g me (σ me)) :
    expected g.chance σ g.root = rawEV (g.labelled σ) r := by
  obtain ⟨root, s, hc, rfl⟩ := fromRoot_state h
  obtain ⟨hb, _⟩ := compile_inv r {} {} s root hs BInv.empty PrevOK.empty hc
  exact (compileAll_sem.1 r {} {} root s hc hs s (GrowsAll.refl s) hb.tables).2 σ hσ

mutual
/-- `ρ` is a behavioural strategy profile on the input tree: at every decision node the
probabilities of the listed actions are non-negative and sum to one -/
def LValidOn (ρ : LProfile α) : Raw α → Prop
  | .term _ => True
  | .chance _ _ ks => LValidOnL ρ ks
  | .player o l as ks => (∀ a ∈ as, 0 ≤ ρ o l a) ∧ (as.map (ρ o l)).sum = 1 ∧ LValidOnL ρ ks
def LValidOnL (ρ : LProfile α) : List (Raw α) → Prop
  | [] => True
  | k :: ks => LValidOn ρ k ∧ LValidOnL ρ ks
end


mutual
theorem reg_valid (sf : BState α) (htw : ∀ o, TablesWF (sf.infos o) (sf.singles o))
    (σ : Bool → Strat α) (hσ : Good sf σ) :
    ∀ r : Raw α, Reg sf r → LValidOn ((G sf).labelled σ) r
  | .term _, _ => trivial
  | .chance _ _ ks, h => reg_validL sf htw σ hσ ks h
  | .player o l as ks, h => by
    obtain ⟨hc, hk⟩ := h
    have ihk := reg_validL sf htw σ hσ ks hk
    rcases hc with ⟨a, rfl, hm⟩ | ⟨i, e, he, rfl, rfl⟩
    · have h1 := labelled_single (G sf) σ o l a (htw o) hm
      refine ⟨fun x hx => ?_, ?_, ihk⟩
      · rw [List.mem_singleton.mp hx, h1]; exact zero_le_one
      · rw [List.map_singleton, List.sum_singleton, h1]
    · have hm := labelled_multi (G sf) σ o i e (htw o) he
        (hσ o).2
      obtain ⟨v, hv, _⟩ := fits_at (G sf) o (σ o) (hσ o).2 i e he
      have e' : (σ o).at i = v := by simp [Strat.at, List.getD_eq_getElem?_getD, hv]
      have hd : IsDist v := (hσ o).1 v (List.mem_of_getElem? hv)
      rw [e'] at hm
      refine ⟨fun x hx => hd.1 _ ?_, by rw [hm]; exact hd.2, ihk⟩
      rw [← hm]
      exact List.mem_map.mpr ⟨x, hx, rfl⟩
theorem reg_validL (sf : BState α) (htw : ∀ o, TablesWF (sf.infos o) (sf.singles o))
    (σ : Bool → Strat α) (hσ : Good sf σ) :
    ∀ ks : List (Raw α), RegL sf ks → LValidOnL ((G sf).labelled σ) ks
  | [], _ => trivial
  | k :: ks, h => ⟨reg_valid sf htw σ hσ k h.1, reg_validL sf htw σ hσ ks h.2⟩
end

theorem fromRoot_reg {r : Raw α} (hs : Raw.Shape r) {root : Node α} {s : BState α}
    (hc : compile r {} {} = .ok (root, s)) :
    (∀ o, TablesWF (s.infos o) (s.singles o)) ∧ Reg s r := by
  obtain ⟨hb, _⟩ := compile_inv r {} {} s root hs BInv.empty PrevOK.empty hc
  exact ⟨hb.tables, (compileAll_sem.1 r {} {} root s hc hs s (GrowsAll.refl s) hb.tables).1⟩

theorem labelled_valid (r : Raw α) (hs : Raw.Shape r) (g : Game α) (h : fromRoot r = .ok g)
    (σ : Bool → Strat α) (hσ : ∀ me : Bool, IsStrat (σ me) ∧ FitsGame g me (σ me)) :
    LValidOn (g.labelled σ) r := by
  obtain ⟨root, s, hc, rfl⟩ := fromRoot_state h
  obtain ⟨htw, hreg⟩ := fromRoot_reg hs hc
  exact reg_valid s htw σ hσ r hreg

def Game.indexedOf (g : Game α) (ρ : LProfile α) : Bool → Strat α :=
  fun o => (g.infos o).map (fun e => e.actions.map (ρ o e.label))


/-! ## every registered infoset comes from a node of the tree -/

def TabOK (ρ : LProfile α) (s : BState α) : Prop :=
  ∀ o, ∀ e ∈ s.infos o, (∀ a ∈ e.actions, 0 ≤ ρ o e.label a) ∧ (e.actions.map (ρ o e.label)).sum = 1

theorem TabOK.of_infos {ρ : LProfile α} {s s' : BState α} (h : TabOK ρ s)
    (hi : ∀ me, s'.infos me = s.infos me) : TabOK ρ s' :=
  fun o e he => h o e (by rw [← hi o]; exact he)

theorem compileAll_tab (ρ : LProfile α) :
    (∀ (r : Raw α) (prev : Prev) (s : BState α) (n : Node α) (s' : BState α),
      compile r prev s = .ok (n, s') → LValidOn ρ r → TabOK ρ s → TabOK ρ s') ∧
    (∀ (ws : List α) (ks : List (Raw α)) (prev : Prev) (s : BState α) (ps : List α)
      (ns : List (Node α)) (s' : BState α), compileOutcomes ws ks prev s = .ok (ps, ns, s') →
      LValidOnL ρ ks → TabOK ρ s → TabOK ρ s') ∧
    (∀ (ks : List (Raw α)) (one : Bool) (i a : Nat) (prev : Prev) (s : BState α)
      (ns : List (Node α)) (s' : BState α), compileActions ks one i a prev s = .ok (ns, s') →
      LValidOnL ρ ks → TabOK ρ s → TabOK ρ s') :=
  compile_ok_rec {
    term := fun _ _ _ _ ht => ht
    chance := by
      intro info ws kids prev s probs nodes s1 n s' _ ih hr hv ht
      exact (ih hv ht).of_infos (registerChance_spec hr).2
    single := by
      intro one info a k ks prev s s1 n s' hr _ ih hv ht
      exact ih hv.2.2.1 (ht.of_infos (registerSingle_spec hr).2.2)
    multi := by
      intro one info a b as k ks prev s i s1 nodes s' hr _ ih hv ht
      refine ih hv.2.2 fun o e he => ?_
      rcases (registerPlayer_spec hr).2.2 o e he with he | ⟨rfl, rfl⟩
      · exact ht o e he
      · exact ⟨hv.1, hv.2.1⟩
    onil := fun _ _ _ _ _ _ ht => ht
    ocons := by
      intro w ws k ks prev s n s1 ps ns s' _ _ ih1 _ ih2 hv ht
      exact ih2 hv.2 (ih1 hv.1 ht)
    anil := fun _ _ _ _ _ _ ht => ht
    acons := by
      intro k ks one i a prev s n s1 ns s' _ ih1 _ ih2 hv ht
      exact ih2 hv.2 (ih1 hv.1 ht) }

theorem compileOutcomes_tab (ρ : LProfile α) : ∀ (ws : List α) (ks : List (Raw α)) (prev : Prev)
    (s s' : BState α) (ps : List α) (ns : List (Node α)),
    LValidOnL ρ ks → TabOK ρ s → compileOutcomes ws ks prev s = .ok (ps, ns, s') → TabOK ρ s' :=
  fun _ _ _ _ _ _ _ hv ht h => (compileAll_tab ρ).2.1 _ _ _ _ _ _ _ h hv ht

theorem compileActions_tab (ρ : LProfile α) : ∀ (ks : List (Raw α)) (one : Bool) (i a : Nat)
    (prev : Prev) (s s' : BState α) (ns : List (Node α)),
    LValidOnL ρ ks → TabOK ρ s → compileActions ks one i a prev s = .ok (ns, s') → TabOK ρ s' :=
  fun _ _ _ _ _ _ _ _ hv ht h => (compileAll_tab ρ).2.2 _ _ _ _ _ _ _ _ h hv ht

theorem indexedOf_fits (g : Game α) (ρ : LProfile α) (me : Bool) :
    FitsGame g me (g.indexedOf ρ me) := by
  simp [FitsGame, Game.indexedOf, Function.comp_def]

/-! ## the labelled reading of `indexedOf ρ` is `ρ` on the tree -/

mutual
theorem reg_ev_congr (sf : BState α) (htw : ∀ o, TablesWF (sf.infos o) (sf.singles o))
    (ρ : LProfile α) :
    ∀ r : Raw α, Reg sf r → LValidOn ρ r →
      rawEV ((G sf).labelled ((G sf).indexedOf ρ)) r = rawEV ρ r
  | .term _, _, _ => rfl
  | .chance _ ws ks, h, hv => reg_evC_congr sf htw ρ ws.sum ws ks h hv
  | .player o l as ks, h, hv => by
    refine reg_evP_congr sf htw ρ o l as ks ?_ h.2 hv.2.2
    rcases h.1 with ⟨a, rfl, hm⟩ | ⟨i, e, he, rfl, rfl⟩
    · intro x hx
      rw [List.mem_singleton.mp hx,
        labelled_single (G sf) _ o l a (htw o) hm]
      have := hv.2.1
      rw [List.map_singleton, List.sum_singleton] at this
      exact this.symm
    · have hm := labelled_multi (G sf) ((G sf).indexedOf ρ) o i e (htw o) he (indexedOf_fits _ ρ o)
      have hat : ((G sf).indexedOf ρ o).at i = e.actions.map (ρ o e.label) := by
        simp [Game.indexedOf, Strat.at, List.getD_eq_getElem?_getD, List.getElem?_map, he]
      rw [hat] at hm
      exact List.map_inj_left.mp hm
theorem reg_evC_congr (sf : BState α) (htw : ∀ o, TablesWF (sf.infos o) (sf.singles o))
    (ρ : LProfile α) (t : α) :
    ∀ (ws : List α) (ks : List (Raw α)), RegL sf ks → LValidOnL ρ ks →
      rawEVC ((G sf).labelled ((G sf).indexedOf ρ)) t ws ks = rawEVC ρ t ws ks
  | [], ks, _, _ => by cases ks <;> rfl
  | _ :: _, [], _, _ => rfl
  | w :: ws, k :: ks, h, hv =>
    congrArg₂ (fun x y => w / t * x + y) (reg_ev_congr sf htw ρ k h.1 hv.1)
      (reg_evC_congr sf htw ρ t ws ks h.2 hv.2)
theorem reg_evP_congr (sf : BState α) (htw : ∀ o, TablesWF (sf.infos o) (sf.singles o))
    (ρ : LProfile α) (o : Bool) (l : Nat) :
    ∀ (as : List Nat) (ks : List (Raw α)),
      (∀ a ∈ as, (G sf).labelled ((G sf).indexedOf ρ) o l a = ρ o l a) →
      RegL sf ks → LValidOnL ρ ks →
      rawEVP ((G sf).labelled ((G sf).indexedOf ρ)) o l as ks = rawEVP ρ o l as ks
  | [], ks, _, _, _ => by cases ks <;> rfl
  | _ :: _, [], _, _, _ => rfl
  | a :: as, k :: ks, ha, h, hv =>
    congrArg₂ (· + ·)
      (congrArg₂ (· * ·) (ha a List.mem_cons_self) (reg_ev_congr sf htw ρ k h.1 hv.1))
      (reg_evP_congr sf htw ρ o l as ks (fun x hx => ha x (List.mem_cons_of_mem _ hx)) h.2 hv.2)
end

/-- conversely every behavioural profile on the input tree is played by a valid indexed profile
of the compiled game with the same expected payoff — so maximising over indexed strategies
(C01) is maximising over all behavioural strategies of the game as written -/
theorem indexedOf_valid (r : Raw α) (hs : Raw.Shape r) (g : Game α) (h : fromRoot r = .ok g)
    (ρ : LProfile α) (hρ : LValidOn ρ r) :
    (∀ me : Bool, IsStrat (g.indexedOf ρ me) ∧ FitsGame g me (g.indexedOf ρ me)) ∧
    rawEV (g.labelled (g.indexedOf ρ)) r = rawEV ρ r := by
  obtain ⟨root, s, hc, rfl⟩ := fromRoot_state h
  obtain ⟨htw, hreg⟩ := fromRoot_reg hs hc
  have ht0 : TabOK ρ ({} : BState α) := by
    intro o e he
    rw [BState.infos_empty] at he
    cases he
  have ht := (compileAll_tab ρ).1 r {} {} root s hc hρ ht0
  refine ⟨fun me => ⟨?_, indexedOf_fits _ ρ me⟩, reg_ev_congr s htw ρ r hreg hρ⟩
  intro v hv
  obtain ⟨e, he, rfl⟩ := List.mem_map.mp hv
  obtain ⟨h1, h2⟩ := ht me e (by simpa using he)
  refine ⟨fun p hp => ?_, h2⟩
  obtain ⟨a, ha, rfl⟩ := List.mem_map.mp hp
  exact h1 a ha

/-! ## non-vacuity -/

/-- a single-outcome chance node (weight `5`) above a named chance node with unnormalised weights
`1 : 3`; player one has a single-action node (label `99`) and a shared two-action infoset (label
`5`), player two a single-action node (label `2`) -/
def exSem : Raw ℚ :=
  .chance none [5] [
    .chance (some 4) [1, 3]
      [.player true 99 [42]
        [.player true 5 [0, 1] [.term 1, .player false 2 [7] [.term 0]]],
       .player true 5 [0, 1] [.term (-1), .term 3]]]

/-- player one plays `(1/3, 2/3)` at its only multi-action infoset -/
def exSemσ : Bool → Strat ℚ := fun o => if o then [[1/3, 2/3]] else []

/-- the labelled profile written by hand -/
def exSemρ : LProfile ℚ := fun o l a =>
  if o && l == 5 && a == 0 then 1/3 else if o && l == 5 && a == 1 then 2/3
  else if o && l == 99 && a == 42 then 1 else if !o && l == 2 && a == 7 then 1 else 0

/-- on the example: the compiled game evaluates to `4/3`, so does the input tree under the
labelled reading of the profile and under the hand-written labelled profile; the labelled reading
gives the single-action node probability one and the second action of infoset `5` probability
`2/3` -/
def exSemCheck : Bool :=
  match fromRoot exSem with
  | .ok g =>
    decide (expected g.chance exSemσ g.root = 4/3) &&
    decide (rawEV (g.labelled exSemσ) exSem = 4/3) &&
    decide (rawEV exSemρ exSem = 4/3) &&
    decide (g.labelled exSemσ true 99 42 = 1) &&
    decide (g.labelled exSemσ true 5 1 = 2/3) &&
    decide (rawEV (g.labelled (g.indexedOf exSemρ)) exSem = 4/3)
  | .error _ => false

example : exSemCheck = true := by decide +kernel

example : Raw.Shape exSem :=
  ⟨rfl, ⟨rfl, ⟨rfl, ⟨rfl, trivial, ⟨rfl, trivial, trivial⟩, trivial⟩, trivial⟩,
    ⟨rfl, trivial, trivial, trivial⟩, trivial⟩, trivial⟩

-- one pair of goals (non-negative, sum one) per decision node, in depth-first order
example : LValidOn exSemρ exSem := by
  refine ⟨⟨⟨?_, ?_, ⟨?_, ?_, trivial, ⟨?_, ?_, trivial, trivial⟩, trivial⟩, trivial⟩,
    ⟨?_, ?_, trivial, trivial, trivial⟩, trivial⟩, trivial⟩ <;> decide +kernel

end Cfr
