import CfrVerif.Model.Tree
import Mathlib.Analysis.Real.Sqrt
/-!
# Regret matching keeps the cumulative regrets of every infoset within `D·√(A·T)`

The definitions shared by C03 (unsampled) and C04 (sampled, for every draw sequence): `PayIn`,
`PayInL`, `ActsLe`, `RateOK`.  The facts about what a traversal adds to the regret accumulators of
an infoset, the potential argument and its lift through the solver loops with vanilla parameters
are in `RatePotential`, `RateVanilla`, `RateExternal` and `RateSolve`.
-/
set_option linter.unusedSectionVars false
namespace Cfr

mutual
/-- every terminal payoff of the tree lies in `[lo, hi]` -/
def PayIn (lo hi : ℝ) : Node ℝ → Prop
  | .term p => lo ≤ p ∧ p ≤ hi
  | .chance _ ks => PayInL lo hi ks
  | .player _ _ ks => PayInL lo hi ks
def PayInL (lo hi : ℝ) : List (Node ℝ) → Prop
  | [] => True
  | k :: ks => PayIn lo hi k ∧ PayInL lo hi ks
end

/-- `A` bounds the number of actions of every decision infoset -/
def ActsLe (g : Game ℝ) (A : Nat) : Prop := ∀ me : Bool, ∀ e ∈ g.infos me, e.actions.length ≤ A

/-- the per-player bound `b` of a result obeys the CFR rate with `n` infosets of that player:
`b ≤ 2·D·n·√A/√iters` -/
def RateOK (D : ℝ) (n A iters : Nat) : Ext ℝ → Prop
  | .fin b => b ≤ 2 * D * n * Real.sqrt A / Real.sqrt iters
  | .posInf => iters = 0
  | .negInf => False

end Cfr
