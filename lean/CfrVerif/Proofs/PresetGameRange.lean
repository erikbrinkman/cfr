import CfrVerif.Proofs.RateSolve
import CfrVerif.Props.C01
/-!
# The true regret of a valid profile never exceeds the payoff range
-/
set_option linter.unusedSectionVars false
set_option linter.unusedVariables false
namespace Cfr.PG

theorem profile_fits (g : Game ℝ) (σ : Profile ℝ) (hσ : ProfileOK g σ) (one : Bool) (i : ℕ)
    (e : PInfo) (he : (g.infos one)[i]? = some e) :
    ((σ one).at i).length = e.actions.length ∧ IsDist ((σ one).at i) := by
  obtain ⟨v, hv, hvl⟩ := fits_at g one (σ one) (hσ one).2 i e he
  have e' : (σ one).at i = v := by rw [Strat.at, List.getD_eq_getElem?_getD, hv]; rfl
  rw [e']
  exact ⟨hvl, (hσ one).1 v (List.mem_of_getElem? hv)⟩

theorem tfit_of_profile (g : Game ℝ) (hg : GameWF g) (σ : Profile ℝ) (hσ : ProfileOK g σ) :
    ∀ n : Node ℝ, NodeOK g n → TFit g.chance (fun one i => (σ one).at i) n :=
  tfit_of_fits g hg _ (profile_fits g σ hσ)

theorem tfitL_of_profile (g : Game ℝ) (hg : GameWF g) (σ : Profile ℝ) (hσ : ProfileOK g σ) :
    ∀ ks : List (Node ℝ), NodeOKL g ks → TFitL g.chance (fun one i => (σ one).at i) ks :=
  tfitL_of_fits g hg _ (profile_fits g σ hσ)

theorem expected_range (g : Game ℝ) (hg : GameWF g) (lo hi : ℝ) (hpay : PayIn lo hi g.root)
    (σ : Profile ℝ) (hσ : ProfileOK g σ) :
    lo ≤ expected g.chance σ g.root ∧ expected g.chance σ g.root ≤ hi := by
  have h := vrec_rng ⟨g.chance, false, fun one i => (σ one).at i, fun _ _ _ _ => 0, 0⟩
    (by intro h; cases h) lo hi g.root 1 1 1 {}
    (tfit_of_profile g hg σ hσ g.root hg.nodes) hpay (DOK.init _ _)
  have hv := vrec_full_value ⟨g.chance, false, fun one i => (σ one).at i, fun _ _ _ _ => 0, 0⟩
    rfl σ (fun _ _ => rfl) g.root 1 1 1 {}
  have hu := utility_eq_evV g hg σ hσ true
  have hu' : utility g σ true = expected g.chance σ g.root := by simp [utility]
  rw [hu'] at hu
  simp only [Bool.not_true] at hu
  rw [hv, ← hu] at h
  exact ⟨h.1, h.2.1⟩

end Cfr.PG

namespace Cfr

theorem regret_le_range (g : Game ℝ) (hg : GameWF g) (lo hi : ℝ) (hpay : PayIn lo hi g.root)
    (σ : Profile ℝ) (hσ : ProfileOK g σ) : (getInfo g σ).regret ≤ hi - lo := by
  have hD : 0 ≤ hi - lo := sub_nonneg.mpr (payIn_le g hg lo hi hpay)
  obtain ⟨u1, u2⟩ := PG.expected_range g hg lo hi hpay σ hσ
  obtain ⟨τ1, a1, b1, e1⟩ := (eval_best_response g hg σ hσ true).1
  obtain ⟨τ2, a2, b2, e2⟩ := (eval_best_response g hg σ hσ false).1
  obtain ⟨v1, v2⟩ := PG.expected_range g hg lo hi hpay _ (profileOK_deviate hσ true τ1 a1 b1)
  obtain ⟨w1, w2⟩ := PG.expected_range g hg lo hi hpay _ (profileOK_deviate hσ false τ2 a2 b2)
  rw [eval_total_regret, eval_regret, eval_regret, e1, e2]
  simp only [utility, if_true, Bool.false_eq_true, if_false]
  refine max_le (max_le (sub_le_sub v2 u1) hD) (max_le ?_ hD)
  rw [neg_sub_neg]
  exact sub_le_sub u2 w1

end Cfr
