import CfrVerif.Model.Checked
import CfrVerif.Proofs.GameWF
import CfrVerif.Proofs.NoRepeat
import CfrVerif.Proofs.NodeInd
/-!
# The traversals never panic on an accepted game

`vrecK` / `erecK` (`Model/Checked.lean`) are the traversals with the crate's three state-dependent
panics as values: a chance or player infoset index out of bounds, and a `RefCell::borrow_mut` on an
infoset whose borrow is still held up the recursion.  On every well-formed game (what `from_root`
guarantees: indices in range, perfect recall) they return `some` of exactly what the unchecked
traversals compute — for every strategy table, reach, draw oracle and sample cache.
-/
set_option linter.unusedSectionVars false
namespace Cfr

namespace NP

theorem sizes_player (g : Game ℝ) (one : Bool) : g.sizes.player one = (g.infos one).length := by
  cases one <;> rfl

/-- what the checks use of `NodeOK` -/
theorem nodeOK_chance {g : Game ℝ} {i : Nat} {ks : List (Node ℝ)} (h : NodeOK g (.chance i ks)) :
    i < g.sizes.chance ∧ ∀ k ∈ ks, NodeOK g k := by
  rw [NodeOK, nodeOKL_iff] at h
  obtain ⟨⟨ps, hps, -⟩, -, hks⟩ := h
  exact ⟨(List.getElem?_eq_some_iff.mp hps).1, hks⟩

theorem nodeOK_player {g : Game ℝ} {one : Bool} {i : Nat} {ks : List (Node ℝ)}
    (h : NodeOK g (.player one i ks)) : i < g.sizes.player one ∧ ∀ k ∈ ks, NodeOK g k := by
  rw [NodeOK, nodeOKL_iff] at h
  obtain ⟨⟨e, he, -⟩, -, hks⟩ := h
  exact ⟨sizes_player g one ▸ (List.getElem?_eq_some_iff.mp he).1, hks⟩

/-! ## vanilla

The child loops add no check of their own: they succeed as soon as the checked traversal succeeds
on every child. -/

section
variable (z : Sizes) (c : VCtx ℝ) (held : List (Bool × Nat)) {ks : List (Node ℝ)}
  (h : ∀ k ∈ ks, ∀ pc p1 p2 d, vrecK z c held k pc p1 p2 d = some (vrec c k pc p1 p2 d))
include h

theorem vrecNthK_of : ∀ k pc p1 p2 d,
    vrecNthK z c held ks k pc p1 p2 d = some (vrecNth c ks k pc p1 p2 d) := by
  induction ks with
  | nil => exact fun _ _ _ _ _ => rfl
  | cons n ks ih =>
    rw [List.forall_mem_cons] at h
    intro k pc p1 p2 d
    cases k with
    | zero => exact h.1 pc p1 p2 d
    | succ k => exact ih h.2 k pc p1 p2 d

theorem vrecChanceK_of : ∀ ps pc p1 p2 d acc,
    vrecChanceK z c held ps ks pc p1 p2 d acc = some (vrecChance c ps ks pc p1 p2 d acc) := by
  induction ks with
  | nil => intro ps pc p1 p2 d acc; cases ps <;> rfl
  | cons n ks ih =>
    rw [List.forall_mem_cons] at h
    intro ps pc p1 p2 d acc
    cases ps with
    | nil => rfl
    | cons p ps => simp only [vrecChanceK, vrecChance, h.1, ih h.2]

theorem vrecActsK_of (one : Bool) (i : Nat) (mult : ℝ) : ∀ σ pc p1 p2 d a eo ex,
    vrecActsK z c held one i mult σ ks pc p1 p2 d a eo ex
      = some (vrecActs c one i mult σ ks pc p1 p2 d a eo ex) := by
  induction ks with
  | nil => intro σ pc p1 p2 d a eo ex; cases σ <;> rfl
  | cons n ks ih =>
    rw [List.forall_mem_cons] at h
    intro σ pc p1 p2 d a eo ex
    cases σ with
    | nil => rfl
    | cons s σ => simp only [vrecActsK, vrecActs, h.1, ih h.2, ← apply_ite some]

end

theorem vrecK_eq (g : Game ℝ) (c : VCtx ℝ) :
    ∀ (n : Node ℝ) (held : List (Bool × Nat)) (pc p1 p2 : ℝ) (d : DrawSt ℝ),
      NodeOK g n → NoRepeat held n →
      vrecK g.sizes c held n pc p1 p2 d = some (vrec c n pc p1 p2 d) := by
  intro n
  induction n using Node.induct with
  | term p => exact fun _ _ _ _ _ _ _ => rfl
  | chance i ks ih =>
    intro held pc p1 p2 d hn hr
    rw [NoRepeat, noRepeatL_iff] at hr
    obtain ⟨hi, hks⟩ := nodeOK_chance hn
    have hk := fun k m pc p1 p2 d => ih k m held pc p1 p2 d (hks k m) (hr k m)
    simp only [vrecK, vrec, if_pos hi, vrecNthK_of _ c held hk, vrecChanceK_of _ c held hk,
      ← apply_ite some]
  | player one i ks ih =>
    intro held pc p1 p2 d hn hr
    rw [NoRepeat, noRepeatL_iff] at hr
    obtain ⟨hi, hks⟩ := nodeOK_player hn
    have hk := fun k m pc p1 p2 d => ih k m ((one, i) :: held) pc p1 p2 d (hks k m) (hr.2 k m)
    simp only [vrecK, vrec, if_pos (And.intro hi hr.1), vrecActsK_of _ c _ hk]

theorem vrecK_children (g : Game ℝ) (c : VCtx ℝ) {ks : List (Node ℝ)} {held : List (Bool × Nat)}
    (hn : NodeOKL g ks) (hr : NoRepeatL held ks) :
    ∀ k ∈ ks, ∀ pc p1 p2 d, vrecK g.sizes c held k pc p1 p2 d = some (vrec c k pc p1 p2 d) :=
  fun k m pc p1 p2 d =>
    vrecK_eq g c k held pc p1 p2 d ((nodeOKL_iff g ks).mp hn k m) ((noRepeatL_iff held ks).mp hr k m)

theorem vrecNthK_eq (g : Game ℝ) (c : VCtx ℝ) :
    ∀ (ks : List (Node ℝ)) (held : List (Bool × Nat)) (k : Nat) (pc p1 p2 : ℝ) (d : DrawSt ℝ),
      NodeOKL g ks → NoRepeatL held ks →
      vrecNthK g.sizes c held ks k pc p1 p2 d = some (vrecNth c ks k pc p1 p2 d) :=
  fun _ held k pc p1 p2 d hn hr => vrecNthK_of _ c held (vrecK_children g c hn hr) k pc p1 p2 d

theorem vrecChanceK_eq (g : Game ℝ) (c : VCtx ℝ) :
    ∀ (ks : List (Node ℝ)) (held : List (Bool × Nat)) (ps : List ℝ) (pc p1 p2 : ℝ) (d : DrawSt ℝ)
      (acc : ℝ), NodeOKL g ks → NoRepeatL held ks →
      vrecChanceK g.sizes c held ps ks pc p1 p2 d acc = some (vrecChance c ps ks pc p1 p2 d acc) :=
  fun _ held ps pc p1 p2 d acc hn hr =>
    vrecChanceK_of _ c held (vrecK_children g c hn hr) ps pc p1 p2 d acc

theorem vrecActsK_eq (g : Game ℝ) (c : VCtx ℝ) :
    ∀ (ks : List (Node ℝ)) (held : List (Bool × Nat)) (one : Bool) (i : Nat) (mult : ℝ)
      (σ : List ℝ) (pc p1 p2 : ℝ) (d : DrawSt ℝ) (a : Nat) (eo ex : ℝ),
      NodeOKL g ks → NoRepeatL held ks →
      vrecActsK g.sizes c held one i mult σ ks pc p1 p2 d a eo ex
        = some (vrecActs c one i mult σ ks pc p1 p2 d a eo ex) :=
  fun _ held one i mult σ pc p1 p2 d a eo ex hn hr =>
    vrecActsK_of _ c held (vrecK_children g c hn hr) one i mult σ pc p1 p2 d a eo ex

/-! ## external sampling: only the updating player's infosets are held -/

mutual
/-- no infoset of player `first` occurs twice on a root-to-leaf path -/
def NoRepeatE (first : Bool) : List Nat → Node ℝ → Prop
  | _, .term _ => True
  | held, .chance _ ks => NoRepeatEL first held ks
  | held, .player one i ks =>
    if one = first then i ∉ held ∧ NoRepeatEL first (i :: held) ks else NoRepeatEL first held ks
def NoRepeatEL (first : Bool) : List Nat → List (Node ℝ) → Prop
  | _, [] => True
  | held, k :: ks => NoRepeatE first held k ∧ NoRepeatEL first held ks
end

theorem noRepeatEL_iff (first : Bool) (held : List Nat) (ks : List (Node ℝ)) :
    NoRepeatEL first held ks ↔ ∀ k ∈ ks, NoRepeatE first held k := by
  induction ks with
  | nil => exact iff_of_true trivial (fun _ h => absurd h List.not_mem_nil)
  | cons k ks ih => rw [NoRepeatEL, ih, List.forall_mem_cons]

theorem noRepeatE_of_noRepeat (first : Bool) :
    ∀ (n : Node ℝ) (seen : List (Bool × Nat)) (held : List Nat),
      (∀ j ∈ held, (first, j) ∈ seen) → NoRepeat seen n → NoRepeatE first held n := by
  intro n
  induction n using Node.induct with
  | term _ => exact fun _ _ _ _ => trivial
  | chance _ ks ih =>
    intro seen held hh hr
    rw [NoRepeat, noRepeatL_iff] at hr
    rw [NoRepeatE, noRepeatEL_iff]
    exact fun k m => ih k m seen held hh (hr k m)
  | player one i ks ih =>
    intro seen held hh hr
    rw [NoRepeat, noRepeatL_iff] at hr
    rw [NoRepeatE]
    by_cases h : one = first
    · rw [if_pos h, noRepeatEL_iff]
      subst h
      refine ⟨fun hm => hr.1 (hh i hm), fun k m => ih k m _ _ ?_ (hr.2 k m)⟩
      exact List.forall_mem_cons.mpr
        ⟨List.mem_cons_self, fun j hj => List.mem_cons_of_mem _ (hh j hj)⟩
    · rw [if_neg h, noRepeatEL_iff]
      exact fun k m => ih k m _ held (fun j hj => List.mem_cons_of_mem _ (hh j hj)) (hr.2 k m)

theorem noRepeatEL_of_noRepeatL (first : Bool) :
    ∀ (ks : List (Node ℝ)) (seen : List (Bool × Nat)) (held : List Nat),
      (∀ j ∈ held, (first, j) ∈ seen) → NoRepeatL seen ks → NoRepeatEL first held ks :=
  fun ks seen held hh hr => (noRepeatEL_iff first held ks).mpr fun k m =>
    noRepeatE_of_noRepeat first k seen held hh ((noRepeatL_iff seen ks).mp hr k m)

section
variable (z : Sizes) (c : ECtx ℝ) (held : List Nat) {ks : List (Node ℝ)}
  (h : ∀ k ∈ ks, ∀ d, erecK z c held k d = some (erec c k d))
include h

theorem erecNthK_of : ∀ k d, erecNthK z c held ks k d = some (erecNth c ks k d) := by
  induction ks with
  | nil => exact fun _ _ => rfl
  | cons n ks ih =>
    rw [List.forall_mem_cons] at h
    intro k d
    cases k with
    | zero => exact h.1 d
    | succ k => exact ih h.2 k d

theorem erecActsK_of (one : Bool) (i : Nat) : ∀ σ d a ex,
    erecActsK z c held one i σ ks d a ex = some (erecActs c one i σ ks d a ex) := by
  induction ks with
  | nil => intro σ d a ex; cases σ <;> rfl
  | cons n ks ih =>
    rw [List.forall_mem_cons] at h
    intro σ d a ex
    cases σ with
    | nil => rfl
    | cons s σ => simp only [erecActsK, erecActs, h.1, ih h.2]

end

theorem erecK_eq (g : Game ℝ) (c : ECtx ℝ) :
    ∀ (n : Node ℝ) (held : List Nat) (d : DrawSt ℝ),
      NodeOK g n → NoRepeatE c.first held n →
      erecK g.sizes c held n d = some (erec c n d) := by
  intro n
  induction n using Node.induct with
  | term p => exact fun _ _ _ _ => rfl
  | chance i ks ih =>
    intro held d hn hr
    rw [NoRepeatE, noRepeatEL_iff] at hr
    obtain ⟨hi, hks⟩ := nodeOK_chance hn
    have hk := fun k m d => ih k m held d (hks k m) (hr k m)
    simp only [erecK, erec, if_pos hi, erecNthK_of _ c held hk]
  | player one i ks ih =>
    intro held d hn hr
    rw [NoRepeatE] at hr
    obtain ⟨hi, hks⟩ := nodeOK_player hn
    simp only [erecK, erec, if_pos hi, beq_iff_eq]
    by_cases h : one = c.first
    · rw [if_pos h, noRepeatEL_iff] at hr
      have hk := fun k m d => ih k m (i :: held) d (hks k m) (hr.2 k m)
      rw [if_pos h, if_pos h, if_neg hr.1, erecActsK_of _ c _ hk]
    · rw [if_neg h, noRepeatEL_iff] at hr
      have hk := fun k m d => ih k m held d (hks k m) (hr k m)
      rw [if_neg h, if_neg h, erecNthK_of _ c held hk]

theorem erecK_children (g : Game ℝ) (c : ECtx ℝ) {ks : List (Node ℝ)} {held : List Nat}
    (hn : NodeOKL g ks) (hr : NoRepeatEL c.first held ks) :
    ∀ k ∈ ks, ∀ d, erecK g.sizes c held k d = some (erec c k d) :=
  fun k m d =>
    erecK_eq g c k held d ((nodeOKL_iff g ks).mp hn k m) ((noRepeatEL_iff _ held ks).mp hr k m)

theorem erecNthK_eq (g : Game ℝ) (c : ECtx ℝ) :
    ∀ (ks : List (Node ℝ)) (held : List Nat) (k : Nat) (d : DrawSt ℝ),
      NodeOKL g ks → NoRepeatEL c.first held ks →
      erecNthK g.sizes c held ks k d = some (erecNth c ks k d) :=
  fun _ held k d hn hr => erecNthK_of _ c held (erecK_children g c hn hr) k d

theorem erecActsK_eq (g : Game ℝ) (c : ECtx ℝ) :
    ∀ (ks : List (Node ℝ)) (held : List Nat) (one : Bool) (i : Nat) (σ : List ℝ) (d : DrawSt ℝ)
      (a : Nat) (ex : ℝ), NodeOKL g ks → NoRepeatEL c.first held ks →
      erecActsK g.sizes c held one i σ ks d a ex = some (erecActs c one i σ ks d a ex) :=
  fun _ held one i σ d a ex hn hr =>
    erecActsK_of _ c held (erecK_children g c hn hr) one i σ d a ex

end NP

/-- `recurse_single` (full and chance-sampled, one thread) never panics -/
theorem vrec_never_panics (g : Game ℝ) (hg : GameWF g) (c : VCtx ℝ) (pc p1 p2 : ℝ) (d : DrawSt ℝ) :
    vrecK g.sizes c [] g.root pc p1 p2 d = some (vrec c g.root pc p1 p2 d) :=
  NP.vrecK_eq g c g.root [] pc p1 p2 d hg.nodes (wf_no_infoset_twice_on_path g hg)

/-- `recurse_regret` (external sampling, one thread) never panics -/
theorem erec_never_panics (g : Game ℝ) (hg : GameWF g) (c : ECtx ℝ) (d : DrawSt ℝ) :
    erecK g.sizes c [] g.root d = some (erec c g.root d) :=
  NP.erecK_eq g c g.root [] d hg.nodes
    (NP.noRepeatE_of_noRepeat c.first g.root [] [] (fun _ h => absurd h List.not_mem_nil)
      (wf_no_infoset_twice_on_path g hg))

/-- the checks are not vacuous: a tree that repeats an infoset on a path makes the checked
traversal panic ("already borrowed") although the unchecked one computes something -/
theorem vrecK_detects_double_borrow :
    ∃ (c : VCtx ℝ), vrecK ⟨0, 1, 0⟩ c []
      (.player true 0 [.player true 0 [.term 1, .term 0], .term 0]) 1 1 1 {} = none :=
  ⟨⟨[], false, fun _ _ => [1 / 2, 1 / 2], fun _ _ _ _ => 0, 0⟩, rfl⟩

end Cfr
