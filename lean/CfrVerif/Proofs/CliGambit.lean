import CfrVerif.Proofs.CliLemmas
import CfrVerif.Proofs.CliSem
/-!
# The meaning of a Gambit file survives the conversion (`gambit_file_semantics`, C15)

`Efg.toRaw` sorts the children, looks payoffs and names up in the tables of `get_global_info`,
carries the interior payoffs down and subtracts the constant-sum offset at the terminals.  Under a
behavioural profile of the converted tree the expected payoff is the file's expected cumulative
payoff of player one minus the offset; for an exactly constant-sum file the offset is `K / 2`
and player two's expected cumulative payoff is `K` minus player one's.
-/
set_option linter.unusedSectionVars false
namespace Cfr
namespace CliP
variable {α : Type} [Field α] [LinearOrder α] [IsStrictOrderedRing α]

mutual
/-- the file's tree is shaped, validated (`Efg.FileOK`) and `ρ` plays a distribution over the
listed actions at every decision node -/
def EfgValid (names : Bool → List (Nat × Nat)) (ρ : LProfile α) : Efg α → Prop
  | .term oc _ => oc ≠ 0
  | .chance _ nm probs kids _ _ =>
    nm.length = kids.length ∧ probs.length = kids.length ∧ probs.sum ≠ 0 ∧ EfgValidL names ρ kids
  | .player num info _ acts kids _ _ =>
    acts.length = kids.length ∧
      (acts.map (ρ (num == 1) ((assocFind (names (num == 1)) info).getD 0))).sum = 1 ∧
      EfgValidL names ρ kids
def EfgValidL (names : Bool → List (Nat × Nat)) (ρ : LProfile α) : List (Efg α) → Prop
  | [] => True
  | k :: ks => EfgValid names ρ k ∧ EfgValidL names ρ ks
end

theorem efgValidL_iff (names : Bool → List (Nat × Nat)) (ρ : LProfile α) (ks : List (Efg α)) :
    EfgValidL names ρ ks ↔ ∀ k ∈ ks, EfgValid names ρ k := by
  induction ks with
  | nil => simp [EfgValidL]
  | cons k ks ih => simp [EfgValidL, ih]

section valid
variable (gi : GlobalInfo α) (names : Bool → List (Nat × Nat)) (ρ : LProfile α)
  (hn1 : gi.namesOne = names true) (hn2 : gi.namesTwo = names false)
include hn1 hn2

theorem names_eq (num : Nat) :
    (if num = 1 then gi.namesOne else gi.namesTwo) = names (num == 1) := by
  by_cases h : num = 1
  · rw [if_pos h, hn1, beq_iff_eq.2 h]
  · rw [if_neg h, hn2, beq_eq_false_iff_ne.2 h]

theorem valid_of_toRaw (n : Efg α) : ∀ (cum : α) (r : Raw α), Efg.toRaw gi n cum = .ok r →
    n.ShapeOK → n.FileOK → LValidOn ρ r → EfgValid names ρ n := by
  induction n using Efg.induct with
  | term oc pays => exact fun _ _ _ _ hf _ => hf
  | chance info nm probs kids oc pays ih =>
    intro cum r h hs hf hv
    obtain ⟨np, rs, ps, -, hrs, hp, rfl⟩ := toRaw_chance_ok h
    obtain ⟨hl1, hl2, hsk⟩ := hs
    have hrs' := toRawL_ok hrs
    have hl := hrs'.length_eq
    have hp := hp.map (·.2)
    rw [zip3_map_pair _ _ _ (hl1.trans hl) (hl2.trans hl), List.map_snd_zip (hl2.trans hl).ge] at hp
    refine ⟨hl1, hl2, hf.1, (efgValidL_iff _ _ _).2 fun k hk => ?_⟩
    obtain ⟨r, hr, hkr⟩ := forall₂_mem_left hrs' hk
    exact ih k hk _ r hkr ((Efg.shapeOKL_iff _).1 hsk k hk) ((Efg.fileOKL_iff _).1 hf.2 k hk)
      ((lvalidL_iff ρ _).1 hv r (hp.mem_iff.2 hr))
  | player num info name acts kids oc pays ih =>
    intro cum r h hs hf hv
    obtain ⟨np, label, rs, es, -, hlab, hrs, hp, rfl⟩ := toRaw_player_ok h
    obtain ⟨hl1, hsk⟩ := hs
    obtain ⟨-, hsum, hvk⟩ := hv
    have hrs' := toRawL_ok hrs
    have hl := hl1.trans hrs'.length_eq
    have hp1 := hp.map (·.1)
    have hp2 := hp.map (·.2)
    rw [List.map_fst_zip hl.le] at hp1
    rw [List.map_snd_zip hl.ge] at hp2
    rw [names_eq gi names hn1 hn2] at hlab
    refine ⟨hl1, ?_, (efgValidL_iff _ _ _).2 fun k hk => ?_⟩
    · rw [hlab, ← hsum]
      exact (hp1.map _).sum_eq.symm
    · obtain ⟨r, hr, hkr⟩ := forall₂_mem_left hrs' hk
      exact ih k hk _ r hkr ((Efg.shapeOKL_iff _).1 hsk k hk) ((Efg.fileOKL_iff _).1 hf k hk)
        ((lvalidL_iff ρ _).1 hvk r (hp2.mem_iff.2 hr))

theorem validL_of_toRawL : ∀ (ks : List (Efg α)) (cum : α) (rs : List (Raw α)),
    Efg.toRawL gi ks cum = .ok rs → Efg.ShapeOKL ks → Efg.FileOKL ks →
    (∀ r ∈ rs, LValidOn ρ r) → EfgValidL names ρ ks := by
  intro ks cum rs h hs hf hv
  refine (efgValidL_iff _ _ _).2 fun k hk => ?_
  obtain ⟨r, hr, hkr⟩ := forall₂_mem_left (toRawL_ok h) hk
  exact valid_of_toRaw gi names ρ hn1 hn2 k cum r hkr ((Efg.shapeOKL_iff _).1 hs k hk)
    ((Efg.fileOKL_iff _).1 hf k hk) (hv r hr)

end valid

theorem rawEVP_map (ρ : LProfile α) (o : Bool) (l : Nat) (es : List (Nat × Raw α)) :
    rawEVP ρ o l (es.map (·.1)) (es.map (·.2)) = (es.map (fun e => ρ o l e.1 * rawEV ρ e.2)).sum := by
  induction es with
  | nil => simp [rawEVP]
  | cons e es ih => simp [rawEVP, ih]

theorem rawEVC_map (ρ : LProfile α) (total : α) (es : List (α × Raw α)) :
    rawEVC ρ total (es.map (·.1)) (es.map (·.2))
      = (es.map (fun e => e.1 / total * rawEV ρ e.2)).sum := by
  induction es with
  | nil => simp [rawEVC]
  | cons e es ih => simp [rawEVC, ih]

theorem efgEVP_eq_sum (tbl : List (Nat × (α × α))) (names : Bool → List (Nat × Nat))
    (ρ : LProfile α) (who o : Bool) (l : Nat) (cum : α) : ∀ (as : List Nat) (ks : List (Efg α)),
    efgEVP tbl names ρ who o l as ks cum
      = ((as.zip ks).map fun e => ρ o l e.1 * efgEV tbl names ρ who e.2 cum).sum
  | a :: as, k :: ks => by
    rw [efgEVP, efgEVP_eq_sum tbl names ρ who o l cum as ks, List.zip_cons_cons, List.map_cons,
      List.sum_cons]
  | [], _ => by simp [efgEVP]
  | _ :: _, [] => by simp [efgEVP]

theorem efgEVC_eq_sum (tbl : List (Nat × (α × α))) (names : Bool → List (Nat × Nat))
    (ρ : LProfile α) (who : Bool) (total cum : α) : ∀ (ps : List α) (ks : List (Efg α)),
    efgEVC tbl names ρ who total ps ks cum
      = ((ps.zip ks).map fun e => e.1 / total * efgEV tbl names ρ who e.2 cum).sum
  | p :: ps, k :: ks => by
    rw [efgEVC, efgEVC_eq_sum tbl names ρ who total cum ps ks, List.zip_cons_cons, List.map_cons,
      List.sum_cons]
  | [], _ => by simp [efgEVC]
  | _ :: _, [] => by simp [efgEVC]

/-- `es` may be any reordering of the aligned pairs: `Efg.toRaw` sorts the children after pairing
them with their weights -/
theorem sum_mul_shift {β γ δ : Type} (w : β → α) (f : γ → α) (g : δ → α) (S : α) {ks : List γ}
    {rs : List δ} (h : List.Forall₂ (fun k r => g r = f k - S) ks rs) (bs : List β)
    (hl : bs.length = ks.length) {es : List (β × δ)} (hp : es.Perm (bs.zip rs)) :
    (es.map fun e => w e.1 * g e.2).sum
      = ((bs.zip ks).map fun e => w e.1 * f e.2).sum - S * (bs.map w).sum := by
  rw [(hp.map _).sum_eq]
  clear hp
  induction h generalizing bs with
  | nil => rw [List.length_eq_zero_iff.1 hl]; simp
  | cons hkr _ ih =>
    cases bs with
    | nil => cases hl
    | cons b bs =>
      simp only [List.zip_cons_cons, List.map_cons, List.sum_cons, hkr,
        ih bs (Nat.succ.inj hl)]
      ring

theorem sum_mul_pair {β γ : Type} (w : β → α) (f₁ f₂ : γ → α) (K : α) (bs : List β) (ks : List γ)
    (hl : bs.length = ks.length) (h : ∀ k ∈ ks, f₁ k + f₂ k = K) :
    ((bs.zip ks).map fun e => w e.1 * f₁ e.2).sum + ((bs.zip ks).map fun e => w e.1 * f₂ e.2).sum
      = K * (bs.map w).sum := by
  rw [← List.sum_map_add, ← map_zip_fst w bs ks hl, mul_comm, ← List.sum_map_mul_right]
  refine congrArg List.sum (List.map_congr_left fun e he => ?_)
  rw [← mul_add, h _ (List.of_mem_zip he).2]

theorem assocFind_map_fst (tbl : List (Nat × (α × α))) (oc : Nat) :
    assocFind (tbl.map (fun e => (e.1, e.2.1))) oc = (assocFind tbl oc).map (·.1) := by
  unfold assocFind
  rw [List.find?_map, Option.map_map, Option.map_map]
  rfl

theorem outcomePair_of_find {tbl : List (Nat × (α × α))} {oc : Nat} {q : α × α} (h0 : oc ≠ 0)
    (h : assocFind tbl oc = some q) : outcomePair tbl oc = q := by
  rw [outcomePair, if_neg h0, h, Option.getD_some]

theorem stepCum_eq {tbl : List (Nat × (α × α))} {oc : Nat} {c c' : α × α}
    (h : stepCum tbl oc c = .ok c') : c' = addPays c (outcomePair tbl oc) := by
  unfold stepCum at h
  split_ifs at h with h0
  · cases h
    rw [outcomePair, if_pos h0, addPays, add_zero, add_zero]
  · split at h
    · cases h
    · rename_i q hq
      cases h
      rw [outcomePair_of_find h0 hq]

section conv
variable (gi : GlobalInfo α) (tbl : List (Nat × (α × α))) (names : Bool → List (Nat × Nat))
  (ρ : LProfile α)
  (hout : gi.outcomes = tbl.map (fun e => (e.1, e.2.1)))
  (hn1 : gi.namesOne = names true) (hn2 : gi.namesTwo = names false)
include hout hn1 hn2

theorem find_eq {oc : Nat} {p : α} (h0 : oc ≠ 0) (h : assocFind gi.outcomes oc = some p) :
    p = (outcomePair tbl oc).1 := by
  rw [hout, assocFind_map_fst] at h
  obtain ⟨q, hq, rfl⟩ := Option.map_eq_some_iff.1 h
  rw [outcomePair_of_find h0 hq]

theorem nodePayoff_eq {oc : Nat} {np : α} (h : nodePayoff gi oc = .ok np) :
    np = (outcomePair tbl oc).1 := by
  unfold nodePayoff at h
  split_ifs at h with h0
  · cases h
    rw [outcomePair, if_pos h0]
  · split at h
    · cases h
    · rename_i p hp
      cases h
      exact find_eq gi tbl names hout hn1 hn2 h0 hp

theorem ev_of_toRaw (n : Efg α) : ∀ (cum : α) (r : Raw α), Efg.toRaw gi n cum = .ok r →
    EfgValid names ρ n → rawEV ρ r = efgEV tbl names ρ true n cum - gi.sum := by
  induction n using Efg.induct with
  | term oc pays =>
    intro cum r h hv
    obtain ⟨p, hp, rfl⟩ := toRaw_term_ok h
    rw [rawEV, efgEV, if_pos rfl, find_eq gi tbl names hout hn1 hn2 hv hp]
  | chance info nm probs kids oc pays ih =>
    intro cum r h hv
    obtain ⟨np, rs, ps, hnp, hrs, hp, rfl⟩ := toRaw_chance_ok h
    obtain ⟨hl1, hl2, htot, hvk⟩ := hv
    have hF := forall₂_imp_mem (toRawL_ok hrs) fun k hk r hkr =>
      ih k hk _ r hkr ((efgValidL_iff _ _ _).1 hvk k hk)
    have hl := hF.length_eq
    rw [zip3_map_pair _ _ _ (hl1.trans hl) (hl2.trans hl)] at hp
    have hws : (ps.map (·.1)).sum = probs.sum := by
      rw [(hp.map _).sum_eq, List.map_fst_zip (hl2.trans hl).le]
    rw [rawEV, efgEV, if_pos rfl, hws, rawEVC_map,
      sum_mul_shift (· / probs.sum) _ _ gi.sum hF probs hl2 hp, ← efgEVC_eq_sum, sum_map_div,
      div_self htot, mul_one, nodePayoff_eq gi tbl names hout hn1 hn2 hnp]
  | player num info name acts kids oc pays ih =>
    intro cum r h hv
    obtain ⟨np, label, rs, es, hnp, hlab, hrs, hp, rfl⟩ := toRaw_player_ok h
    obtain ⟨hl1, hsum, hvk⟩ := hv
    have hF := forall₂_imp_mem (toRawL_ok hrs) fun k hk r hkr =>
      ih k hk _ r hkr ((efgValidL_iff _ _ _).1 hvk k hk)
    rw [names_eq gi names hn1 hn2] at hlab
    rw [hlab, Option.getD_some] at hsum
    rw [rawEV, efgEV, if_pos rfl, hlab, rawEVP_map,
      sum_mul_shift (ρ (num == 1) label) _ _ gi.sum hF acts hl1 hp,
      ← efgEVP_eq_sum, Option.getD_some, hsum, mul_one,
      nodePayoff_eq gi tbl names hout hn1 hn2 hnp]

theorem evL_of_toRawL : ∀ (ks : List (Efg α)) (cum : α) (rs : List (Raw α)),
    Efg.toRawL gi ks cum = .ok rs → EfgValidL names ρ ks →
    List.Forall₂ (fun k r => rawEV ρ r = efgEV tbl names ρ true k cum - gi.sum) ks rs :=
  fun _ cum _ h hv => forall₂_imp_mem (toRawL_ok h) fun k hk r hkr =>
    ev_of_toRaw gi tbl names ρ hout hn1 hn2 k cum r hkr ((efgValidL_iff _ _ _).1 hv k hk)

end conv

section leaves
variable (tbl : List (Nat × (α × α))) (names : Bool → List (Nat × Nat)) (ρ : LProfile α)

theorem leavesL_ne_of {ks : List (Efg α)} {c : α × α} {ls : List (α × α)}
    (ih : ∀ k ∈ ks, ∀ (c : α × α) (l : List (α × α)), Efg.leaves tbl k c = .ok l →
      EfgValid names ρ k → l ≠ [])
    (h : Efg.leavesL tbl ks c = .ok ls) (hv : EfgValidL names ρ ks) (hne : ks ≠ []) : ls ≠ [] := by
  obtain ⟨k, hk⟩ := List.exists_mem_of_ne_nil ks hne
  obtain ⟨l, hl, hsub⟩ := leavesL_ok h k hk
  rintro rfl
  exact ih k hk c l hl ((efgValidL_iff _ _ _).1 hv k hk) (List.subset_nil.1 hsub)

theorem leaves_ne (n : Efg α) : ∀ (c : α × α) (ls : List (α × α)), Efg.leaves tbl n c = .ok ls →
    EfgValid names ρ n → ls ≠ [] := by
  induction n using Efg.induct with
  | term oc pays =>
    intro c ls h _
    obtain ⟨o, -, rfl⟩ := leaves_term_ok h
    exact List.cons_ne_nil _ _
  | chance info nm probs kids oc pays ih =>
    intro c ls h hv
    obtain ⟨c', -, hl⟩ := leaves_chance_ok h
    obtain ⟨-, hl2, htot, hvk⟩ := hv
    refine leavesL_ne_of tbl names ρ ih hl hvk ?_
    rintro rfl
    rw [List.length_eq_zero_iff.1 hl2] at htot
    exact htot rfl
  | player num info name acts kids oc pays ih =>
    intro c ls h hv
    obtain ⟨c', -, hl⟩ := leaves_player_ok h
    obtain ⟨hl1, hsum, hvk⟩ := hv
    refine leavesL_ne_of tbl names ρ ih hl hvk ?_
    rintro rfl
    rw [List.length_eq_zero_iff.1 hl1] at hsum
    exact zero_ne_one hsum

theorem leavesL_ne : ∀ (ks : List (Efg α)) (c : α × α) (ls : List (α × α)),
    Efg.leavesL tbl ks c = .ok ls → EfgValidL names ρ ks → ks ≠ [] → ls ≠ [] :=
  fun _ _ _ => leavesL_ne_of tbl names ρ fun k _ => leaves_ne tbl names ρ k

theorem pairL_of (K : α) {ks : List (Efg α)} {c₁ c₂ : α} {ls : List (α × α)}
    (ih : ∀ k ∈ ks, ∀ (c : α × α) (l : List (α × α)), Efg.leaves tbl k c = .ok l →
      (∀ x ∈ l, x.1 + x.2 = K) → EfgValid names ρ k →
      efgEV tbl names ρ true k c.1 + efgEV tbl names ρ false k c.2 = K)
    (h : Efg.leavesL tbl ks (c₁, c₂) = .ok ls) (hK : ∀ x ∈ ls, x.1 + x.2 = K)
    (hv : EfgValidL names ρ ks) (k : Efg α) (hk : k ∈ ks) :
    efgEV tbl names ρ true k c₁ + efgEV tbl names ρ false k c₂ = K := by
  obtain ⟨l, hl, hsub⟩ := leavesL_ok h k hk
  exact ih k hk _ l hl (fun x hx => hK x (hsub hx)) ((efgValidL_iff _ _ _).1 hv k hk)

theorem pair_of_leaves (K : α) (n : Efg α) : ∀ (c : α × α) (ls : List (α × α)),
    Efg.leaves tbl n c = .ok ls → (∀ x ∈ ls, x.1 + x.2 = K) → EfgValid names ρ n →
    efgEV tbl names ρ true n c.1 + efgEV tbl names ρ false n c.2 = K := by
  induction n using Efg.induct with
  | term oc pays =>
    intro c ls h hK hv
    obtain ⟨o, ho, rfl⟩ := leaves_term_ok h
    have := hK _ List.mem_cons_self
    rw [addPays] at this
    rw [efgEV, efgEV, if_pos rfl, if_neg Bool.false_ne_true, outcomePair_of_find hv ho]
    linear_combination this
  | chance info nm probs kids oc pays ih =>
    intro c ls h hK hv
    obtain ⟨c', hc', hl⟩ := leaves_chance_ok h
    obtain ⟨-, hl2, htot, hvk⟩ := hv
    rw [stepCum_eq hc'] at hl
    rw [efgEV, efgEV, if_pos rfl, if_neg Bool.false_ne_true, efgEVC_eq_sum, efgEVC_eq_sum,
      sum_mul_pair (· / probs.sum) (efgEV tbl names ρ true · _) (efgEV tbl names ρ false · _) K
        probs kids hl2 (pairL_of tbl names ρ K ih hl hK hvk),
      sum_map_div, div_self htot, mul_one]
  | player num info name acts kids oc pays ih =>
    intro c ls h hK hv
    obtain ⟨c', hc', hl⟩ := leaves_player_ok h
    obtain ⟨hl1, hsum, hvk⟩ := hv
    rw [stepCum_eq hc'] at hl
    rw [efgEV, efgEV, if_pos rfl, if_neg Bool.false_ne_true, efgEVP_eq_sum, efgEVP_eq_sum,
      sum_mul_pair (ρ _ _) (efgEV tbl names ρ true · _) (efgEV tbl names ρ false · _) K
        acts kids hl1 (pairL_of tbl names ρ K ih hl hK hvk),
      hsum, mul_one]

end leaves

theorem foldl_const {op : α → α → α} {a : α} (hop : op a a = a) :
    ∀ xs : List α, (∀ x ∈ xs, x = a) → xs.foldl op a = a
  | [], _ => rfl
  | x :: xs, h => by
    rw [List.foldl_cons, h x List.mem_cons_self, hop]
    exact foldl_const hop xs fun y hy => h y (List.mem_cons_of_mem _ hy)

theorem constantSum_exact (ls : List (α × α)) (K : α) (hne : ls ≠ [])
    (hK : ∀ c ∈ ls, c.1 + c.2 = K) : constantSum ls = K / 2 := by
  obtain ⟨c, cs, rfl⟩ := List.exists_cons_of_ne_nil hne
  have hall : ∀ x ∈ (c :: cs).map pairSum, x = K / 2 := by
    intro x hx
    obtain ⟨c', hc', rfl⟩ := List.mem_map.mp hx
    rw [← hK c' hc', pairSum, one_add_one_eq_two]
    ring
  rw [List.map_cons] at hall
  have h0 := hall _ List.mem_cons_self
  have hs := fun x hx => hall x (List.mem_cons_of_mem _ hx)
  rw [constantSum, List.map_cons, minOf, maxOf, h0,
    foldl_const (by rw [fmin_eq_min, min_self]) _ hs,
    foldl_const (by rw [fmax_eq_max, max_self]) _ hs, sub_self, zero_div, add_zero]

theorem getGlobalInfo_ok {numName : Nat → Nat} {root : Efg α} {t : Tables α}
    {n1 n2 : List (Nat × Nat)} {gi : GlobalInfo α}
    (ht : Tables.run ({} : Tables α) root.visits = .ok t)
    (h1 : t.one.resolve numName = .ok n1) (h2 : t.two.resolve numName = .ok n2)
    (h : getGlobalInfo numName root = .ok gi) :
    ∃ ls, Efg.leaves t.outcomes root (0, 0) = .ok ls ∧
      gi = ⟨n1, n2, t.outcomes.map (fun e => (e.1, e.2.1)), constantSum ls⟩ := by
  unfold getGlobalInfo at h
  rw [ht] at h
  simp only [h1, h2] at h
  split at h
  · cases h
  · rename_i ls hls
    split_ifs at h
    cases h
    exact ⟨ls, hls, rfl⟩

/-- `gambit_file_semantics` at every ordered field -/
theorem gambit_semantics (numName : Nat → Nat) (f : EfgFile α) (hshape : f.root.ShapeOK)
    (hfile : f.root.FileOK)
    (t : Tables α) (n1 n2 : List (Nat × Nat)) (raw : Raw α) (sum K : α)
    (ht : Tables.run ({} : Tables α) f.root.visits = .ok t)
    (h1 : t.one.resolve numName = .ok n1) (h2 : t.two.resolve numName = .ok n2)
    (hraw : gambitRaw numName f = .ok (raw, sum))
    (hK : ExactConstantSum t.outcomes f.root K)
    (ρ : LProfile α) (hρ : LValidOn ρ raw) :
    sum = K / 2 ∧
    rawEV ρ raw = efgEV t.outcomes (fun o => if o then n1 else n2) ρ true f.root 0 - K / 2 ∧
    efgEV t.outcomes (fun o => if o then n1 else n2) ρ false f.root 0
      = K - efgEV t.outcomes (fun o => if o then n1 else n2) ρ true f.root 0 := by
  obtain ⟨-, gi, hgi, hr, rfl⟩ := gambitRaw_ok hraw
  obtain ⟨ls, hls, rfl⟩ := getGlobalInfo_ok ht h1 h2 hgi
  have hv := valid_of_toRaw _ (fun o => if o then n1 else n2) ρ rfl rfl f.root 0 raw hr hshape
    hfile hρ
  have hsum : constantSum ls = K / 2 :=
    constantSum_exact ls K (leaves_ne t.outcomes _ ρ f.root (0, 0) ls hls hv) (hK ls hls)
  have hev := ev_of_toRaw _ t.outcomes (fun o => if o then n1 else n2) ρ rfl rfl rfl f.root 0 raw
    hr hv
  have hpair := pair_of_leaves t.outcomes _ ρ K f.root (0, 0) ls hls (hK ls hls) hv
  exact ⟨hsum, hev.trans (congrArg _ hsum), eq_sub_of_add_eq' hpair⟩

end CliP
end Cfr
