import CfrVerif.Model.Worklist
import CfrVerif.Proofs.BestResponse
import Mathlib.Data.Finset.Card
import Mathlib.Data.Finset.Max
import Mathlib.Data.Finset.Dedup
/-!
# Lemmas for `Proofs/WorklistEq.lean`: the work-list of `optimal_deviations` is a correct schedule

Abstract setting (`WLCtx`): `N` infosets, `nActs`, the own histories `hist`, the previous-infoset
function `prev` read off the tables, the list `nodes` of reached own nodes.

* `wlCollect_spec` : what the first loop files under every infoset.
* `muStar` : the final table of `resolveAll`; `muStar_unreached`.
* `WInv` : the loop invariant of `wlLoop`, indexed by the finite set `U` of reached infosets that
  are not resolved yet; `wlStep_none`, `wlStep_some` (what one turn computes), `EntryOK.erase*`
  (what resolving `I` does to one table entry), `wlStep_inv`, `wlLoop_spec`, `wlInitial_inv`.
* `wl_table_eq` : the `max_utility` column of the final work-list table *is* `muStar`.
* `collect_anc` : a reached own node lies below reached nodes of all infosets of its own history.
-/
set_option linter.unusedSectionVars false
namespace Cfr
variable {α : Type} [Field α] [LinearOrder α] [IsStrictOrderedRing α]

/-! ## the first loop -/

theorem mine_cons (h : Reached α) (l : List (Reached α)) (I : Nat) :
    mine (h :: l) I = (if h.info = I then [h] else []) ++ mine l I := by
  unfold mine
  by_cases e : h.info = I
  · simp [e]
  · simp [e]

theorem mine_nil (I : Nat) : mine ([] : List (Reached α)) I = [] := rfl

theorem wlCollect_spec (prev : Nat → Option Nat) : ∀ (l : List (Reached α)) (T : List (DevInfo α)),
    (wlCollect prev l T).length = T.length ∧
    ∀ (I : Nat) (d : DevInfo α), T[I]? = some d → (wlCollect prev l T)[I]? =
      some (DevInfo.mk (d.future + l.countP (fun h => decide (prev h.info = some I)))
        (d.nodes ++ mine l I) d.maxU)
  | [], T => by
    refine ⟨rfl, fun I d hd => ?_⟩
    simp [wlCollect, mine_nil, hd]
  | h :: hs, T => by
    -- one step: `h` is filed under its infoset and counted for the previous infoset
    have step : ∃ T', wlCollect prev (h :: hs) T = wlCollect prev hs T' ∧ T'.length = T.length ∧
        ∀ I d, T[I]? = some d → T'[I]? =
          some (DevInfo.mk (d.future + (if prev h.info = some I then 1 else 0))
            (d.nodes ++ (if h.info = I then [h] else [])) d.maxU) := by
      cases hp : prev h.info with
      | none =>
        refine ⟨_, by simp only [wlCollect, hp]; rfl, by simp, fun I d hd => ?_⟩
        rw [List.getElem?_modify, hd]
        by_cases e : h.info = I <;> simp [e]
      | some j =>
        refine ⟨_, by simp only [wlCollect, hp]; rfl, by simp, fun I d hd => ?_⟩
        rw [List.getElem?_modify, List.getElem?_modify, hd]
        by_cases e : h.info = I <;> by_cases e' : j = I <;> simp [e, e']
    obtain ⟨T', hT, hl, hI⟩ := step
    obtain ⟨ih1, ih2⟩ := wlCollect_spec prev hs T'
    rw [hT]
    refine ⟨ih1.trans hl, fun I d hd => ?_⟩
    rw [ih2 I _ (hI I d hd), mine_cons, List.countP_cons]
    simp [List.append_assoc, Nat.add_assoc, Nat.add_comm]

/-! ## the table of the decreasing-order resolution -/

def muStar (N : Nat) (nActs : Nat → Nat) (nodes : List (Reached α)) : List α :=
  resolveAll nodes nActs N (List.replicate N 0)

theorem muStar_length (N : Nat) (nActs : Nat → Nat) (nodes : List (Reached α)) :
    (muStar N nActs nodes).length = N := by
  unfold muStar; rw [resolveAll_length]; simp

theorem resolveAll_getD_unreached (nodes : List (Reached α)) (nActs : Nat → Nat) (I : Nat)
    (hI : mine nodes I = []) : ∀ (n : Nat) (mu : List α),
      (resolveAll nodes nActs n mu).getD I 0 = mu.getD I 0
  | 0, mu => by simp [resolveAll]
  | n + 1, mu => by
    simp only [resolveAll]
    rw [resolveAll_getD_unreached nodes nActs I hI n]
    by_cases e : I = n
    · subst e
      rw [resolveOne_eq, hI]; simp
    · exact resolveOne_getD_ne _ _ _ _ _ e

theorem muStar_unreached (N : Nat) (nActs : Nat → Nat) (nodes : List (Reached α)) (I : Nat)
    (hI : mine nodes I = []) : (muStar N nActs nodes).getD I 0 = 0 := by
  unfold muStar
  rw [resolveAll_getD_unreached nodes nActs I hI]
  rw [List.getD_eq_getElem?_getD, List.getElem?_replicate]
  split_ifs <;> rfl

/-! ## a reached node lies below reached nodes of every infoset of its own history -/

mutual
theorem collect_anc (hist : Nat → Hist) : ∀ (t : V α) (H : Hist) (c : α), 0 < c → PRV hist H t →
    ∀ h ∈ collect t c, ∀ e ∈ hist h.info, e ∈ H ∨ ∃ h' ∈ collect t c, h'.info = e.1
  | .term u, H, c, _, _ => fun _ hh => absurd hh List.not_mem_nil
  | .nature ws ks, H, c, hc, hp => by
    rw [collect]
    exact collectN_anc hist ws ks H c hc (PRV_nature.mp hp)
  | .decide i ks, H, c, hc, hp => by
    obtain ⟨hH, hd⟩ := PRV_decide.mp hp
    intro h hh e he
    rw [collect] at hh ⊢
    rcases List.mem_cons.mp hh with rfl | hh
    · exact Or.inl (hH ▸ he)
    · rcases collectD_anc hist ks H i 0 c hc hd h hh e he with h1 | h1 | ⟨h', h1, h2⟩
      · exact Or.inl h1
      · exact Or.inr ⟨⟨i, ks, c⟩, List.mem_cons_self, h1.symm⟩
      · exact Or.inr ⟨h', List.mem_cons_of_mem _ h1, h2⟩
theorem collectN_anc (hist : Nat → Hist) : ∀ (ws : List α) (ks : List (V α)) (H : Hist) (c : α),
    0 < c → PRVL hist H ks →
    ∀ h ∈ collectN ws ks c, ∀ e ∈ hist h.info, e ∈ H ∨ ∃ h' ∈ collectN ws ks c, h'.info = e.1
  | [], ks, H, c, _, _ => by cases ks <;> exact fun _ hh => absurd hh List.not_mem_nil
  | _ :: _, [], H, c, _, _ => fun _ hh => absurd hh List.not_mem_nil
  | w :: ws, k :: ks, H, c, hc, hp => by
    obtain ⟨p1, p2⟩ := PRVL_cons.mp hp
    have b := collectN_anc hist ws ks H c hc p2
    by_cases hw : 0 < w
    · intro h hh e he
      rw [collectN_cons_pos hw hc] at hh ⊢
      rcases List.mem_append.mp hh with hh | hh
      · rcases collect_anc hist k H (w * c) (mul_pos hw hc) p1 h hh e he with h1 | ⟨h', h1, h2⟩
        · exact Or.inl h1
        · exact Or.inr ⟨h', List.mem_append_left _ h1, h2⟩
      · rcases b h hh e he with h1 | ⟨h', h1, h2⟩
        · exact Or.inl h1
        · exact Or.inr ⟨h', List.mem_append_right _ h1, h2⟩
    · rw [collectN_cons_of_not_pos hw]; exact b
theorem collectD_anc (hist : Nat → Hist) : ∀ (ks : List (V α)) (H : Hist) (i a : Nat) (c : α),
    0 < c → PRVD hist H i a ks →
    ∀ h ∈ collectD ks c, ∀ e ∈ hist h.info,
      e ∈ H ∨ e.1 = i ∨ ∃ h' ∈ collectD ks c, h'.info = e.1
  | [], H, i, a, c, _, _ => fun _ hh => absurd hh List.not_mem_nil
  | k :: ks, H, i, a, c, hc, hp => by
    obtain ⟨p1, p2⟩ := PRVD_cons.mp hp
    intro h hh e he
    rw [collectD] at hh ⊢
    rcases List.mem_append.mp hh with hh | hh
    · rcases collect_anc hist k _ c hc p1 h hh e he with h1 | ⟨h', h1, h2⟩
      · rcases List.mem_append.mp h1 with h1 | h1
        · exact Or.inl h1
        · rw [List.mem_singleton.mp h1]; exact Or.inr (Or.inl rfl)
      · exact Or.inr (Or.inr ⟨h', List.mem_append_left _ h1, h2⟩)
    · rcases collectD_anc hist ks H i (a + 1) c hc p2 h hh e he with h1 | h1 | ⟨h', h1, h2⟩
      · exact Or.inl h1
      · exact Or.inr (Or.inl h1)
      · exact Or.inr (Or.inr ⟨h', List.mem_append_right _ h1, h2⟩)
end

/-! ## the abstract setting -/

/-- `N` infosets with `nActs` actions, own histories `hist`, previous-infoset pointers `prev`
consistent with `hist`, the reached own nodes `nodes` -/
structure WLCtx (N : Nat) (nActs : Nat → Nat) (hist : Nat → Hist) (prev : Nat → Option Nat)
    (nodes : List (Reached α)) : Prop where
  hord : ∀ i, ∀ e ∈ hist i, e.1 < i
  hpos : ∀ i, i < N → 1 ≤ nActs i
  hn : ∀ h ∈ nodes, ROK N nActs hist h
  prevLt : ∀ i j, prev i = some j → j < i
  linkSome : ∀ i j, prev i = some j → ∃ a, hist i = hist j ++ [(j, a)]
  linkNone : ∀ i, prev i = none → hist i = []
  /-- the previous infoset of a reached infoset is reached -/
  up : ∀ h ∈ nodes, ∀ j, prev h.info = some j → ∃ h' ∈ nodes, h'.info = j

section ctx
variable {N : Nat} {nActs : Nat → Nat} {hist : Nat → Hist} {prev : Nat → Option Nat}
  {nodes : List (Reached α)}

theorem WLCtx.link (ctx : WLCtx N nActs hist prev nodes) {K I a : Nat}
    (h : hist K = hist I ++ [(I, a)]) : prev K = some I := by
  cases hp : prev K with
  | none =>
    have := ctx.linkNone K hp
    rw [this] at h
    simp at h
  | some j =>
    obtain ⟨a', ha'⟩ := ctx.linkSome K j hp
    rw [ha'] at h
    have := List.append_inj_right' h (by simp)
    simp only [List.cons.injEq, Prod.mk.injEq, and_true] at this
    rw [this.1]

/-- number of reached nodes of unresolved infosets whose previous infoset is `I` -/
def fut (prev : Nat → Option Nat) (nodes : List (Reached α)) (U : Finset Nat) (I : Nat) : Nat :=
  nodes.countP (fun h => decide (h.info ∈ U) && decide (prev h.info = some I))

theorem fut_eq_zero {U : Finset Nat} {I : Nat} :
    fut prev nodes U I = 0 ↔ ∀ h ∈ nodes, h.info ∈ U → prev h.info ≠ some I := by
  unfold fut
  rw [List.countP_eq_zero]
  constructor
  · intro h x hx hU hp
    exact h x hx (by simp [hU, hp])
  · intro h x hx hc
    simp only [Bool.and_eq_true, decide_eq_true_eq] at hc
    exact h x hx hc.1 hc.2

/-- resolving `I0` takes its nodes out of the count of its previous infoset: count the nodes of
`I0` and the others separately -/
theorem fut_erase (U : Finset Nat) (I0 j : Nat) (hI0 : I0 ∈ U) (nodes : List (Reached α)) :
    fut prev nodes U j = fut prev nodes (U.erase I0) j
      + (if prev I0 = some j then (mine nodes I0).length else 0) := by
  unfold fut
  rw [List.countP_eq_countP_filter_add nodes _ (fun h => h.info == I0), add_comm, List.countP_filter]
  refine congrArg₂ (· + ·) (List.countP_congr fun x _ => ?_) ?_
  · simp only [Bool.and_eq_true, Bool.not_eq_true', beq_eq_false_iff_ne, decide_eq_true_eq,
      Finset.mem_erase]
    exact ⟨fun ⟨⟨a, b⟩, c⟩ => ⟨⟨c, a⟩, b⟩, fun ⟨⟨c, a⟩, b⟩ => ⟨⟨a, b⟩, c⟩⟩
  · show List.countP _ (mine nodes I0) = _
    split_ifs with e
    · exact List.countP_eq_length.mpr fun x hx => by simp [(mem_mine.mp hx).2, hI0, e]
    · exact List.countP_eq_zero.mpr fun x hx => by simp [(mem_mine.mp hx).2, e]

/-! ## the loop invariant -/

/-- what entry `I` of the work-list table holds while the infosets in `U` are unresolved -/
def EntryOK (N : Nat) (nActs : Nat → Nat) (prev : Nat → Option Nat) (nodes : List (Reached α))
    (U : Finset Nat) (I : Nat) (d : DevInfo α) : Prop :=
  d.nodes = (if I ∈ U then mine nodes I else []) ∧ d.future = fut prev nodes U I ∧
    (I ∉ U → d.maxU = (muStar N nActs nodes).getD I 0)

/-- the invariant of `wlLoop`; `U` = the reached infosets that are not resolved yet -/
structure WInv (N : Nat) (nActs : Nat → Nat) (prev : Nat → Option Nat) (nodes : List (Reached α))
    (U : Finset Nat) (queue : List Nat) (table : List (DevInfo α)) : Prop where
  len : table.length = N
  ent : ∀ (I : Nat) (d : DevInfo α), table[I]? = some d → EntryOK N nActs prev nodes U I d
  sub : ∀ I ∈ U, I < N ∧ mine nodes I ≠ []
  upc : ∀ K ∈ U, ∀ j, prev K = some j → j ∈ U
  qmem : ∀ I, I ∈ queue ↔ I ∈ U ∧ fut prev nodes U I = 0
  qnd : queue.Nodup

theorem map_maxU_set (T : List (DevInfo α)) (i : Nat) (d d' : DevInfo α) (hd : T[i]? = some d)
    (h : d'.maxU = d.maxU) : (T.set i d').map (·.maxU) = T.map (·.maxU) := by
  apply List.ext_getElem?
  intro K
  simp only [List.getElem?_map, List.getElem?_set]
  split_ifs with h1 h2
  · subst h1; simp [hd, h]
  · subst h1
    rw [List.getElem?_eq_none (by omega)]
  · rfl

theorem modify_set_self {β : Type} (f : β → β) (a : β) :
    ∀ (l : List β) (i : Nat), (l.set i a).modify i f = l.set i (f a)
  | [], _ => by simp
  | _ :: _, 0 => by simp
  | _ :: l, i + 1 => by simp [modify_set_self f a l i]

theorem getElem?_set_eq_some {β : Type} {l : List β} {i k : Nat} {a b : β}
    (h : (l.set i a)[k]? = some b) : k = i ∧ b = a ∨ k ≠ i ∧ l[k]? = some b := by
  rw [List.getElem?_set] at h
  split_ifs at h with e _
  · exact Or.inl ⟨e.symm, (Option.some.inj h).symm⟩
  · exact Or.inr ⟨fun e' => e e'.symm, h⟩

/-! ## what one turn of the loop computes -/

theorem wlStep_none {table : List (DevInfo α)} {I : Nat} {d : DevInfo α} {m : α} (q : List Nat)
    (hd : table[I]? = some d) (hp : prev I = none)
    (hm : maxList (d.nodes.foldl (fun acc n => addPayoffs (table.map (·.maxU)) n.reach acc n.kids)
      (List.replicate (nActs I) 0)) = some m) :
    wlStep prev nActs I q table
      = (q, table.set I ⟨d.future, [], m / lsum (d.nodes.map (·.reach))⟩) := by
  simp only [wlStep, hd, hp]
  rw [map_maxU_set table I d { d with nodes := [] } hd rfl, hm]
  simp only [modify_set_self]

theorem wlStep_some {table : List (DevInfo α)} {I j : Nat} {d dj : DevInfo α} {m : α}
    (q : List Nat) (hd : table[I]? = some d) (hp : prev I = some j) (hjI : j ≠ I)
    (hj : table[j]? = some dj)
    (hm : maxList (d.nodes.foldl (fun acc n => addPayoffs (table.map (·.maxU)) n.reach acc n.kids)
      (List.replicate (nActs I) 0)) = some m) :
    wlStep prev nActs I q table
      = (if dj.future - d.nodes.length == 0 then q ++ [j] else q,
          (table.set I ⟨d.future, [], m / lsum (d.nodes.map (·.reach))⟩).set j
            { dj with future := dj.future - d.nodes.length }) := by
  have hj1 : (table.set I { d with nodes := [] })[j]? = some dj := by
    rw [List.getElem?_set_ne hjI.symm]; exact hj
  simp only [wlStep, hd, hp, hj1]
  rw [map_maxU_set _ j dj { dj with future := dj.future - d.nodes.length } hj1 rfl,
    map_maxU_set table I d { d with nodes := [] } hd rfl, hm]
  simp only [List.set_comm _ _ hjI.symm, modify_set_self]

/-- every infoset whose previous infoset is `I` is resolved when `I`'s counter is zero -/
theorem WInv.kids_done {U : Finset Nat} {queue : List Nat} {table : List (DevInfo α)}
    (inv : WInv N nActs prev nodes U queue table) {I : Nat} (hf0 : fut prev nodes U I = 0)
    {K : Nat} (hK : prev K = some I) : K ∉ U := by
  intro hKU
  obtain ⟨h, h1, h2⟩ := mine_ne_nil.mp (inv.sub K hKU).2
  exact fut_eq_zero.mp hf0 h h1 (by rw [h2]; exact hKU) (by rw [h2]; exact hK)

theorem WInv.getD_maxU {U : Finset Nat} {queue : List Nat} {table : List (DevInfo α)}
    (inv : WInv N nActs prev nodes U queue table) {K : Nat} (hK : K ∉ U) :
    (table.map (·.maxU)).getD K 0 = (muStar N nActs nodes).getD K 0 := by
  by_cases hKN : K < N
  · have hKl : K < table.length := by rw [inv.len]; exact hKN
    have hd : table[K]? = some table[K] := List.getElem?_eq_getElem hKl
    have := (inv.ent K _ hd).2.2 hK
    rw [List.getD_eq_getElem?_getD, List.getElem?_map, hd]
    simpa using this
  · rw [List.getD_eq_getElem?_getD, List.getD_eq_getElem?_getD,
      List.getElem?_eq_none (by simp [inv.len]; omega),
      List.getElem?_eq_none (by rw [muStar_length]; omega)]

/-- the value the work-list writes for `I` is the one of the decreasing-order resolution -/
theorem WInv.step_value (ctx : WLCtx N nActs hist prev nodes) {U : Finset Nat} {queue : List Nat}
    {table : List (DevInfo α)} (inv : WInv N nActs prev nodes U queue table) {I : Nat}
    (hIU : I ∈ U) (hf0 : fut prev nodes U I = 0) :
    ∃ m, maxList (infoPayoffs nodes (nActs I) I (table.map (·.maxU))) = some m ∧
      m / total nodes I = (muStar N nActs nodes).getD I 0 := by
  obtain ⟨hIN, hIne⟩ := inv.sub I hIU
  have hc : infoPayoffs nodes (nActs I) I (table.map (·.maxU))
      = infoPayoffs nodes (nActs I) I (muStar N nActs nodes) := by
    apply infoPayoffs_congr ctx.hn
    intro K a hK
    exact inv.getD_maxU (inv.kids_done hf0 (ctx.link hK))
  obtain ⟨m', hm', h1, h2⟩ := maxList_spec _
    (infoPayoffs_ne_nil nodes (ctx.hpos I hIN) I (table.map (·.maxU)))
  have spec : SpecAt nodes nActs (muStar N nActs nodes) I :=
    resolveAll_spec ctx.hord ctx.hpos ctx.hn N (List.replicate N 0) (le_refl _) (by simp) I hIN
  obtain ⟨m, g1, g2, g3⟩ := spec hIne
  refine ⟨m', hm', ?_⟩
  rw [g3]
  rw [hc] at h1 h2
  rw [le_antisymm (g2 m' h1) (h2 m g1)]

/-! ## resolving `I` turns the invariant for `U` into the one for `U.erase I` -/

section erase
variable {U : Finset Nat} {I K : Nat} {d : DevInfo α}

theorem EntryOK.erase (hI : I ∈ U) (hK : K ≠ I) (hp : prev I ≠ some K)
    (h : EntryOK N nActs prev nodes U K d) : EntryOK N nActs prev nodes (U.erase I) K d := by
  obtain ⟨hn, hf, hm⟩ := h
  have hKU : K ∈ U.erase I ↔ K ∈ U := by simp [hK]
  refine ⟨by simp only [hn, hKU], ?_, fun h => hm (mt hKU.mpr h)⟩
  rw [hf, fut_erase U I K hI nodes, if_neg hp, Nat.add_zero]

/-- once `I` is resolved its nodes are not counted among the future nodes of its previous infoset -/
theorem EntryOK.erase_prev (hI : I ∈ U) (hK : K ≠ I) (hp : prev I = some K) (hKU : K ∈ U)
    (h : EntryOK N nActs prev nodes U K d) :
    EntryOK N nActs prev nodes (U.erase I) K
      { d with future := d.future - (mine nodes I).length } := by
  obtain ⟨hn, hf, _⟩ := h
  have hKU' : K ∈ U.erase I := Finset.mem_erase.mpr ⟨hK, hKU⟩
  refine ⟨by simp only [hn, hKU, hKU'], ?_, fun h => absurd hKU' h⟩
  show d.future - _ = _
  rw [hf, fut_erase U I K hI nodes, if_pos hp, Nat.add_sub_cancel]

theorem EntryOK.erase_self (hI : I ∈ U) (hp : prev I ≠ some I)
    (h : EntryOK N nActs prev nodes U I d) :
    EntryOK N nActs prev nodes (U.erase I) I ⟨d.future, [], (muStar N nActs nodes).getD I 0⟩ := by
  refine ⟨by simp, ?_, fun _ => rfl⟩
  show d.future = _
  rw [h.2.1, fut_erase U I I hI nodes, if_neg hp, Nat.add_zero]

end erase

theorem wlStep_inv (ctx : WLCtx N nActs hist prev nodes) {U : Finset Nat} {q : List Nat} {I : Nat}
    {table : List (DevInfo α)} (inv : WInv N nActs prev nodes U (q ++ [I]) table) :
    ∀ q' T', wlStep prev nActs I q table = (q', T') →
      I ∈ U ∧ WInv N nActs prev nodes (U.erase I) q' T' := by
  intro q' T' hstep
  obtain ⟨hIU, hf0⟩ := (inv.qmem I).mp (by simp)
  obtain ⟨hIN, hIne⟩ := inv.sub I hIU
  have hIl : I < table.length := by rw [inv.len]; exact hIN
  have hd : table[I]? = some table[I] := List.getElem?_eq_getElem hIl
  generalize table[I] = d at hd
  have entI := inv.ent I d hd
  have dn : d.nodes = mine nodes I := by rw [entI.1, if_pos hIU]
  -- the value written for `I`
  obtain ⟨m, hm, hval⟩ := inv.step_value ctx hIU hf0
  rw [infoPayoffs_eq, ← dn] at hm
  have htot : lsum (d.nodes.map (·.reach)) = total nodes I := by rw [dn, lsum_eq_sum]; rfl
  -- the rest of the queue: the other unresolved infosets with counter zero
  obtain ⟨hqnd, hIq⟩ : q.Nodup ∧ I ∉ q := by
    have := List.nodup_append.mp inv.qnd
    exact ⟨this.1, fun h => this.2.2 I h I (by simp) rfl⟩
  have hq : ∀ K, prev I ≠ some K →
      (K ∈ q ↔ K ∈ U.erase I ∧ fut prev nodes (U.erase I) K = 0) := by
    intro K hpK
    have := inv.qmem K
    rw [List.mem_append, List.mem_singleton, fut_erase U I K hIU nodes, if_neg hpK,
      Nat.add_zero] at this
    rw [Finset.mem_erase, and_assoc, ← this]
    constructor
    · intro h; exact ⟨fun e => hIq (e ▸ h), Or.inl h⟩
    · rintro ⟨h1, h | h⟩
      exacts [h, absurd h h1]
  have hsub : ∀ K ∈ U.erase I, K < N ∧ mine nodes K ≠ [] :=
    fun K hK => inv.sub K (Finset.mem_of_mem_erase hK)
  have hupc : ∀ K ∈ U.erase I, ∀ j, prev K = some j → j ∈ U.erase I := by
    intro K hK j hj
    have hKU := Finset.mem_of_mem_erase hK
    refine Finset.mem_erase.mpr ⟨?_, inv.upc K hKU j hj⟩
    rintro rfl
    exact inv.kids_done hf0 hj hKU
  -- the entries once `I` is resolved, but for the one of its previous infoset
  have hent : ∀ K dK,
      (table.set I ⟨d.future, [], (muStar N nActs nodes).getD I 0⟩)[K]? = some dK →
      prev I ≠ some K → EntryOK N nActs prev nodes (U.erase I) K dK := by
    intro K dK hK hpK
    rcases getElem?_set_eq_some hK with ⟨rfl, rfl⟩ | ⟨e, hK⟩
    · exact entI.erase_self hIU hpK
    · exact (inv.ent K dK hK).erase hIU e hpK
  refine ⟨hIU, ?_⟩
  cases hp : prev I with
  | none =>
    have hpK : ∀ K, prev I ≠ some K := fun K => hp ▸ nofun
    rw [wlStep_none q hd hp hm, htot, hval] at hstep
    obtain ⟨rfl, rfl⟩ := Prod.mk.inj hstep
    exact ⟨by rw [List.length_set, inv.len], fun K dK hK => hent K dK hK (hpK K), hsub, hupc,
      fun K => hq K (hpK K), hqnd⟩
  | some j =>
    have hjI : j ≠ I := Nat.ne_of_lt (ctx.prevLt I j hp)
    have hjU : j ∈ U := inv.upc I hIU j hp
    have hjl : j < table.length := by rw [inv.len]; exact (inv.sub j hjU).1
    have hj : table[j]? = some table[j] := List.getElem?_eq_getElem hjl
    generalize table[j] = dj at hj
    have entJ := (inv.ent j dj hj).erase_prev hIU hjI hp hjU
    have hpK : ∀ K, K ≠ j → prev I ≠ some K := fun K hK h => hK (Option.some.inj (hp ▸ h)).symm
    rw [wlStep_some q hd hp hjI hj hm, htot, hval, dn] at hstep
    obtain ⟨rfl, rfl⟩ := Prod.mk.inj hstep
    have hf : dj.future - (mine nodes I).length = fut prev nodes (U.erase I) j := entJ.2.1
    -- `j` had nodes of `I` among its future nodes, so it was not in the queue
    have hjq : j ∉ q := fun h => by
      have h0 := ((inv.qmem j).mp (List.mem_append_left _ h)).2
      rw [fut_erase U I j hIU nodes, if_pos hp] at h0
      have := List.length_pos_iff.mpr hIne
      omega
    refine ⟨by rw [List.length_set, List.length_set, inv.len], ?_, hsub, hupc, ?_, ?_⟩
    · intro K dK hK
      rcases getElem?_set_eq_some hK with ⟨rfl, rfl⟩ | ⟨e, hK⟩
      · exact entJ
      · exact hent K dK hK (hpK K e)
    · intro K
      rw [hf]
      by_cases e : K = j
      · subst e
        have hKU : K ∈ U.erase I := Finset.mem_erase.mpr ⟨hjI, hjU⟩
        by_cases h0 : fut prev nodes (U.erase I) K = 0 <;> simp [h0, hjq, hKU]
      · rw [← hq K (hpK K e)]
        split_ifs <;> simp [e]
    · split_ifs
      · exact List.Nodup.append hqnd (List.nodup_singleton j) (by simpa using hjq)
      · exact hqnd

theorem WInv.map_maxU_eq {U : Finset Nat} {queue : List Nat} {table : List (DevInfo α)}
    (inv : WInv N nActs prev nodes U queue table) (hU : U = ∅) :
    table.map (·.maxU) = muStar N nActs nodes := by
  apply List.ext_getElem (by rw [List.length_map, inv.len, muStar_length])
  intro K h1 h2
  have := inv.getD_maxU (K := K) (by simp [hU])
  rwa [List.getD_eq_getElem?_getD, List.getD_eq_getElem?_getD, List.getElem?_eq_getElem h1,
    List.getElem?_eq_getElem h2] at this

/-- the loop resolves every reached infoset, with the value of the decreasing-order resolution -/
theorem wlLoop_spec (ctx : WLCtx N nActs hist prev nodes) : ∀ (fuel : Nat) (U : Finset Nat)
    (queue : List Nat) (table : List (DevInfo α)), WInv N nActs prev nodes U queue table →
    U.card + 1 ≤ fuel →
    (wlLoop prev nActs fuel queue table).map (·.maxU) = muStar N nActs nodes
  | 0, U, queue, table, _, h => by omega
  | fuel + 1, U, queue, table, inv, h => by
    simp only [wlLoop]
    cases hq : queue.getLast? with
    | none =>
      have hq' : queue = [] := List.getLast?_eq_none_iff.mp hq
      have hU : U = ∅ := by
        by_contra hne
        obtain ⟨J, hJ, hmax⟩ := U.exists_max_image id (Finset.nonempty_iff_ne_empty.mpr hne)
        have h0 : fut prev nodes U J = 0 := by
          rw [fut_eq_zero]
          intro x _ hxU hp
          have h1 := ctx.prevLt _ _ hp
          have h2 := hmax _ hxU
          simp only [id] at h2
          omega
        have := (inv.qmem J).mpr ⟨hJ, h0⟩
        rw [hq'] at this
        simp at this
      exact inv.map_maxU_eq hU
    | some I =>
      have hqe : queue.dropLast ++ [I] = queue := List.dropLast_append_getLast? I hq
      rw [← hqe] at inv
      rcases hs : wlStep prev nActs I queue.dropLast table with ⟨q', T'⟩
      obtain ⟨hIU, inv'⟩ := wlStep_inv ctx inv q' T' hs
      simp only [hs]
      refine wlLoop_spec ctx fuel (U.erase I) q' T' inv' ?_
      rw [Finset.card_erase_of_mem hIU]
      have := Finset.card_pos.mpr ⟨I, hIU⟩
      omega

/-- the state after the first loop satisfies the invariant, with every reached infoset unresolved -/
theorem wlInitial_inv (ctx : WLCtx N nActs hist prev nodes) :
    WInv N nActs prev nodes (nodes.map (·.info)).toFinset
      (wlInitial (wlCollect prev nodes (List.replicate N ⟨0, [], 0⟩)))
      (wlCollect prev nodes (List.replicate N ⟨0, [], 0⟩)) := by
  obtain ⟨hl, hent⟩ := wlCollect_spec prev nodes (List.replicate N (⟨0, [], 0⟩ : DevInfo α))
  have hl' : (wlCollect prev nodes (List.replicate N (⟨0, [], 0⟩ : DevInfo α))).length = N := by
    rw [hl]; simp
  have hU : ∀ I, I ∈ (nodes.map (·.info)).toFinset ↔ mine nodes I ≠ [] := by
    intro I
    rw [mine_ne_nil, List.mem_toFinset, List.mem_map]
  have hfut : ∀ I, fut prev nodes (nodes.map (·.info)).toFinset I
      = nodes.countP (fun h => decide (prev h.info = some I)) := by
    intro I
    unfold fut
    apply List.countP_congr
    intro x hx
    have : x.info ∈ (nodes.map (·.info)).toFinset := by
      rw [List.mem_toFinset, List.mem_map]; exact ⟨x, hx, rfl⟩
    simp [this]
  have hget : ∀ I, I < N →
      (wlCollect prev nodes (List.replicate N (⟨0, [], 0⟩ : DevInfo α)))[I]? =
        some (DevInfo.mk (nodes.countP (fun h => decide (prev h.info = some I))) (mine nodes I) 0) := by
    intro I hI
    have := hent I ⟨0, [], 0⟩ (by simp [hI])
    simpa using this
  have hIN : ∀ I, mine nodes I ≠ [] → I < N := by
    intro I hne
    obtain ⟨h, h1, h2⟩ := mine_ne_nil.mp hne
    exact h2 ▸ (ctx.hn h h1).1
  refine ⟨hl', ?_, fun I hI => ⟨hIN I ((hU I).mp hI), (hU I).mp hI⟩, ?_, ?_, ?_⟩
  · intro I d hd
    have hI : I < N := hl' ▸ (List.getElem?_eq_some_iff.mp hd).1
    rw [hget I hI] at hd
    obtain rfl := Option.some.inj hd
    refine ⟨?_, (hfut I).symm, fun h => ?_⟩
    · show mine nodes I = _
      split_ifs with h
      · rfl
      · exact not_not.mp (mt (hU I).mpr h)
    · show (0 : α) = _
      rw [muStar_unreached _ _ _ _ (not_not.mp (mt (hU I).mpr h))]
  · intro K hK j hj
    obtain ⟨h, h1, h2⟩ := mine_ne_nil.mp ((hU K).mp hK)
    obtain ⟨h', h1', h2'⟩ := ctx.up h h1 j (by rw [h2]; exact hj)
    exact (hU j).mpr (mine_ne_nil.mpr ⟨h', h1', h2'⟩)
  · intro I
    unfold wlInitial
    rw [List.mem_filter, List.mem_range, hl', hU I, hfut I]
    constructor
    · rintro ⟨hI, h⟩
      rw [hget I hI] at h
      simp only [Bool.and_eq_true, beq_iff_eq, Bool.not_eq_true', List.isEmpty_eq_false_iff] at h
      exact ⟨h.2, h.1⟩
    · rintro ⟨h1, h2⟩
      refine ⟨hIN I h1, ?_⟩
      rw [hget I (hIN I h1)]
      simp only [Bool.and_eq_true, beq_iff_eq, Bool.not_eq_true', List.isEmpty_eq_false_iff]
      exact ⟨h2, h1⟩
  · unfold wlInitial
    exact List.nodup_range.filter _

/-- **the `max_utility` column of the final work-list table is the table of `resolveAll`** -/
theorem wl_table_eq (ctx : WLCtx N nActs hist prev nodes) :
    (wlLoop prev nActs (N + 1)
      (wlInitial (wlCollect prev nodes (List.replicate N ⟨0, [], 0⟩)))
      (wlCollect prev nodes (List.replicate N ⟨0, [], 0⟩))).map (·.maxU)
      = resolveAll nodes nActs N (List.replicate N 0) := by
  have inv := wlInitial_inv ctx
  refine wlLoop_spec ctx (N + 1) _ _ _ inv ?_
  have hsub : (nodes.map (·.info)).toFinset ⊆ Finset.range N := by
    intro I hI
    exact Finset.mem_range.mpr (inv.sub I hI).1
  have := Finset.card_le_card hsub
  rw [Finset.card_range] at this
  omega

end ctx

end Cfr
