import CfrVerif.Proofs.CliLemmas
/-!
# Helper lemmas for C17: the stages of `gambitRaw` after the tables are built
-/
set_option linter.unusedSectionVars false
namespace Cfr.Rej

theorem length_sortBy {β : Type} (lt : β → β → Bool) (l : List β) :
    (sortBy lt l).length = l.length := (CliP.sortBy_perm lt l).length_eq

theorem length_zip3 {β γ δ : Type} (n : Nat) :
    ∀ (a : List β) (b : List γ) (c : List δ), a.length = n → b.length = n → c.length = n →
      (zip3 a b c).length = n := by
  intro a b c ha hb hc
  rw [CliP.zip3_eq_zip, List.length_zip, List.length_zip]
  omega

section conversion
variable {α : Type} [Zero α] [One α] [Add α] [Sub α] [Mul α] [Div α]
  [LT α] [DecidableLT α] [BEq α] [NatCast α] [FloatLike α]

theorem jshapeL : (l : List (JState α)) → JState.ShapeOKL l →
    Raw.ShapeL (JState.toRawL l) ∧ (JState.toRawL l).length = l.length := by
  intro l _
  rw [CliP.JState.toRawL_eq_map, List.length_map]
  exact ⟨(CliP.shapeL_iff _).2 (List.forall_mem_map.2 fun s _ => CliP.jstate_shape s), rfl⟩

theorem eshapeL (gi : GlobalInfo α) : (l : List (Efg α)) → Efg.ShapeOKL l → ∀ cum rs,
    Efg.toRawL gi l cum = .ok rs → Raw.ShapeL rs ∧ rs.length = l.length := by
  intro l _ cum rs h
  exact ⟨(CliP.shapeL_iff rs).2 (CliP.toRawL_shape h), (CliP.toRawL_ok h).length_eq.symm⟩

/-- the checks of `get_global_info` after the tables are built, in the order the code makes them -/
theorem gambitRaw_eq (numName : Nat → Nat) (f : EfgFile α) (hp : f.players = 2)
    (t : Tables α) (ht : Tables.run ({} : Tables α) f.root.visits = .ok t) :
    gambitRaw numName f =
      match t.one.resolve numName with
      | .error e => .error e
      | .ok n1 =>
        match t.two.resolve numName with
        | .error e => .error e
        | .ok n2 =>
          match Efg.leaves t.outcomes f.root (0, 0) with
          | .error e => .error e
          | .ok ls =>
            if notConstantSum ls then .error .notConstantSum else
            match Efg.toRaw ⟨n1, n2, t.outcomes.map (fun e => (e.1, e.2.1)), constantSum ls⟩
                f.root 0 with
            | .error e => .error e
            | .ok raw => .ok (raw, constantSum ls) := by
  unfold gambitRaw getGlobalInfo
  simp only [hp, ht, ne_eq, not_true_eq_false, if_false]
  rcases h1 : t.one.resolve numName with e | n1
  · simp
  · rcases h2 : t.two.resolve numName with e | n2
    · simp
    · rcases h3 : Efg.leaves t.outcomes f.root (0, 0) with e | ls
      · simp
      · by_cases h4 : notConstantSum ls = true
        · simp [h4]
        · simp only [h4]
          rcases h5 : Efg.toRaw ⟨n1, n2, t.outcomes.map (fun e => (e.1, e.2.1)), constantSum ls⟩
              f.root 0 with e | raw
          · simp [h5]
          · simp [h5]

theorem resolve_dup (numName : Nat → Nat) (p : PNames) (h : hasDupName p.given = true) :
    p.resolve numName = .error .duplicateInfosetName := by
  simp [PNames.resolve, h]

theorem resolve_error (numName : Nat → Nat) (p : PNames) (e : CliError)
    (h : p.resolve numName = .error e) : e = .duplicateInfosetName ∨ e = .numberNameClash := by
  unfold PNames.resolve at h
  split at h
  · cases h; exact Or.inl rfl
  · simp only at h
    split at h
    · cases h; exact Or.inr rfl
    · cases h

end conversion
end Cfr.Rej
