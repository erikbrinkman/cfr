import CfrVerif.Model.Cli
import CfrVerif.Proofs.Basic
import CfrVerif.Proofs.RealInst
/-!
# `Model/Cli.lean` at ordered fields

Examples only: the command-line model, written against the core notation classes, instantiates at
an ordered field (generic, `ℚ` by evaluation, `ℝ` with the transcendental functions), and the
Gambit conversion is evaluated on tiny files (fixtures `demoFile`, `demoNumName`).
-/
namespace Cfr

/-! ## the whole program type-checks at an ordered field -/

section
variable {α : Type} [Field α] [LinearOrder α] [IsStrictOrderedRing α] [Transc α]

example : (Nat → Nat) → EfgFile α → Except CliError (Raw α × α) := gambitRaw
example : (Nat → Nat) → EfgFile α → Except CliError (Game α × α) := gambitFromAst
example : JState α → Except CliError (Game α × α) := jsonFromState
example : (Nat → Nat) → InputFormat → InputKind → Parsed α → Except CliError (Game α × α) := loadGame
example : Game α → α → α → Strat α → Strat α → Except CliError (CliOut α) := report
example : Env → Sched α → DrawFn α → (Nat → Nat) → CliOpts α → InputFormat → InputKind → Parsed α →
    Except CliError (CliOut α) := cliMain
end

noncomputable example : Env → Sched ℝ → DrawFn ℝ → (Nat → Nat) → CliOpts ℝ → InputFormat →
    InputKind → Parsed ℝ → Except CliError (CliOut ℝ) := cliMain

/-! ## evaluation at `ℚ` -/

mutual
/-- the terminal payoffs of a raw tree, left to right -/
def Raw.pays {α} : Raw α → List α
  | .term p => [p]
  | .chance _ _ ks => Raw.paysL ks
  | .player _ _ _ ks => Raw.paysL ks
def Raw.paysL {α} : List (Raw α) → List α
  | [] => []
  | k :: ks => Raw.pays k ++ Raw.paysL ks
end

mutual
/-- the labels of a raw tree in pre-order: `(player, infoset, actions)` -/
def Raw.shape {α} : Raw α → List (Nat × Nat × List Nat)
  | .term _ => []
  | .chance i _ ks => (0, i.getD 0, []) :: Raw.shapeL ks
  | .player one i as ks => ((if one then 1 else 2), i, as) :: Raw.shapeL ks
def Raw.shapeL {α} : List (Raw α) → List (Nat × Nat × List Nat)
  | [] => []
  | k :: ks => Raw.shape k ++ Raw.shapeL ks
end

/-- offset and terminal payoffs of the converted game, or the error -/
def convSummary (numName : Nat → Nat) (f : EfgFile ℚ) : Except CliError (ℚ × List ℚ) :=
  match gambitRaw numName f with
  | .error e => .error e
  | .ok (raw, sum) => .ok (sum, raw.pays)

def okOf {ε β : Type} : Except ε β → Option β | .ok b => some b | .error _ => none
def errOf {ε β : Type} : Except ε β → Option ε | .ok _ => none | .error e => some e

/-- the crate's own test `EFG 2 R "" { "" "" } t "" 2 { 1 1 }` : the offset is `1`, the zero-sum
payoff `0` -/
example : okOf (convSummary id ⟨2, .term 2 [1, 1]⟩) = some (1, [0]) := by decide +kernel

/-- three players -/
example : errOf (convSummary id ⟨3, .term 2 [1, 1, 1]⟩) = some .playerCount := by decide +kernel

/-- A constant-sum (10) file.  Strings and their labels (byte order):
`"1"`=0 `"2"`=1 `"L"`=2 `"R"`=3 `"l"`=4 `"r"`=5 `"x"`=6 `"y"`=7 `"z"`=8.
```
p "" 1 1 "x" { "R" "L" } 0
p "" 2 2 "z" { "l" "r" } 3            -- outcome 3 by number only
t "" 2 "b" { 2 3 }
t "" 4 "c" { 6 -1 }
p "" 2 1 "y" { "l" } 3 "bonus" { 2 3 }
t "" 1 "a" { 1 4 }
```
The actions of the root are listed as `R`, `L` and come out sorted. -/
def demoFile : EfgFile ℚ :=
  ⟨2, .player 1 1 (some 6) [3, 2]
    [ .player 2 2 (some 8) [4, 5] [.term 2 [2, 3], .term 4 [6, -1]] 3 none,
      .player 2 1 (some 7) [4] [.term 1 [1, 4]] 3 (some [2, 3]) ] 0 none⟩

def demoNumName : Nat → Nat | 1 => 0 | 2 => 1 | n => 100 + n

/-- pair sums are all `10`, so the offset is `5`; player one's payoffs `3, 4, 8` (interior outcome
`3` pays `2` on every path) become `-2, -1, 3`, with `L` before `R` -/
example : okOf (convSummary demoNumName demoFile) = some (5, [-2, -1, 3]) := by decide +kernel

/-- infoset labels are the given names, actions are sorted -/
example : (okOf (gambitRaw demoNumName demoFile)).map (fun r => r.1.shape) =
    some [(1, 6, [2, 3]), (2, 7, [4]), (2, 8, [4, 5])] := by decide +kernel

/-- the pop order of the two loops of `get_global_info`: last child first -/
example : (demoFile.root.visits.map fun
    | .term oc _ => oc | .chance oc _ => 100 + oc | .player _ i _ _ _ => 200 + i) =
    [201, 201, 1, 202, 4, 2] := by decide +kernel

/-- a unnamed infoset `2` of player two next to an infoset named `"2"` : the documented clash -/
example : errOf (convSummary demoNumName
    ⟨2, .player 2 1 (some 1) [4, 5]
      [.player 2 2 none [4, 5] [.term 1 [0, 0], .term 1 [0, 0]] 0 none, .term 1 [0, 0]] 0 none⟩)
    = some .numberNameClash := by decide +kernel

/-- two infosets of one player with one name -/
example : errOf (convSummary demoNumName
    ⟨2, .player 1 1 (some 6) [4, 5]
      [.player 1 2 (some 6) [4, 5] [.term 1 [0, 0], .term 1 [0, 0]] 0 none, .term 1 [0, 0]] 0 none⟩)
    = some .duplicateInfosetName := by decide +kernel

/-- pair sums `0` and `2` over a payoff range of `1` for player one: not constant sum -/
example : errOf (convSummary id
    ⟨2, .chance 1 [0, 1] [1/2, 1/2] [.term 1 [0, 0], .term 2 [1, 1]] 0 none⟩)
    = some .notConstantSum := by decide +kernel

/-- … and inside the 0.1 % tolerance: pair sums `0` and `1/1000` over a range of `1` -/
example : okOf (convSummary id
    ⟨2, .chance 1 [0, 1] [1/2, 1/2] [.term 1 [0, 0], .term 2 [1, -999/1000]] 0 none⟩)
    = some (1/4000, [-1/4000, 3999/4000]) := by decide +kernel

/-- the JSON DSL: map entries come out in key order -/
example : (JState.toRaw (α := ℚ) (.player true 7 [5, 3] [.terminal 1, .terminal 2])).shape
    = [(1, 7, [3, 5])] ∧
    (JState.toRaw (α := ℚ) (.player true 7 [5, 3] [.terminal 1, .terminal 2])).pays = [2, 1] := by
  decide +kernel

end Cfr
