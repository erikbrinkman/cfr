import CfrVerif.Proofs.Trajectory
import CfrVerif.Proofs.RegretDecomp
import CfrVerif.Proofs.TablesOK
import CfrVerif.Props.C01
/-!
# Assembly of the C02 argument: cumulative regrets of the vanilla run, the average strategy,
and the zero-sum sandwich

1. `Inv g σs s` : the state `s` of an unsampled vanilla run that has read the profiles `σs`
   holds, in every accumulator cell, the sum over `σs` of the instantaneous counterfactual
   regrets (`regAdd`) / reach-weighted strategy masses (`stratAdd`); `vanillaIter_step` is one
   iteration, `solve_final` the whole loop (any threshold).
2. The argument from such sums to the true regret, for iterates that enter with weights (section
   `Weighted`; the discounted presets use it with `(k+1)^γ`):
   `wregret_side` : for every valid own strategy `τ` the weighted gain of `τ` over the iterates is
   at most the sum of the clamped maximal weighted regrets;
   `wavg_side` : the returned average strategy is realisation-equivalent to the weighted mixture
   of the iterates;
   `wreduction` : the zero-sum sandwich.
3. `bound_dominates` : the case of all weights `1`.
-/
set_option linter.unusedSectionVars false
set_option linter.unusedVariables false
namespace Cfr
noncomputable section

/-- the profile a traversal of the state `s` reads -/
def SolveSt.profile (s : SolveSt ℝ) : Profile ℝ := fun one => (s.get one).map (fun x => x.strat)

theorem ctxOf_profile (g : Game ℝ) (s : SolveSt ℝ) (sampled : Bool) (draw : DrawFn ℝ) (pass : ℕ) :
    CtxOf ⟨g.chance, sampled, s.strat, draw, pass⟩ s.profile := by
  intro one i
  simp only [SolveSt.strat, SolveSt.profile, Strat.at, List.getD_eq_getElem?_getD,
    List.getElem?_map]
  cases (s.get one)[i]? <;> rfl

theorem profile_at (s : SolveSt ℝ) (me : Bool) (I : ℕ) (x : InfoSt ℝ)
    (hx : (s.get me)[I]? = some x) : (s.profile me).at I = x.strat := by
  simp [SolveSt.profile, Strat.at, List.getD_eq_getElem?_getD, List.getElem?_map, hx]

theorem stOK_profile (g : Game ℝ) (s : SolveSt ℝ) (h : StOK g s) : ProfileOK g s.profile :=
  fun me => tableOK_profile (h me)

theorem stOK_get (g : Game ℝ) (s : SolveSt ℝ) (h : StOK g s) (me : Bool) (I : ℕ) (x : InfoSt ℝ)
    (hx : (s.get me)[I]? = some x) :
    I < (g.infos me).length ∧ InfoOK (nActsOf g me I) x := by
  obtain ⟨e, he, hok⟩ := (tableOK_get (h me)).2 I x hx
  refine ⟨(List.getElem?_eq_some_iff.mp he).1, ?_⟩
  simpa [nActsOf, List.getD_eq_getElem?_getD, he] using hok

/-- the game as `me` sees it when the profile `σ` is played -/
abbrev viewOf (g : Game ℝ) (σ : Profile ℝ) (me : Bool) : V ℝ := view g.chance (σ (!me)) me g.root

theorem view_ok (g : Game ℝ) (hg : GameWF g) (me : Bool) (σo : Strat ℝ) (h1 : IsStrat σo)
    (h2 : FitsGame g (!me) σo) :
    VOK (g.infos me).length (nActsOf g me) (view g.chance σo me g.root) :=
  view_VOK g (fun ps hps p hp => ((hg.chancePos ps hps).1 p hp).le) me σo h1 h2 g.root hg.nodes

theorem viewOf_ok (g : Game ℝ) (hg : GameWF g) (σ : Profile ℝ) (hσ : ProfileOK g σ) (me : Bool) :
    VOK (g.infos me).length (nActsOf g me) (viewOf g σ me) :=
  view_ok g hg me _ (hσ (!me)).1 (hσ (!me)).2

theorem profile_stratOK (g : Game ℝ) (σ : Profile ℝ) (hσ : ProfileOK g σ) (me : Bool) :
    StratOK (g.infos me).length (nActsOf g me) (σ me) :=
  (stratOK_iff g me (σ me)).mpr (hσ me)

/-- after reading the profiles `σs` (latest first) every accumulator cell holds the sum of the
textbook quantities of those profiles -/
structure Inv (g : Game ℝ) (σs : List (Profile ℝ)) (s : SolveSt ℝ) : Prop where
  ok : StOK g s
  profs : ∀ σ ∈ σs, ProfileOK g σ
  reg : ∀ (me : Bool) (I : ℕ) (x : InfoSt ℝ), (s.get me)[I]? = some x → ∀ a, a < x.cumRegret.length →
    x.cumRegret.getD a 0 = (σs.map (fun σ => regAdd (σ me) I a (viewOf g σ me) 1)).sum
  str : ∀ (me : Bool) (I : ℕ) (x : InfoSt ℝ), (s.get me)[I]? = some x → ∀ a, a < x.cumStrat.length →
    x.cumStrat.getD a 0 = (σs.map (fun σ => stratAdd (σ me) I a (viewOf g σ me) 1)).sum

theorem inv_init (g : Game ℝ) (hg : GameWF g) : Inv g [] (SolveSt.init g) := by
  refine ⟨stOK_init g hg, by simp, fun me I x hx a _ => ?_, fun me I x hx a _ => ?_⟩ <;>
    (obtain ⟨n, rfl⟩ := init_get g me I x hx
     simp only [InfoSt.new, List.getD_eq_getElem?_getD, List.getElem?_replicate, List.map_nil,
       List.sum_nil]
     split <;> rfl)

theorem vanillaIter_vanilla_eq (g : Game ℝ) (draw : DrawFn ℝ) (it : ℕ) (s : SolveSt ℝ)
    (log : List (DrawRec ℝ)) :
    vanillaIter g false RegretParams.vanilla draw it s log =
      (let r := vrec ⟨g.chance, false, s.strat, draw, it - 1⟩ g.root 1 1 1 { log := log }
       let s' := s.applyEffs r.2.1
       (⟨(s'.get true).map advV, (s'.get false).map advV⟩,
        boundSum it (s'.get true), boundSum it (s'.get false), r.2.2.log)) := by
  simp only [vanillaIter, advanceAll_vanilla, zero_add]
  rfl

theorem get_mk (a b : List (InfoSt ℝ)) (me : Bool) :
    (SolveSt.mk a b).get me = if me then a else b := rfl

theorem applyEffs_advV_cell (s : SolveSt ℝ) (es : List (Eff ℝ)) (me : Bool) (I : ℕ) (x'' : InfoSt ℝ)
    (h : ((SolveSt.mk (((s.applyEffs es).get true).map advV)
      (((s.applyEffs es).get false).map advV)).get me)[I]? = some x'') :
    ∃ x, (s.get me)[I]? = some x ∧
      x''.cumRegret.length = x.cumRegret.length ∧ x''.cumStrat.length = x.cumStrat.length ∧
      (∀ a, a < x.cumRegret.length →
        x''.cumRegret.getD a 0 = x.cumRegret.getD a 0 + effSum es me I Slot.regret a) ∧
      (∀ a, a < x.cumStrat.length →
        x''.cumStrat.getD a 0 = x.cumStrat.getD a 0 + effSum es me I Slot.strat a) := by
  obtain ⟨hl, hc⟩ := applyEffs_cell s es me
  have h : (((s.applyEffs es).get me).map advV)[I]? = some x'' := by cases me <;> exact h
  rw [List.getElem?_map] at h
  obtain ⟨x', hx', rfl⟩ := Option.map_eq_some_iff.mp h
  have hI : I < (s.get me).length := by
    rw [← hl]; exact (List.getElem?_eq_some_iff.mp hx').1
  obtain ⟨x2, g2, _, r2, t2, cr2, cs2⟩ := hc I _ (List.getElem?_eq_getElem hI)
  rw [hx'] at g2
  obtain rfl : x' = x2 := by simpa using g2
  exact ⟨_, List.getElem?_eq_getElem hI, r2, t2, cr2, cs2⟩

/-- **one iteration**: the invariant is extended by the profile the iteration read, and the
reported bounds are the sums of the per-infoset bounds of the new cumulative regrets -/
theorem vanillaIter_step (g : Game ℝ) (hg : GameWF g) (draw : DrawFn ℝ) (it : ℕ) (s : SolveSt ℝ)
    (log : List (DrawRec ℝ)) (σs : List (Profile ℝ)) (h : Inv g σs s) :
    Inv g (s.profile :: σs) (vanillaIter g false RegretParams.vanilla draw it s log).1 ∧
    (vanillaIter g false RegretParams.vanilla draw it s log).2.1
      = boundSum it ((vanillaIter g false RegretParams.vanilla draw it s log).1.get true) ∧
    (vanillaIter g false RegretParams.vanilla draw it s log).2.2.1
      = boundSum it ((vanillaIter g false RegretParams.vanilla draw it s log).1.get false) := by
  have hok' := (vanillaIter_ok g false RegretParams.vanilla (le_refl (0 : ℝ)) draw it s log h.ok).1
  have hσ : ProfileOK g s.profile := stOK_profile g s h.ok
  rw [vanillaIter_vanilla_eq] at hok' ⊢
  simp only [] at hok' ⊢
  have hctx := ctxOf_profile g s false draw (it - 1)
  generalize hcd : (⟨g.chance, false, s.strat, draw, it - 1⟩ : VCtx ℝ) = c at hctx hok' ⊢
  have hch : c.ch = g.chance := by rw [← hcd]
  have hsm : c.sampled = false := by rw [← hcd]
  refine ⟨⟨hok', ?_, ?_, ?_⟩, ?_, ?_⟩
  · intro σ hm
    rcases List.mem_cons.mp hm with rfl | hm
    · exact hσ
    · exact h.profs σ hm
  · intro me I x'' hx'' a ha
    obtain ⟨x, hx, r2, _, cr2, _⟩ := applyEffs_advV_cell s _ me I x'' hx''
    obtain ⟨hI, hinfo⟩ := stOK_get g s h.ok me I x hx
    rw [r2] at ha
    have hat := profile_at s me I x hx
    have hreg := vrec_full_regret c hsm s.profile hctx me g.root 1 1 1 { log := log } I a
      (by rw [hat, hinfo.lenσ, ← hinfo.lenR]; exact ha)
      (by
        rw [hch]
        exact VOK.ownFits _ _ _ (profile_stratOK g _ hσ me).2.1 _ (viewOf_ok g hg _ hσ me))
    rw [cr2 a ha, hreg, h.reg me I x hx a ha, hch, List.map_cons, List.sum_cons, ite_self, mul_one,
      add_comm]
  · intro me I x'' hx'' a ha
    obtain ⟨x, hx, _, t2, _, cs2⟩ := applyEffs_advV_cell s _ me I x'' hx''
    rw [t2] at ha
    have hstr := vrec_full_strat c hsm s.profile hctx me g.root 1 1 1 { log := log } I a
      (by
        rw [hch]
        exact VOK.natFits _ _ _ (viewOf_ok g hg _ hσ me))
    rw [cs2 a ha, hstr, h.str me I x hx a ha, hch, List.map_cons, List.sum_cons, ite_self, add_comm]
  · exact (boundSum_advV _ _).symm
  · exact (boundSum_advV _ _).symm

/-- what a finished run returns: the averages and the bounds of a state that satisfies the
invariant for a non-empty list of profiles -/
def Final (g : Game ℝ) (o : SolveOut ℝ) : Prop :=
  ∃ (σs : List (Profile ℝ)) (s : SolveSt ℝ), σs ≠ [] ∧ Inv g σs s ∧
    o.regOne = .fin (boundSum σs.length (s.get true)) ∧
    o.regTwo = .fin (boundSum σs.length (s.get false)) ∧
    o.stratOne = s.avg true ∧ o.stratTwo = s.avg false

theorem solve_final (g : Game ℝ) (hg : GameWF g) (draw : DrawFn ℝ) (T : ℕ) (hT : 0 < T)
    (thr : Option (Ext ℝ)) :
    Final g (solveVanillaSingle g false RegretParams.vanilla draw T thr) := by
  -- before iteration `it` the state satisfies the invariant for the `it - 1` profiles played, and
  -- the bounds are those of the state unless no iteration has been made
  obtain ⟨k, s, r1, r2, log, ⟨σs, hlen, hinv, hr⟩, -, hk0, ho⟩ := solveLoop_induct
    (vanillaIter g false RegretParams.vanilla draw) thr
    (fun it s r1 r2 _ => ∃ σs : List (Profile ℝ), σs.length + 1 = it ∧ Inv g σs s ∧
      (σs ≠ [] → r1 = .fin (boundSum σs.length (s.get true)) ∧
        r2 = .fin (boundSum σs.length (s.get false))))
    (fun it s _ _ log ⟨σs, hlen, hinv, _⟩ => by
      subst hlen
      obtain ⟨hinv', b1, b2⟩ := vanillaIter_step g hg draw _ s log σs hinv
      exact ⟨_ :: σs, rfl, hinv', fun _ => ⟨congrArg Ext.fin b1, congrArg Ext.fin b2⟩⟩)
    T 1 (SolveSt.init g) .posInf .posInf [] ⟨[], rfl, inv_init g hg, fun h => absurd rfl h⟩
  have hne : σs ≠ [] := by
    rintro rfl
    exact hT.ne' (hk0 (Nat.add_left_cancel hlen).symm)
  unfold solveVanillaSingle solveWith
  rw [ho]
  exact ⟨σs, s, hne, hinv, (hr hne).1, (hr hne).2, rfl, rfl⟩

theorem lmsum_add {β : Type} (l : List β) (f g : β → ℝ) :
    (l.map (fun x => f x + g x)).sum = (l.map f).sum + (l.map g).sum := List.sum_map_add

theorem lmsum_neg {β : Type} (l : List β) (f : β → ℝ) :
    (l.map (fun x => - f x)).sum = - (l.map f).sum := by
  simpa only [neg_one_mul] using List.sum_map_mul_left (l := l) (r := (-1 : ℝ)) (f := f)

theorem lmsum_sub {β : Type} (l : List β) (f g : β → ℝ) :
    (l.map (fun x => f x - g x)).sum = (l.map f).sum - (l.map g).sum := by
  simp only [sub_eq_add_neg, lmsum_add, lmsum_neg]

theorem lmsum_congr {β : Type} (l : List β) (f g : β → ℝ) (h : ∀ x ∈ l, f x = g x) :
    (l.map f).sum = (l.map g).sum := by
  rw [List.map_congr_left h]

theorem lmsum_wsum {β : Type} (N : ℕ) (nActs : ℕ → ℕ) (hist : ℕ → Hist) (τ : Strat ℝ)
    (l : List β) (F : β → ℕ → ℕ → ℝ) :
    (l.map (fun x => wsum N nActs hist τ (F x))).sum
      = wsum N nActs hist τ (fun I a => (l.map (fun x => F x I a)).sum) := by
  induction l with
  | nil => simp [wsum_zero]
  | cons x l ih =>
    simp only [List.map_cons, List.sum_cons, ih]
    rw [← wsum_add]

theorem lmsum_range {β : Type} (n : ℕ) (l : List β) (F : β → ℕ → ℝ) :
    ∑ a ∈ Finset.range n, (l.map (fun x => F x a)).sum
      = (l.map (fun x => ∑ a ∈ Finset.range n, F x a)).sum := by
  induction l with
  | nil => simp
  | cons x l ih =>
    simp only [List.map_cons, List.sum_cons, Finset.sum_add_distrib, ih]

theorem wsum_congr (N : ℕ) (nActs : ℕ → ℕ) (hist : ℕ → Hist) (τ : Strat ℝ) (f g : ℕ → ℕ → ℝ)
    (h : ∀ I, I < N → ∀ a, a < nActs I → f I a = g I a) :
    wsum N nActs hist τ f = wsum N nActs hist τ g := by
  unfold wsum
  apply Finset.sum_congr rfl
  intro I hI
  congr 1
  apply Finset.sum_congr rfl
  intro a ha
  rw [h I (Finset.mem_range.mp hI) a (Finset.mem_range.mp ha)]

theorem wsum_mul_left (N : ℕ) (nActs : ℕ → ℕ) (hist : ℕ → Hist) (τ : Strat ℝ) (c : ℝ)
    (f : ℕ → ℕ → ℝ) :
    c * wsum N nActs hist τ f = wsum N nActs hist τ (fun I a => c * f I a) := by
  unfold wsum
  simp only [Finset.mul_sum]
  apply Finset.sum_congr rfl
  intro I _
  apply Finset.sum_congr rfl
  intro a _
  ring

theorem evV_view_swap (ch : List (List ℝ)) (x τ : Strat ℝ) (me : Bool) (n : Node ℝ) :
    evV x (view ch τ (!me) n) = - evV τ (view ch x me n) := by
  cases me
  · rw [evV_view_neg ch x τ n]; simp
  · exact evV_view_neg ch τ x n

theorem avgStrat_getD (cum : List ℝ) (a : ℕ) (h : cum.sum ≠ 0) :
    (avgStrat cum).getD a 0 = cum.getD a 0 / cum.sum := by
  rw [avgStrat, lsum_eq_sum, if_neg (by simpa using h), List.getD_eq_getElem?_getD,
    List.getD_eq_getElem?_getD, List.getElem?_map]
  cases cum[a]? with
  | none => exact (zero_div _).symm
  | some v => rfl

/-- the normalised accumulator, entry by entry: if `cum[b] = c · A b` for all `b`, with `c ≠ 0`,
then `avgStrat cum` is `A` divided by its sum (and anything where that sum vanishes) -/
theorem avgStrat_getD_mul (cum : List ℝ) (h0 : ∀ v ∈ cum, 0 ≤ v) (c : ℝ) (hc : c ≠ 0) (A : ℕ → ℝ)
    (key : ∀ b, b < cum.length → cum.getD b 0 = c * A b) (a : ℕ) (ha : a < cum.length) :
    (avgStrat cum).getD a 0 * ∑ b ∈ Finset.range cum.length, A b = A a := by
  have hS : cum.sum = c * ∑ b ∈ Finset.range cum.length, A b := by
    rw [← sum_range_getD, Finset.mul_sum]
    exact Finset.sum_congr rfl fun b hb => key b (Finset.mem_range.mp hb)
  by_cases hz : cum.sum = 0
  · -- no mass at all: both sides vanish
    have hmem : cum.getD a 0 ∈ cum := by
      rw [List.getD_eq_getElem?_getD, List.getElem?_eq_getElem ha]
      exact List.getElem_mem ha
    have h2 : c * A a = 0 := (key a ha).symm.trans
      (le_antisymm ((List.single_le_sum h0 _ hmem).trans hz.le) (h0 _ hmem))
    rw [(mul_eq_zero.mp (hS.symm.trans hz)).resolve_left hc, mul_zero,
      (mul_eq_zero.mp h2).resolve_left hc]
  · have hW : ∑ b ∈ Finset.range cum.length, A b ≠ 0 := fun h => hz (by rw [hS, h, mul_zero])
    rw [avgStrat_getD _ _ hz, key a ha, hS, mul_div_mul_left _ _ hc, div_mul_cancel₀ _ hW]

/-! ## the weighted argument

`l` lists the iterations, `w k` is the weight and `σ k` the profile of iteration `k`.  `R me I`
holds the weighted sums of the instantaneous counterfactual regrets of infoset `I` of `me`, and
the strategy accumulators of the state `s` hold, up to the common factor `d`, the weighted sums of
the reach-weighted strategies.  With vanilla parameters all weights are `1`, `R` is the table of
cumulative regrets and `d = 1`; with a discounting preset `w k = (k+1)^γ`. -/

section Weighted
variable {β : Type} (g : Game ℝ) (hg : GameWF g) (l : List β) (w : β → ℝ) (σ : β → Profile ℝ)
  (hσ : ∀ k ∈ l, ProfileOK g (σ k))
  (R : Bool → ℕ → List ℝ) (hR : ∀ me I, I < (g.infos me).length → (R me I).length = nActsOf g me I)
  (hreg : ∀ me I, I < (g.infos me).length → ∀ a, a < nActsOf g me I → (R me I).getD a 0
    = (l.map fun k => w k * regAdd (σ k me) I a (viewOf g (σ k) me) 1).sum)
  (s : SolveSt ℝ) (hs : StOK g s) (d : ℝ) (hd : d ≠ 0)
  (hstr : ∀ q I x, (s.get q)[I]? = some x → ∀ b, b < nActsOf g q I → x.cumStrat.getD b 0 * d
    = (l.map fun k => w k * stratAdd (σ k q) I b (viewOf g (σ k) q) 1).sum)

include hg hσ hR hreg in
/-- **regret side**: what a valid own strategy `τ` gains over the iterates, weighted, is at most
the sum of the clamped maxima of the weighted regrets -/
theorem wregret_side (me : Bool) (τ : Strat ℝ) (hτ1 : IsStrat τ) (hτ2 : FitsGame g me τ) :
    (l.map fun k => w k * evV τ (viewOf g (σ k) me)).sum
      - (l.map fun k => w k * evV (σ k me) (viewOf g (σ k) me)).sum
      ≤ ∑ I ∈ Finset.range (g.infos me).length, fmax (maxD 0 (R me I)) 0 := by
  obtain ⟨hist, hpr, _⟩ := hg.recall me
  have hτ : StratOK (g.infos me).length (nActsOf g me) τ := (stratOK_iff g me τ).mpr ⟨hτ1, hτ2⟩
  -- performance difference regrouped by infoset, iterate by iterate
  have e1 : ∀ k ∈ l, w k * evV τ (viewOf g (σ k) me) - w k * evV (σ k me) (viewOf g (σ k) me)
      = wsum (g.infos me).length (nActsOf g me) hist τ
          (fun I a => w k * regAdd (σ k me) I a (viewOf g (σ k) me) 1) := by
    intro k hk
    rw [← wsum_mul_left, ← mul_sub]
    exact congrArg _ (perf_decomp _ _ hist τ (σ k me) hτ _ (viewOf_ok g hg _ (hσ k hk) me)
      (view_PRV g.chance _ me hist g.root [] hpr))
  -- exchange the sums: the entries of `R` appear
  rw [← lmsum_sub, lmsum_congr _ _ _ e1, lmsum_wsum,
    wsum_congr _ _ _ _ _ (fun I a => (R me I).getD a 0) fun I hI a ha => (hreg me I hI a ha).symm]
  exact wsum_le_clamped _ _ hist τ hτ _ (hR me)

include hg hσ hs hd hstr in
/-- **the returned average strategy is the weighted reach-weighted average of the iterates** at
every infoset that occurs in the tree -/
theorem wavg_at (q : Bool) (hist : ℕ → Hist) (hpr : PR q hist [] g.root) (τ : Strat ℝ) (I : ℕ)
    (hI : 0 < cntInfo I (view g.chance τ q g.root)) :
    PG.WAvgAt (g.infos q).length (nActsOf g q) hist (l.map fun k => (w k, σ k q)) (s.avg q) I := by
  have hlen := stOK_length g s hs q
  rcases lt_or_ge I (g.infos q).length with hIN | hge
  · obtain ⟨x, hx⟩ : ∃ x, (s.get q)[I]? = some x :=
      ⟨_, List.getElem?_eq_getElem (hlen ▸ hIN : I < (s.get q).length)⟩
    obtain ⟨_, hinfo⟩ := stOK_get g s hs q I x hx
    have hat : Strat.at (s.avg q) I = avgStrat x.cumStrat := by
      simp [SolveSt.avg, Strat.at, List.getD_eq_getElem?_getD, List.getElem?_map, hx]
    rw [PG.WAvgAt, hat]
    refine ⟨by rw [(avgStrat_isDist x.cumStrat (hinfo.lenS ▸ hinfo.pos) hinfo.nonneg).2,
      hinfo.lenS], fun a ha => ?_⟩
    -- the accumulator in closed form: `cntInfo` nodes of `I`, at each of which every iterate
    -- adds its reach times its strategy
    have key : ∀ b, b < x.cumStrat.length → x.cumStrat.getD b 0
        = (cntInfo I (view g.chance τ q g.root) / d) *
          PG.wts (l.map fun k => (w k, σ k q)) (fun ρ => histW ρ (hist I) * (ρ.at I).getD b 0) := by
      intro b hb
      rw [div_mul_eq_mul_div, eq_div_iff hd, hstr q I x hx b (hinfo.lenS ▸ hb), PG.wts_map,
        ← List.sum_map_mul_left]
      apply lmsum_congr
      intro k hk
      have := stratAdd_eq (g.infos q).length (nActsOf g q) hist (σ k q) I b (viewOf g (σ k) q) []
        (viewOf_ok g hg _ (hσ k hk) q) (view_PRV g.chance _ q hist g.root [] hpr)
      rw [histW_nil] at this
      rw [this, cntInfo_view g.chance (σ k (!q)) τ q I g.root]
      ring
    -- the iterates are distributions at `I`
    have hsumA : ∑ b ∈ Finset.range x.cumStrat.length,
        PG.wts (l.map fun k => (w k, σ k q)) (fun ρ => histW ρ (hist I) * (ρ.at I).getD b 0)
        = PG.wts (l.map fun k => (w k, σ k q)) (fun ρ => histW ρ (hist I)) := by
      simp only [PG.wts_map]
      rw [lmsum_range]
      apply lmsum_congr
      intro k hk
      have hst := profile_stratOK g _ (hσ k hk) q
      rw [← Finset.mul_sum, ← Finset.mul_sum, hinfo.lenS, ← hst.2.1 I hIN, sum_range_getD,
        (hst.2.2 _ (at_mem (hst.1.symm ▸ hIN))).2, mul_one]
    rw [← hsumA]
    exact avgStrat_getD_mul x.cumStrat hinfo.nonneg _
      (div_ne_zero (Nat.cast_pos.mpr hI).ne' hd) _ key a (hinfo.lenS.symm ▸ ha)
  · have hat : Strat.at (s.avg q) I = [] := by
      simp [SolveSt.avg, Strat.at, List.getD_eq_getElem?_getD, hlen, hge]
    have hn : nActsOf g q I = 0 := by
      simp [nActsOf, List.getD_eq_getElem?_getD, hge]
      rfl
    rw [PG.WAvgAt, hat, hn]
    exact ⟨rfl, fun a ha => absurd ha (Nat.not_lt_zero a)⟩

include hg hσ hs hd hstr in
/-- **average side**: against the returned average strategy of the opponent every strategy `τ`
earns the weighted mean of what it earns against the opponent's iterates -/
theorem wavg_side (me : Bool) (τ : Strat ℝ) (hτ1 : IsStrat τ) (hτ2 : FitsGame g me τ) :
    (l.map fun k => w k * evV τ (viewOf g (σ k) me)).sum
      = (l.map w).sum * evV τ (view g.chance (s.avg (!me)) me g.root) := by
  obtain ⟨hist, hpr, _⟩ := hg.recall (!me)
  have hτ2' : FitsGame g (!(!me)) τ := by rwa [Bool.not_not]
  have := PG.wavg_realisation _ _ hist (l.map fun k => (w k, σ k (!me))) (s.avg (!me)) _
    (view_ok g hg (!me) τ hτ1 hτ2') (view_PRV g.chance τ (!me) hist g.root [] hpr)
    (fun I hI => wavg_at g hg l w σ hσ s hs d hd hstr (!me) hist hpr τ I hI)
  rw [PG.wts_map, PG.wts_map] at this
  have e : (l.map fun k => w k * evV (σ k (!me)) (view g.chance τ (!me) g.root)).sum
      = - (l.map fun k => w k * evV τ (viewOf g (σ k) me)).sum := by
    rw [← lmsum_neg]
    apply lmsum_congr
    intro k _
    rw [evV_view_swap g.chance (σ k (!me)) τ me g.root, mul_neg]
  simp only [mul_one] at this
  rw [e, evV_view_swap] at this
  linarith

include hg hσ hR hreg hs hd hstr in
/-- for each player: the total weight times the best-response value against the opponent's
returned average is at most the weighted sum of the iterates' values plus the clamped regrets -/
theorem wbr_le (me : Bool) :
    (l.map w).sum * optimalDeviations g me (s.avg (!me))
      ≤ (l.map fun k => w k * evV (σ k me) (viewOf g (σ k) me)).sum
        + ∑ I ∈ Finset.range (g.infos me).length, fmax (maxD 0 (R me I)) 0 := by
  have hσb : ProfileOK g s.avg := fun q => stOK_avg g s hs q
  obtain ⟨τ, t1, t2, e⟩ := (eval_best_response g hg s.avg hσb me).1
  rw [utility_deviate g hg s.avg hσb me τ t1 t2] at e
  have a2 := wregret_side g hg l w σ hσ R hR hreg me τ t1 t2
  rw [wavg_side g hg l w σ hσ s hs d hd hstr me τ t1 t2] at a2
  rw [e]
  exact sub_le_iff_le_add'.mp a2

/-- the zero-sum sandwich in numbers: `B` the best-response values against the returned averages,
`u` the value of the returned profile, `W` the total weight, `U` the weighted sum of the iterates'
values, `S` the regret sums -/
theorem sandwich (W B1 B2 u U S1 S2 : ℝ) (hW : 0 ≤ W) (b1 : W * B1 ≤ U + S1)
    (b2 : W * B2 ≤ -U + S2) (u1 : u ≤ B1) (u2 : -u ≤ B2) :
    max (max (B1 - u) 0) (max (B2 - -u) 0) * W ≤ S1 + S2 := by
  have k1 : (B1 - u) * W ≤ S1 + S2 := by linarith [mul_le_mul_of_nonneg_left u2 hW]
  have k2 : (B2 - -u) * W ≤ S1 + S2 := by linarith [mul_le_mul_of_nonneg_left u1 hW]
  have k0 : 0 * W ≤ S1 + S2 := by
    linarith [mul_le_mul_of_nonneg_left u1 hW, mul_le_mul_of_nonneg_left u2 hW]
  rw [max_mul_of_nonneg _ _ hW, max_mul_of_nonneg _ _ hW, max_mul_of_nonneg _ _ hW]
  exact max_le (max_le k1 k0) (max_le k2 k0)

include hg hσ hR hreg hs hd hstr in
/-- **the reduction**: the true regret of the returned profile times the total weight is at most
the sum of the clamped maximal weighted regrets of all infosets of both players -/
theorem wreduction (hW : 0 ≤ (l.map w).sum) :
    (getInfo g s.avg).regret * (l.map w).sum
      ≤ ∑ I ∈ Finset.range (g.infos true).length, fmax (maxD 0 (R true I)) 0
        + ∑ I ∈ Finset.range (g.infos false).length, fmax (maxD 0 (R false I)) 0 := by
  have hσb : ProfileOK g s.avg := fun q => stOK_avg g s hs q
  have b1 := wbr_le g hg l w σ hσ R hR hreg s hs d hd hstr true
  have b2 := wbr_le g hg l w σ hσ R hR hreg s hs d hd hstr false
  -- zero sum: player two's iterate values are the negatives of player one's
  have hU : (l.map fun k => w k * evV (σ k false) (viewOf g (σ k) false)).sum
      = - (l.map fun k => w k * evV (σ k true) (viewOf g (σ k) true)).sum := by
    rw [← lmsum_neg]
    apply lmsum_congr
    intro k _
    rw [← mul_neg]
    exact congrArg _ (evV_view_neg g.chance (σ k true) (σ k false) g.root)
  rw [hU] at b2
  have u2 := best_response_ge_utility g hg s.avg hσb false
  have hu : utility g s.avg false = - utility g s.avg true := by simp [utility]
  rw [hu] at u2
  rw [eval_total_regret, eval_regret, eval_regret, hu]
  exact sandwich _ _ _ _ _ _ _ hW b1 b2 (best_response_ge_utility g hg s.avg hσb true) u2

end Weighted

def crOf (xs : List (InfoSt ℝ)) (I : ℕ) : List ℝ := (xs.map (fun x => x.cumRegret)).getD I []

theorem crOf_get (xs : List (InfoSt ℝ)) (I : ℕ) (x : InfoSt ℝ) (hx : xs[I]? = some x) :
    crOf xs I = x.cumRegret := by
  simp [crOf, List.getD_eq_getElem?_getD, List.getElem?_map, hx]

def clampSum (xs : List (InfoSt ℝ)) : ℝ := (xs.map (fun x => fmax (maxD 0 x.cumRegret) 0)).sum

theorem boundSum_eq (it : ℕ) (xs : List (InfoSt ℝ)) :
    boundSum it xs = 2 / (it : ℝ) * clampSum xs := by
  unfold boundSum clampSum
  rw [← List.sum_map_mul_left]
  apply lmsum_congr
  intro x _
  simp only [cumRegretBound, two]
  ring

theorem clampSum_eq_range (xs : List (InfoSt ℝ)) :
    clampSum xs = ∑ I ∈ Finset.range xs.length, fmax (maxD 0 (crOf xs I)) 0 := by
  have := sum_range_map_getD ([] : List ℝ) (fun R => fmax (maxD 0 R) 0)
    (xs.map (fun x => x.cumRegret))
  simp only [List.length_map, List.map_map] at this
  unfold clampSum crOf
  rw [this]
  rfl

/-- **the bound dominates the true regret** of the returned profile -/
theorem bound_dominates (g : Game ℝ) (hg : GameWF g) (σs : List (Profile ℝ)) (s : SolveSt ℝ)
    (hne : σs ≠ []) (h : Inv g σs s) :
    (getInfo g s.avg).regret
      ≤ max (boundSum σs.length (s.get true)) (boundSum σs.length (s.get false)) := by
  have hT : (0 : ℝ) < (σs.length : ℝ) := Nat.cast_pos.mpr (List.length_pos_iff.mpr hne)
  have hcell : ∀ me I, I < (g.infos me).length →
      ∃ x, (s.get me)[I]? = some x ∧ InfoOK (nActsOf g me I) x := fun me I hI =>
    have hx := List.getElem?_eq_getElem (stOK_length g s h.ok me ▸ hI : I < (s.get me).length)
    ⟨_, hx, (stOK_get g s h.ok me I _ hx).2⟩
  -- the accumulators of `s` hold the plain sums over the profiles read
  have key := wreduction g hg σs (fun _ => 1) (fun σ => σ) h.profs (fun me => crOf (s.get me))
    (fun me I hI => by
      obtain ⟨x, hx, hinfo⟩ := hcell me I hI
      rw [crOf_get _ _ _ hx, hinfo.lenR])
    (fun me I hI a ha => by
      obtain ⟨x, hx, hinfo⟩ := hcell me I hI
      simp only [one_mul]
      rw [crOf_get _ _ _ hx, h.reg me I x hx a (hinfo.lenR.symm ▸ ha)])
    s h.ok 1 one_ne_zero
    (fun q I x hx b hb => by
      simp only [one_mul, mul_one]
      exact h.str q I x hx b ((stOK_get g s h.ok q I x hx).2.lenS.symm ▸ hb))
    (List.sum_nonneg fun v hv => by
      obtain ⟨_, _, rfl⟩ := List.mem_map.mp hv
      exact zero_le_one)
  rw [← stOK_length g s h.ok true, ← stOK_length g s h.ok false, ← clampSum_eq_range,
    ← clampSum_eq_range, List.map_const', List.sum_replicate, nsmul_eq_mul, mul_one] at key
  -- the mean of the two bounds is at most the larger
  calc (getInfo g s.avg).regret
      ≤ (clampSum (s.get true) + clampSum (s.get false)) / (σs.length : ℝ) :=
        (le_div_iff₀ hT).mpr key
    _ = (boundSum σs.length (s.get true) + boundSum σs.length (s.get false)) / 2 := by
        rw [boundSum_eq, boundSum_eq]; ring
    _ ≤ max (boundSum σs.length (s.get true)) (boundSum σs.length (s.get false)) := by
        rw [div_le_iff₀ (zero_lt_two' ℝ), mul_two]
        exact add_le_add (le_max_left _ _) (le_max_right _ _)

end
end Cfr
