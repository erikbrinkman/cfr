import CfrVerif.Proofs.PresetSpec
import CfrVerif.Props.C02
import CfrVerif.Proofs.PresetGameAsm
/-!
# Game-level part of the discounted-preset analysis: from the solver run to per-infoset traces

`preset_reduction`: for parameters with `0 ≤ strat` and `posRegret ≠ −∞`, the true regret of the
profile returned by the unsampled single-threaded solver after `T > 0` iterations (no early
termination), times the total weight `weightTotal p.strat T`, is at most the sum over all decision
infosets of both players of the clamped maximal `t^γ`-weighted regret — where each infoset's
regret sequence is a regret-matching trace (`RMTrace`) of the solver's parameters.  The traces are
`PG.trace` (`Proofs/PresetGameInv.lean`), the inequality is `PG.reduction`
(`Proofs/PresetGameAsm.lean`).
(The chain used for C02, `VanillaBound` section `Weighted`, with the weights `t^γ`: the traversal
adds the instantaneous counterfactual regrets, performance difference regrouped by infoset, the
returned average strategy is realisation equivalent to the `t^γ`-weighted mixture of the iterates,
zero-sum sandwich.)
-/
set_option linter.unusedSectionVars false
set_option linter.unusedVariables false
namespace Cfr

def nActsAt (g : Game ℝ) (me : Bool) (I : Nat) : Nat := ((g.infos me).getD I default).actions.length

theorem preset_reduction (g : Game ℝ) (hg : GameWF g) (p : RegretParams ℝ) (hp : 0 ≤ p.strat)
    (hpos : p.posRegret ≠ .negInf)
    (lo hi : ℝ) (hpay : PayIn lo hi g.root) (draw : DrawFn ℝ) (T : Nat) (hT : 0 < T) :
    ∃ tr : (me : Bool) → (I : Nat) → RMTrace p (nActsAt g me I) (hi - lo) T,
      (getInfo g (solveVanillaSingle g false p draw T none).profile).regret * weightTotal p.strat T
        ≤ ((List.range g.p1.length).map (fun I => (tr true I).clampedMax)).sum
          + ((List.range g.p2.length).map (fun I => (tr false I).clampedMax)).sum := by
  refine ⟨fun me I => PG.trace g hg p hp lo hi hpay draw T me I, ?_⟩
  rw [PG.solve_profile]
  exact PG.reduction g hg p hp lo hi hpay draw T hT

end Cfr
