import CfrVerif.Proofs.CliInst
import CfrVerif.Proofs.CliGambit
/-!
# `gambit_file_semantics` on concrete files (over `ℚ`, by evaluation)

* `demoFile` (`Proofs/CliInst.lean`: constant-sum `10`, an interior outcome, unsorted actions, an
  outcome given by number only) satisfies every hypothesis of `CliP.gambit_semantics`;
* the two hypotheses collected in `Efg.FileOK` cannot be dropped: a chance node whose
  probabilities add up to zero and a terminal with the null outcome are counterexamples.
-/
set_option linter.unusedSectionVars false
namespace Cfr
namespace CliP

mutual
def rawEqb {α : Type} [DecidableEq α] : Raw α → Raw α → Bool
  | .term a, .term b => decide (a = b)
  | .chance i ws ks, .chance i' ws' ks' => decide (i = i') && decide (ws = ws') && rawEqbL ks ks'
  | .player o l as ks, .player o' l' as' ks' =>
    decide (o = o') && decide (l = l') && decide (as = as') && rawEqbL ks ks'
  | _, _ => false
def rawEqbL {α : Type} [DecidableEq α] : List (Raw α) → List (Raw α) → Bool
  | [], [] => true
  | a :: as, b :: bs => rawEqb a b && rawEqbL as bs
  | _, _ => false
end

mutual
theorem rawEqb_sound {α : Type} [DecidableEq α] : ∀ a b : Raw α, rawEqb a b = true → a = b
  | .term a, .term b, h => by
    simp only [rawEqb, decide_eq_true_eq] at h
    rw [h]
  | .chance i ws ks, .chance i' ws' ks', h => by
    simp only [rawEqb, Bool.and_eq_true, decide_eq_true_eq] at h
    obtain ⟨⟨rfl, rfl⟩, hk⟩ := h
    rw [rawEqbL_sound ks ks' hk]
  | .player o l as ks, .player o' l' as' ks', h => by
    simp only [rawEqb, Bool.and_eq_true, decide_eq_true_eq] at h
    obtain ⟨⟨⟨rfl, rfl⟩, rfl⟩, hk⟩ := h
    rw [rawEqbL_sound ks ks' hk]
  | .term _, .chance _ _ _, h => nomatch h
  | .term _, .player _ _ _ _, h => nomatch h
  | .chance _ _ _, .term _, h => nomatch h
  | .chance _ _ _, .player _ _ _ _, h => nomatch h
  | .player _ _ _ _, .term _, h => nomatch h
  | .player _ _ _ _, .chance _ _ _, h => nomatch h
theorem rawEqbL_sound {α : Type} [DecidableEq α] :
    ∀ a b : List (Raw α), rawEqbL a b = true → a = b
  | [], [], _ => rfl
  | [], _ :: _, h => nomatch h
  | _ :: _, [], h => nomatch h
  | a :: as, b :: bs, h => by
    simp only [rawEqbL, Bool.and_eq_true] at h
    rw [rawEqb_sound a b h.1, rawEqbL_sound as bs h.2]
end

def gambitRawIs (numName : Nat → Nat) (f : EfgFile ℚ) (raw : Raw ℚ) (sum : ℚ) : Bool :=
  match gambitRaw numName f with
  | .ok (r, s) => rawEqb r raw && decide (s = sum)
  | .error _ => false

theorem gambitRawIs_sound {numName : Nat → Nat} {f : EfgFile ℚ} {raw : Raw ℚ} {sum : ℚ}
    (h : gambitRawIs numName f raw sum = true) : gambitRaw numName f = .ok (raw, sum) := by
  unfold gambitRawIs at h
  split at h
  · rename_i r s hr
    simp only [Bool.and_eq_true, decide_eq_true_eq] at h
    rw [hr, rawEqb_sound r raw h.1, h.2]
  · cases h

theorem okOf_some {ε β : Type} {x : Except ε β} {b : β} (h : okOf x = some b) : x = .ok b := by
  cases x with
  | error e => simp [okOf] at h
  | ok v => simp only [okOf, Option.some.injEq] at h; rw [h]

/-- the tables of the first loop of `get_global_info` on `demoFile` -/
def demoTables : Tables ℚ :=
  ⟨⟨[(1, 6)], [1]⟩, ⟨[(2, 8), (1, 7)], [2, 1]⟩,
    [(2, (2, 3)), (4, (6, -1)), (1, (1, 4)), (3, (2, 3))]⟩

/-- what `from_root` is handed for `demoFile` (offset `5` subtracted, `L` before `R`) -/
def demoRaw : Raw ℚ :=
  .player true 6 [2, 3]
    [.player false 7 [4] [.term (-2)], .player false 8 [4, 5] [.term (-1), .term 3]]

def demoRho : LProfile ℚ := fun o l a =>
  if o then (if a = 2 then 1 / 3 else 2 / 3) else if l = 7 then 1 else (if a = 4 then 1 / 4 else 3 / 4)

theorem demo_tables : Tables.run ({} : Tables ℚ) demoFile.root.visits = .ok demoTables := rfl
theorem demo_names1 : demoTables.one.resolve demoNumName = .ok [(1, 6)] := rfl
theorem demo_names2 : demoTables.two.resolve demoNumName = .ok [(2, 8), (1, 7)] := rfl
theorem demo_raw : gambitRaw demoNumName demoFile = .ok (demoRaw, 5) :=
  gambitRawIs_sound (by decide +kernel)
theorem demo_shape : demoFile.root.ShapeOK := by
  simp [demoFile, Efg.ShapeOK, Efg.ShapeOKL]
theorem demo_fileOK : demoFile.root.FileOK := by
  simp [demoFile, Efg.FileOK, Efg.FileOKL]
theorem demo_leaves :
    Efg.leaves demoTables.outcomes demoFile.root (0, 0) = .ok [(3, 7), (8, 2), (4, 6)] :=
  okOf_some (by decide +kernel)
theorem demo_constant : ExactConstantSum demoTables.outcomes demoFile.root 10 := by
  intro ls hls
  rw [demo_leaves] at hls
  cases hls
  decide +kernel
theorem demo_valid : LValidOn demoRho demoRaw := by
  simp only [demoRaw, LValidOn, LValidOnL]
  decide +kernel

/-- every hypothesis of `gambit_semantics` holds for `demoFile`; the conclusions, evaluated:
the offset is `5 = 10 / 2`, player one expects `17/3` of her own file payoffs, player two
`10 - 17/3` -/
example :
    (5 : ℚ) = 10 / 2 ∧
    rawEV demoRho demoRaw
      = efgEV demoTables.outcomes (fun o => if o then [(1, 6)] else [(2, 8), (1, 7)]) demoRho true
          demoFile.root 0 - 10 / 2 ∧
    efgEV demoTables.outcomes (fun o => if o then [(1, 6)] else [(2, 8), (1, 7)]) demoRho false
        demoFile.root 0
      = 10 - efgEV demoTables.outcomes (fun o => if o then [(1, 6)] else [(2, 8), (1, 7)]) demoRho true
          demoFile.root 0 :=
  gambit_semantics demoNumName demoFile demo_shape demo_fileOK demoTables _ _ demoRaw 5 10
    demo_tables demo_names1 demo_names2 demo_raw demo_constant demoRho demo_valid

example : efgEV demoTables.outcomes (fun o => if o then [(1, 6)] else [(2, 8), (1, 7)]) demoRho true
    demoFile.root 0 = 17 / 3 ∧ rawEV demoRho demoRaw = 2 / 3 := by
  decide +kernel

/-- **a chance node whose probabilities add up to zero** (here: no children at all).  The file
converts (`sum = 0`), has no terminal, hence is exactly constant-sum `K` for every `K`; every
`ρ` is valid on the converted tree; but `sum = 0 ≠ 2 / 2`. -/
example :
    let f : EfgFile ℚ := ⟨2, .chance 1 [] [] [] 0 none⟩
    f.root.ShapeOK ∧ Tables.run ({} : Tables ℚ) f.root.visits = .ok {} ∧
    ({} : Tables ℚ).one.resolve id = .ok [] ∧ ({} : Tables ℚ).two.resolve id = .ok [] ∧
    gambitRaw id f = .ok (.chance (some 1) [] [], 0) ∧
    ExactConstantSum ({} : Tables ℚ).outcomes f.root 2 ∧
    (∀ ρ : LProfile ℚ, LValidOn ρ (.chance (some 1) [] [])) ∧ (0 : ℚ) ≠ 2 / 2 := by
  refine ⟨by simp [Efg.ShapeOK, Efg.ShapeOKL], rfl, rfl, rfl, gambitRawIs_sound (by decide +kernel),
    ?_, fun ρ => by simp [LValidOn, LValidOnL], by norm_num⟩
  intro ls hls
  have : Efg.leaves ({} : Tables ℚ).outcomes (Efg.chance 1 [] [] [] 0 none) (0, 0) = .ok [] :=
    okOf_some (by decide +kernel)
  rw [this] at hls
  cases hls
  simp

/-- the same with children: total weight `1 + (-1) = 0`, every expectation is `0`, the file is
exactly constant-sum `2` with offset `1`, so the converted tree pays `0 ≠ 0 - 2 / 2` -/
example :
    let f : EfgFile ℚ := ⟨2, .chance 1 [0, 1] [1, -1] [.term 1 [1, 1], .term 1 [1, 1]] 0 none⟩
    let tbl : List (Nat × (ℚ × ℚ)) := [(1, (1, 1)), (1, (1, 1))]
    let raw : Raw ℚ := .chance (some 1) [1, -1] [.term 0, .term 0]
    f.root.ShapeOK ∧ okOf (Efg.leaves tbl f.root (0, 0)) = some [(1, 1), (1, 1)] ∧
    gambitRaw id f = .ok (raw, 1) ∧
    (∀ ρ : LProfile ℚ, LValidOn ρ raw ∧ rawEV ρ raw = 0 ∧
      efgEV tbl (fun _ => []) ρ true f.root 0 - 2 / 2 = -1) := by
  refine ⟨by simp [Efg.ShapeOK, Efg.ShapeOKL], by decide +kernel,
    gambitRawIs_sound (by decide +kernel), fun ρ => ⟨by simp [LValidOn, LValidOnL], ?_, ?_⟩⟩
  · simp [rawEV, rawEVC]
  · simp [efgEV, efgEVC]

/-- **a terminal with the null outcome `0`**: the conversion reads the payoffs stored under the
number `0` (`sum = 1`, the converted terminal pays `1 - 1 = 0`), `efgEV` gives the null outcome no
payoff; the file is exactly constant-sum `2`, but `0 ≠ 0 - 2 / 2` -/
example :
    let f : EfgFile ℚ := ⟨2, .term 0 [1, 1]⟩
    let tbl : List (Nat × (ℚ × ℚ)) := [(0, (1, 1))]
    f.root.ShapeOK ∧ okOf (Efg.leaves tbl f.root (0, 0)) = some [(1, 1)] ∧
    gambitRaw id f = .ok (.term 0, 1) ∧
    (∀ ρ : LProfile ℚ, LValidOn ρ (.term 0) ∧ rawEV ρ (.term (0 : ℚ)) = 0 ∧
      efgEV tbl (fun _ => []) ρ true f.root 0 - 2 / 2 = -1) := by
  refine ⟨by simp [Efg.ShapeOK], by decide +kernel,
    gambitRawIs_sound (by decide +kernel), fun ρ => ⟨by simp [LValidOn], by simp [rawEV], ?_⟩⟩
  simp [efgEV, outcomePair]

end CliP
end Cfr
