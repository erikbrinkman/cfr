import CfrVerif.Proofs.CfrSpec
import CfrVerif.Proofs.Traversal
import CfrVerif.Proofs.Effects
import CfrVerif.Proofs.ViewBridge
/-!
# What one unsampled traversal adds to the accumulators (L1 → textbook)

`vrec` in full mode (`c.sampled = false`) returns player one's expected value of the subtree, and
its effect list adds exactly the instantaneous counterfactual regrets (`regAdd`) and the
reach-weighted strategy masses (`stratAdd`) of *both* players, each computed on that player's view
of the game.

The regret and the strategy statement need an extra hypothesis (counterexamples in the comments
of `vrec_full_regret` / `vrec_full_strat` and, as closed `example`s, at the end of the file): the
traversal zips the strategy / chance probabilities with the children, the textbook quantities
`regAddD` / `stratAddN` run over all children.  `VOwnFits` / `VNatFits` say that no child is cut off; both follow from `VOK` and
the strategy lengths (`VOK.ownFits`, `VOK.natFits`).
-/
set_option linter.unusedSectionVars false
namespace Cfr
variable {α : Type} [Field α] [LinearOrder α] [IsStrictOrderedRing α]

def CtxOf (c : VCtx α) (σ : Bool → Strat α) : Prop := ∀ one i, c.strat one i = (σ one).at i

theorem slot_beq (s t : Slot) : (s == t) = decide (s = t) := by cases s <;> cases t <;> rfl

@[simp] theorem effSum_nil (one : Bool) (I : Nat) (slot : Slot) (a : Nat) :
    effSum ([] : List (Eff α)) one I slot a = 0 := rfl

theorem effSum_cons (e : Eff α) (es : List (Eff α)) (one : Bool) (I : Nat) (slot : Slot) (a : Nat) :
    effSum (e :: es) one I slot a
      = (if e.one = one ∧ e.info = I ∧ e.slot = slot ∧ e.act = a then e.delta else 0)
        + effSum es one I slot a := by
  have hb : (e.one == one && e.info == I && e.slot == slot && e.act == a)
      = decide (e.one = one ∧ e.info = I ∧ e.slot = slot ∧ e.act = a) := by
    rw [Bool.eq_iff_iff]
    simp only [Bool.and_eq_true, beq_iff_eq, slot_beq, decide_eq_true_eq, and_assoc]
  unfold effSum
  rw [List.filter_cons, hb]
  by_cases h : e.one = one ∧ e.info = I ∧ e.slot = slot ∧ e.act = a
  · rw [decide_eq_true h, if_pos rfl, if_pos h, List.map_cons, List.sum_cons]
  · rw [decide_eq_false h, if_neg Bool.false_ne_true, if_neg h, zero_add]

@[simp] theorem effSum_append (es es' : List (Eff α)) (one : Bool) (I : Nat) (slot : Slot) (a : Nat) :
    effSum (es ++ es') one I slot a = effSum es one I slot a + effSum es' one I slot a := by
  simp [effSum]

theorem effSum_cons_regret (one : Bool) (i k : Nat) (δ : α) (es : List (Eff α)) (me : Bool)
    (I a : Nat) :
    effSum (⟨one, i, .regret, k, δ⟩ :: es) me I Slot.regret a
      = (if one = me ∧ i = I ∧ k = a then δ else 0) + effSum es me I Slot.regret a := by
  rw [effSum_cons]
  simp only [true_and]

theorem effSum_cons_regret_strat (one : Bool) (i k : Nat) (δ : α) (es : List (Eff α)) (me : Bool)
    (I a : Nat) :
    effSum (⟨one, i, .regret, k, δ⟩ :: es) me I Slot.strat a = effSum es me I Slot.strat a := by
  rw [effSum_cons, if_neg (fun h => Slot.noConfusion h.2.2.1), zero_add]

theorem effSum_cons_ne (e : Eff α) (es : List (Eff α)) (me : Bool) (I : Nat) (slot : Slot) (a : Nat)
    (h : ¬ (e.one = me ∧ e.info = I)) : effSum (e :: es) me I slot a = effSum es me I slot a := by
  rw [effSum_cons, if_neg (fun h' => h ⟨h'.1, h'.2.1⟩), zero_add]

/-- reading a list at `a - k`: one step of the offset `k` -/
theorem getD_sub_cons (P : Prop) [Decidable P] (x : α) (l : List α) (k a : Nat) (m : α) :
    (if P ∧ k ≤ a then (x :: l).getD (a - k) 0 * m else 0)
      = (if P ∧ k = a then x * m else 0)
        + (if P ∧ k + 1 ≤ a then l.getD (a - (k + 1)) 0 * m else 0) := by
  by_cases hP : P
  · rcases Nat.lt_trichotomy k a with h | rfl | h
    · obtain ⟨n, rfl⟩ := Nat.exists_eq_add_of_lt h
      rw [if_pos ⟨hP, h.le⟩, if_neg (fun h' => h.ne h'.2), if_pos ⟨hP, h⟩, zero_add,
        Nat.add_sub_add_right, Nat.add_sub_cancel_left, Nat.add_assoc, Nat.add_sub_cancel_left,
        List.getD_cons_succ]
    · rw [if_pos ⟨hP, le_rfl⟩, if_pos ⟨hP, rfl⟩, if_neg (fun h' => Nat.not_succ_le_self _ h'.2),
        add_zero, Nat.sub_self, List.getD_cons_zero]
    · rw [if_neg (fun h' => Nat.not_le_of_gt h h'.2), if_neg (fun h' => h.ne' h'.2),
        if_neg (fun h' => Nat.not_le_of_gt (Nat.lt_succ_of_lt h) h'.2), add_zero]
  · rw [if_neg (fun h => hP h.1), if_neg (fun h => hP h.1), if_neg (fun h => hP h.1), add_zero]

theorem effSum_stratEffs_strat (one : Bool) (i : Nat) (own : α) (me : Bool) (I a : Nat) :
    ∀ (σ : List α) (k : Nat), effSum (stratEffs one i own σ k) me I Slot.strat a
      = if (one = me ∧ i = I) ∧ k ≤ a then σ.getD (a - k) 0 * own else 0
  | [], k => by simp [stratEffs]
  | s :: σ, k => by
    rw [stratEffs, effSum_cons, effSum_stratEffs_strat one i own me I a σ (k + 1), getD_sub_cons,
      mul_comm own s]
    simp only [true_and, and_assoc]

theorem effSum_stratEffs_regret (one : Bool) (i : Nat) (own : α) (me : Bool) (I a : Nat) :
    ∀ (σ : List α) (k : Nat), effSum (stratEffs one i own σ k) me I Slot.regret a = 0
  | [], k => by simp [stratEffs]
  | s :: σ, k => by
    simp [stratEffs, effSum_cons, effSum_stratEffs_regret one i own me I a σ (k + 1)]

theorem effSum_subEffs_strat (one : Bool) (i : Nat) (sub : α) (n : Nat) (me : Bool) (I a : Nat) :
    effSum (subEffs one i sub n) me I Slot.strat a = 0 := by
  unfold subEffs
  induction n with
  | zero => simp
  | succ n ih => simp [List.range_succ, effSum_cons, ih]

theorem effSum_subEffs_regret (one : Bool) (i : Nat) (sub : α) (n : Nat) (me : Bool) (I a : Nat) :
    effSum (subEffs one i sub n) me I Slot.regret a
      = if one = me ∧ i = I ∧ a < n then -sub else 0 := by
  unfold subEffs
  induction n with
  | zero => simp
  | succ n ih =>
    rw [List.range_succ, List.map_append, effSum_append, ih, List.map_singleton, effSum_cons,
      effSum_nil, add_zero]
    by_cases h : one = me ∧ i = I
    · simp only [h.1, h.2, true_and]
      rcases Nat.lt_trichotomy a n with h1 | rfl | h1
      · rw [if_pos h1, if_neg h1.ne', if_pos (Nat.lt_succ_of_lt h1), add_zero]
      · rw [if_neg (lt_irrefl a), if_pos rfl, if_pos (Nat.lt_succ_self a), zero_add]
      · rw [if_neg (Nat.lt_asymm h1), if_neg h1.ne, if_neg (Nat.not_lt.mpr h1), add_zero]
    · rw [if_neg (fun h' => h ⟨h'.1, h'.2.1⟩), if_neg (fun h' => h ⟨h'.1, h'.2.1⟩),
        if_neg (fun h' => h ⟨h'.1, h'.2.1⟩), add_zero]

theorem InfoSt.apply_cell (x : InfoSt α) (sl : Slot) (a : Nat) (d : α) :
    (x.apply sl a d).strat = x.strat ∧
    (x.apply sl a d).cumRegret.length = x.cumRegret.length ∧
    (x.apply sl a d).cumStrat.length = x.cumStrat.length ∧
    (∀ b, b < x.cumRegret.length → (x.apply sl a d).cumRegret.getD b 0
      = x.cumRegret.getD b 0 + if sl = Slot.regret ∧ a = b then d else 0) ∧
    (∀ b, b < x.cumStrat.length → (x.apply sl a d).cumStrat.getD b 0
      = x.cumStrat.getD b 0 + if sl = Slot.strat ∧ a = b then d else 0) := by
  cases sl
  · exact ⟨rfl, addAt_length .., rfl,
      fun b hb => by simp only [InfoSt.apply, addAt_getD _ _ _ _ hb, true_and],
      fun b _ => by simp [InfoSt.apply]⟩
  · exact ⟨rfl, rfl, addAt_length .., fun b _ => by simp [InfoSt.apply],
      fun b hb => by simp only [InfoSt.apply, addAt_getD _ _ _ _ hb, true_and]⟩

theorem applyEff_cell (s : SolveSt α) (e : Eff α) (one : Bool) :
    ((s.applyEff e).get one).length = (s.get one).length ∧
    ∀ (I : Nat) (x : InfoSt α), (s.get one)[I]? = some x →
      ∃ x', ((s.applyEff e).get one)[I]? = some x' ∧ x'.strat = x.strat ∧
        x'.cumRegret.length = x.cumRegret.length ∧ x'.cumStrat.length = x.cumStrat.length ∧
        (∀ a, a < x.cumRegret.length →
          x'.cumRegret.getD a 0 = x.cumRegret.getD a 0
            + (if e.one = one ∧ e.info = I ∧ e.slot = Slot.regret ∧ e.act = a then e.delta else 0)) ∧
        (∀ a, a < x.cumStrat.length →
          x'.cumStrat.getD a 0 = x.cumStrat.getD a 0
            + (if e.one = one ∧ e.info = I ∧ e.slot = Slot.strat ∧ e.act = a then e.delta else 0)) := by
  rw [SolveSt.get_applyEff]
  by_cases h1 : one = e.one
  · subst h1
    rw [if_pos rfl, List.length_modify]
    refine ⟨rfl, fun I x hx => ?_⟩
    rw [List.getElem?_modify, hx]
    by_cases h2 : e.info = I
    · refine ⟨_, congrArg some (if_pos h2), ?_⟩
      simp only [h2, true_and]
      exact InfoSt.apply_cell x e.slot e.act e.delta
    · refine ⟨x, congrArg some (if_neg h2), rfl, rfl, rfl, fun a _ => ?_, fun a _ => ?_⟩ <;>
        rw [if_neg (fun h => h2 h.2.1), add_zero]
  · rw [if_neg h1]
    refine ⟨rfl, fun I x hx => ⟨x, hx, rfl, rfl, rfl, fun a _ => ?_, fun a _ => ?_⟩⟩ <;>
      rw [if_neg (fun h => h1 h.1.symm), add_zero]

theorem applyEffs_cell (s : SolveSt α) (es : List (Eff α)) (one : Bool) :
    ((s.applyEffs es).get one).length = (s.get one).length ∧
    ∀ (I : Nat) (x : InfoSt α), (s.get one)[I]? = some x →
      ∃ x', ((s.applyEffs es).get one)[I]? = some x' ∧ x'.strat = x.strat ∧
        x'.cumRegret.length = x.cumRegret.length ∧ x'.cumStrat.length = x.cumStrat.length ∧
        (∀ a, a < x.cumRegret.length →
          x'.cumRegret.getD a 0 = x.cumRegret.getD a 0 + effSum es one I Slot.regret a) ∧
        (∀ a, a < x.cumStrat.length →
          x'.cumStrat.getD a 0 = x.cumStrat.getD a 0 + effSum es one I Slot.strat a) := by
  induction es generalizing s with
  | nil => exact ⟨rfl, fun I x hx => ⟨x, hx, rfl, rfl, rfl, fun _ _ => (add_zero _).symm,
      fun _ _ => (add_zero _).symm⟩⟩
  | cons e es ih =>
    obtain ⟨l1, c1⟩ := applyEff_cell s e one
    obtain ⟨l2, c2⟩ := ih (s.applyEff e)
    refine ⟨l2.trans l1, fun I x hx => ?_⟩
    obtain ⟨x1, g1, s1, r1, t1, cr1, cs1⟩ := c1 I x hx
    obtain ⟨x2, g2, s2, r2, t2, cr2, cs2⟩ := c2 I x1 g1
    refine ⟨x2, g2, s2.trans s1, r2.trans r1, t2.trans t1, fun a ha => ?_, fun a ha => ?_⟩
    · rw [cr2 a (r1 ▸ ha), cr1 a ha, effSum_cons, add_assoc]
    · rw [cs2 a (t1 ▸ ha), cs1 a ha, effSum_cons, add_assoc]

theorem evV_view_player (ch : List (List α)) (σ : Bool → Strat α) (me one : Bool) (i : Nat)
    (ks : List (Node α)) :
    evV (σ me) (view ch (σ (!me)) me (.player one i ks))
      = evVN (σ me) ((σ one).at i) (viewL ch (σ (!me)) me ks) := by
  cases me <;> cases one <;> simp [view, evV]

mutual
theorem evV_view_neg (ch : List (List α)) (τ1 τ2 : Strat α) :
    ∀ n : Node α, evV τ2 (view ch τ1 false n) = - evV τ1 (view ch τ2 true n)
  | .term p => by simp [view, evV]
  | .chance i ks => by
    simp only [view, evV]; exact evVN_viewL_neg ch τ1 τ2 _ ks
  | .player one i ks => by
    cases one <;> simp [view, evV] <;> exact evVN_viewL_neg ch τ1 τ2 _ ks
theorem evVN_viewL_neg (ch : List (List α)) (τ1 τ2 : Strat α) :
    ∀ (ws : List α) (ks : List (Node α)),
      evVN τ2 ws (viewL ch τ1 false ks) = - evVN τ1 ws (viewL ch τ2 true ks)
  | [], ks => by simp [evVN]
  | _ :: _, [] => by simp [viewL, evVN]
  | w :: ws, k :: ks => by
    simp only [viewL, evVN, evV_view_neg ch τ1 τ2 k, evVN_viewL_neg ch τ1 τ2 ws ks]
    ring
end

/-- the second accumulator of the action loop is `mult` times the first -/
theorem vrecActs_sub (c : VCtx α) (one : Bool) (i : Nat) (mult : α) (ss : List α) :
    ∀ (ks : List (Node α)) (pc p1 p2 : α) (d : DrawSt α) (k : Nat) (eo ex : α),
      (vrecActs c one i mult ss ks pc p1 p2 d k eo ex).2.1
        = ex + mult * ((vrecActs c one i mult ss ks pc p1 p2 d k eo ex).1 - eo) := by
  induction ss with
  | nil =>
    intros
    rw [vrecActs_nil_left, sub_self, mul_zero, add_zero]
  | cons s ss ih =>
    intro ks pc p1 p2 d k eo ex
    cases ks with
    | nil => rw [vrecActs_nil_right, sub_self, mul_zero, add_zero]
    | cons n ks =>
      rw [vrecActs_cons']
      exact (ih ks _ _ _ _ _ _ _).trans (by ring)

mutual
theorem vrec_full_value (c : VCtx α) (hs : c.sampled = false) (σ : Bool → Strat α) (hc : CtxOf c σ) :
    ∀ (n : Node α) (pc p1 p2 : α) (d : DrawSt α),
      (vrec c n pc p1 p2 d).1 = evV (σ true) (view c.ch (σ false) true n)
  | .term p => fun pc p1 p2 d => by rw [vrec_term, view, if_pos rfl, evV]
  | .chance i ks => fun pc p1 p2 d => by
    rw [vrec_chance c hs, vrecChance_val c hs σ hc _ ks pc p1 p2 d 0, zero_add, view, evV]
  | .player one i ks => fun pc p1 p2 d => by
    rw [vrec_player]
    exact ((vrecActs_val c hs σ hc one i _ _ ks pc p1 p2 d 0 0 0).trans (zero_add _)).trans
      (hc one i ▸ (evV_view_player c.ch σ true one i ks).symm)
theorem vrecChance_val (c : VCtx α) (hs : c.sampled = false) (σ : Bool → Strat α) (hc : CtxOf c σ) :
    ∀ (ws : List α) (ks : List (Node α)) (pc p1 p2 : α) (d : DrawSt α) (acc : α),
      (vrecChance c ws ks pc p1 p2 d acc).1 = acc + evVN (σ true) ws (viewL c.ch (σ false) true ks)
  | [], _ => by intros; simp [vrecChance, evVN]
  | _ :: _, [] => by intros; simp [vrecChance, viewL, evVN]
  | w :: ws, k :: ks => fun pc p1 p2 d acc => by
    rw [vrecChance_cons]
    dsimp only
    rw [vrecChance_val c hs σ hc ws ks, vrec_full_value c hs σ hc k, viewL_cons, evVN, add_assoc]
theorem vrecActs_val (c : VCtx α) (hs : c.sampled = false) (σ : Bool → Strat α) (hc : CtxOf c σ)
    (one : Bool) (i : Nat) (mult : α) :
    ∀ (ss : List α) (ks : List (Node α)) (pc p1 p2 : α) (d : DrawSt α) (a : Nat) (eo ex : α),
      (vrecActs c one i mult ss ks pc p1 p2 d a eo ex).1
          = eo + evVN (σ true) ss (viewL c.ch (σ false) true ks)
  | [], _ => by intros; simp [vrecActs, evVN]
  | _ :: _, [] => by intros; simp [vrecActs, viewL, evVN]
  | s :: ss, k :: ks => fun pc p1 p2 d a eo ex => by
    rw [vrecActs_cons']
    dsimp only
    rw [vrecActs_val c hs σ hc one i mult ss ks, vrec_full_value c hs σ hc k, viewL_cons, evVN,
      add_assoc]
end
mutual
def VOwnFits (σ : Strat α) : V α → Prop
  | .term _ => True
  | .nature _ ks => VOwnFitsL σ ks
  | .decide i ks => ks.length ≤ (σ.at i).length ∧ VOwnFitsL σ ks
def VOwnFitsL (σ : Strat α) : List (V α) → Prop
  | [] => True
  | k :: ks => VOwnFits σ k ∧ VOwnFitsL σ ks
end

mutual
def VNatFits : V α → Prop
  | .term _ => True
  | .nature ws ks => ks.length ≤ ws.length ∧ VNatFitsL ks
  | .decide _ ks => VNatFitsL ks
def VNatFitsL : List (V α) → Prop
  | [] => True
  | k :: ks => VNatFits k ∧ VNatFitsL ks
end

section
variable {σ : Strat α} {u : α} {ws : List α} {i : Nat} {k : V α} {ks : List (V α)}

@[simp] theorem VOwnFits_term : VOwnFits σ (.term u) := by rw [VOwnFits]; trivial
@[simp] theorem VOwnFits_nature : VOwnFits σ (.nature ws ks) ↔ VOwnFitsL σ ks := by rw [VOwnFits]
@[simp] theorem VOwnFits_decide :
    VOwnFits σ (.decide i ks) ↔ ks.length ≤ (σ.at i).length ∧ VOwnFitsL σ ks := by rw [VOwnFits]
@[simp] theorem VOwnFitsL_nil : VOwnFitsL σ [] := by rw [VOwnFitsL]; trivial
@[simp] theorem VOwnFitsL_cons : VOwnFitsL σ (k :: ks) ↔ VOwnFits σ k ∧ VOwnFitsL σ ks := by
  rw [VOwnFitsL]

@[simp] theorem VNatFits_term : VNatFits (.term u) := by rw [VNatFits]; trivial
@[simp] theorem VNatFits_nature :
    VNatFits (.nature ws ks) ↔ ks.length ≤ ws.length ∧ VNatFitsL ks := by rw [VNatFits]
@[simp] theorem VNatFits_decide : VNatFits (.decide i ks) ↔ VNatFitsL ks := by rw [VNatFits]
@[simp] theorem VNatFitsL_nil : VNatFitsL ([] : List (V α)) := by rw [VNatFitsL]; trivial
@[simp] theorem VNatFitsL_cons : VNatFitsL (k :: ks) ↔ VNatFits k ∧ VNatFitsL ks := by
  rw [VNatFitsL]

end

mutual
theorem VOK.ownFits (N : Nat) (nActs : Nat → Nat) (σ : Strat α)
    (hσ : ∀ i, i < N → (σ.at i).length = nActs i) : ∀ v : V α, VOK N nActs v → VOwnFits σ v
  | .term _, _ => VOwnFits_term
  | .nature ws ks, h => VOwnFits_nature.mpr (VOKL.ownFits N nActs σ hσ ks (VOK_nature.mp h).2.2)
  | .decide i ks, h => by
    obtain ⟨h1, h2, _, hk⟩ := VOK_decide.mp h
    exact VOwnFits_decide.mpr ⟨by rw [hσ i h1, h2], VOKL.ownFits N nActs σ hσ ks hk⟩
theorem VOKL.ownFits (N : Nat) (nActs : Nat → Nat) (σ : Strat α)
    (hσ : ∀ i, i < N → (σ.at i).length = nActs i) : ∀ ks : List (V α), VOKL N nActs ks → VOwnFitsL σ ks
  | [], _ => VOwnFitsL_nil
  | k :: ks, h => VOwnFitsL_cons.mpr
    ⟨VOK.ownFits N nActs σ hσ k (VOKL_cons.mp h).1, VOKL.ownFits N nActs σ hσ ks (VOKL_cons.mp h).2⟩
end

mutual
theorem VOK.natFits (N : Nat) (nActs : Nat → Nat) : ∀ v : V α, VOK N nActs v → VNatFits v
  | .term _, _ => VNatFits_term
  | .nature _ ks, h =>
    VNatFits_nature.mpr ⟨(VOK_nature.mp h).1.ge, VOKL.natFits N nActs ks (VOK_nature.mp h).2.2⟩
  | .decide _ ks, h => VNatFits_decide.mpr (VOKL.natFits N nActs ks (VOK_decide.mp h).2.2.2)
theorem VOKL.natFits (N : Nat) (nActs : Nat → Nat) : ∀ ks : List (V α), VOKL N nActs ks → VNatFitsL ks
  | [], _ => VNatFitsL_nil
  | k :: ks, h => VNatFitsL_cons.mpr
    ⟨VOK.natFits N nActs k (VOKL_cons.mp h).1, VOKL.natFits N nActs ks (VOKL_cons.mp h).2⟩
end

theorem view_player_own (ch : List (List α)) (σo : Strat α) (me : Bool) (i : Nat) (ks : List (Node α)) :
    view ch σo me (.player me i ks) = .decide i (viewL ch σo me ks) := by
  rw [view, if_pos (beq_self_eq_true me)]

theorem view_player_opp (ch : List (List α)) (σo : Strat α) (me : Bool) (i : Nat) (ks : List (Node α)) :
    view ch σo me (.player (!me) i ks) = .nature (σo.at i) (viewL ch σo me ks) := by
  rw [view, if_neg (by cases me <;> decide)]

/-! Reach of a child of a player node, as the reach of one player: the mover's own reach is
multiplied by the action probability, the other player's is unchanged. -/

theorem ite_ite_self (me : Bool) (x y z w : α) :
    (if me then (if me then x else y) else (if me then z else w)) = if me then x else w := by
  cases me <;> rfl

theorem ite_ite_not (me : Bool) (x y z w : α) :
    (if me then (if !me then x else y) else (if !me then z else w)) = if me then y else z := by
  cases me <;> rfl

mutual
theorem vrec_str (c : VCtx α) (hs : c.sampled = false) (σ : Bool → Strat α) (hc : CtxOf c σ)
    (me : Bool) (I a : Nat) :
    ∀ (n : Node α) (pc p1 p2 : α) (d : DrawSt α), VNatFits (view c.ch (σ (!me)) me n) →
      effSum (vrec c n pc p1 p2 d).2.1 me I Slot.strat a
        = stratAdd (σ me) I a (view c.ch (σ (!me)) me n) (if me then p1 else p2)
  | .term p => fun pc p1 p2 d _ => by rw [vrec_term, view, stratAdd]; rfl
  | .chance i ks => fun pc p1 p2 d h => by
    rw [view, VNatFits_nature, viewL_length] at h
    rw [vrec_chance c hs, vrecChance_str c hs σ hc me I a _ ks pc p1 p2 d 0 h.1 h.2, view, stratAdd]
  | .player one i ks => fun pc p1 p2 d h => by
    rw [vrec_player]
    dsimp only
    rw [effSum_append, effSum_append, effSum_subEffs_strat, add_zero, effSum_stratEffs_strat, hc one i]
    by_cases hone : one = me
    · subst hone
      rw [view_player_own] at h ⊢
      rw [vrecActs_str_own c hs σ hc one I a i _ _ ks pc p1 p2 d 0 0 0 (VNatFits_decide.mp h),
        stratAdd]
      simp only [true_and, Nat.zero_le, and_true, Nat.sub_zero, mul_comm]
    · obtain rfl := Bool.eq_not_of_ne hone
      rw [view_player_opp] at h ⊢
      rw [VNatFits_nature, viewL_length] at h
      rw [vrecActs_str_opp c hs σ hc me I a i _ _ ks pc p1 p2 d 0 0 0 (hc _ _ ▸ h.1) h.2,
        if_neg (fun h' => hone h'.1.1), zero_add, stratAdd]
theorem vrecChance_str (c : VCtx α) (hs : c.sampled = false) (σ : Bool → Strat α) (hc : CtxOf c σ)
    (me : Bool) (I a : Nat) :
    ∀ (ws : List α) (ks : List (Node α)) (pc p1 p2 : α) (d : DrawSt α) (acc : α),
      ks.length ≤ ws.length → VNatFitsL (viewL c.ch (σ (!me)) me ks) →
      effSum (vrecChance c ws ks pc p1 p2 d acc).2.1 me I Slot.strat a
        = stratAddN (σ me) I a (viewL c.ch (σ (!me)) me ks) (if me then p1 else p2)
  | ws, [] => fun pc p1 p2 d acc _ _ => by rw [vrecChance_nil_right, viewL_nil, stratAddN]; rfl
  | [], _ :: _ => fun _ _ _ _ _ hl _ => absurd hl (Nat.not_succ_le_zero _)
  | w :: ws, k :: ks => fun pc p1 p2 d acc hl h => by
    rw [viewL_cons, VNatFitsL_cons] at h
    rw [vrecChance_cons]
    dsimp only
    rw [effSum_append, vrec_str c hs σ hc me I a k _ _ _ _ h.1,
      vrecChance_str c hs σ hc me I a ws ks _ _ _ _ _ (Nat.le_of_succ_le_succ hl) h.2, viewL_cons,
      stratAddN]
theorem vrecActs_str_own (c : VCtx α) (hs : c.sampled = false) (σ : Bool → Strat α) (hc : CtxOf c σ)
    (me : Bool) (I a : Nat) (i : Nat) (mult : α) :
    ∀ (ss : List α) (ks : List (Node α)) (pc p1 p2 : α) (d : DrawSt α) (k : Nat) (eo ex : α),
      VNatFitsL (viewL c.ch (σ (!me)) me ks) →
      effSum (vrecActs c me i mult ss ks pc p1 p2 d k eo ex).2.2.1 me I Slot.strat a
        = stratAddD (σ me) I a ss (viewL c.ch (σ (!me)) me ks) (if me then p1 else p2)
  | [], _ => by intros; simp [vrecActs, stratAddD]
  | _ :: _, [] => by intros; simp [vrecActs, viewL, stratAddD]
  | s :: ss, n :: ks => fun pc p1 p2 d k eo ex h => by
    rw [viewL_cons, VNatFitsL_cons] at h
    rw [vrecActs_cons']
    dsimp only
    rw [effSum_append, effSum_cons_regret_strat, vrec_str c hs σ hc me I a n _ _ _ _ h.1,
      ite_ite_self, ← ite_mul, vrecActs_str_own c hs σ hc me I a i mult ss ks _ _ _ _ _ _ _ h.2,
      viewL_cons, stratAddD]
theorem vrecActs_str_opp (c : VCtx α) (hs : c.sampled = false) (σ : Bool → Strat α) (hc : CtxOf c σ)
    (me : Bool) (I a : Nat) (i : Nat) (mult : α) :
    ∀ (ss : List α) (ks : List (Node α)) (pc p1 p2 : α) (d : DrawSt α) (k : Nat) (eo ex : α),
      ks.length ≤ ss.length → VNatFitsL (viewL c.ch (σ (!me)) me ks) →
      effSum (vrecActs c (!me) i mult ss ks pc p1 p2 d k eo ex).2.2.1 me I Slot.strat a
        = stratAddN (σ me) I a (viewL c.ch (σ (!me)) me ks) (if me then p1 else p2)
  | ss, [] => fun pc p1 p2 d k eo ex _ _ => by rw [vrecActs_nil_right, viewL_nil, stratAddN]; rfl
  | [], _ :: _ => fun _ _ _ _ _ _ _ hl _ => absurd hl (Nat.not_succ_le_zero _)
  | s :: ss, n :: ks => fun pc p1 p2 d k eo ex hl h => by
    rw [viewL_cons, VNatFitsL_cons] at h
    rw [vrecActs_cons']
    dsimp only
    rw [effSum_append, effSum_cons_regret_strat, vrec_str c hs σ hc me I a n _ _ _ _ h.1,
      ite_ite_not,
      vrecActs_str_opp c hs σ hc me I a i mult ss ks _ _ _ _ _ _ _ (Nat.le_of_succ_le_succ hl) h.2,
      viewL_cons, stratAddN]
end

theorem viewL_map {β : Type} (ch : List (List α)) (σo : Strat α) (me : Bool) (f : V α → β) :
    ∀ ks : List (Node α), (viewL ch σo me ks).map f = ks.map (fun n => f (view ch σo me n))
  | [] => by rw [viewL_nil]; rfl
  | k :: ks => by rw [viewL_cons, List.map_cons, List.map_cons, viewL_map ch σo me f ks]

theorem getD_map_mul {β : Type} (f g : β → α) (m C : α) (h : ∀ n, f n * m = C * g n)
    (ks : List β) (a : Nat) : (ks.map f).getD a 0 * m = C * (ks.map g).getD a 0 := by
  rw [List.getD_eq_getElem?_getD, List.getD_eq_getElem?_getD, List.getElem?_map, List.getElem?_map]
  cases ks[a]? with
  | none => exact (zero_mul m).trans (mul_zero C).symm
  | some n => exact h n

theorem evV_view_sg (ch : List (List α)) (σ : Bool → Strat α) (me : Bool) (n : Node α) :
    evV (σ me) (view ch (σ (!me)) me n) = sg me (evV (σ true) (view ch (σ false) true n)) := by
  cases me
  · exact evV_view_neg ch (σ true) (σ false) n
  · rfl

theorem evVN_viewL_sg (ch : List (List α)) (σ : Bool → Strat α) (me : Bool) (ws : List α)
    (ks : List (Node α)) :
    evVN (σ me) ws (viewL ch (σ (!me)) me ks)
      = sg me (evVN (σ true) ws (viewL ch (σ false) true ks)) := by
  cases me
  · exact evVN_viewL_neg ch (σ true) (σ false) ws ks
  · rfl

/-- the factor `mult` of `recurse_player` is the reach `pc * p_opponent` of the rest of the world,
with the sign that turns player one's payoff into the mover's -/
theorem mul_mult (me : Bool) (x pc p1 p2 : α) :
    x * (if me then pc * p2 else -p1 * pc) = pc * (if me then p2 else p1) * sg me x := by
  cases me
  · simp only [Bool.false_eq_true, if_false, sg]; ring
  · simp only [if_true, sg]; ring

theorem getD_evV_mul_mult (ch : List (List α)) (σ : Bool → Strat α) (me : Bool) (pc p1 p2 : α)
    (ks : List (Node α)) (a : Nat) :
    (ks.map (fun n => evV (σ true) (view ch (σ false) true n))).getD a 0
        * (if me then pc * p2 else -p1 * pc)
      = pc * (if me then p2 else p1) * ((viewL ch (σ (!me)) me ks).map (evV (σ me))).getD a 0 := by
  rw [viewL_map]
  exact getD_map_mul _ _ _ _ (fun n => by rw [evV_view_sg]; exact mul_mult me _ pc p1 p2) ks a

mutual
theorem vrec_reg (c : VCtx α) (hs : c.sampled = false) (σ : Bool → Strat α) (hc : CtxOf c σ)
    (me : Bool) (I a : Nat) (ha : a < ((σ me).at I).length) :
    ∀ (n : Node α) (pc p1 p2 : α) (d : DrawSt α), VOwnFits (σ me) (view c.ch (σ (!me)) me n) →
      effSum (vrec c n pc p1 p2 d).2.1 me I Slot.regret a
        = regAdd (σ me) I a (view c.ch (σ (!me)) me n) (pc * (if me then p2 else p1))
  | .term p => fun pc p1 p2 d _ => by rw [vrec_term, view, regAdd]; rfl
  | .chance i ks => fun pc p1 p2 d h => by
    rw [view, VOwnFits_nature] at h
    rw [vrec_chance c hs, vrecChance_reg c hs σ hc me I a ha _ ks pc p1 p2 d 0 h, view, regAdd]
  | .player one i ks => fun pc p1 p2 d h => by
    rw [vrec_player]
    dsimp only
    rw [effSum_append, effSum_append, effSum_stratEffs_regret, zero_add, effSum_subEffs_regret,
      hc one i]
    by_cases hone : one = me
    · subst hone
      rw [view_player_own] at h ⊢
      rw [VOwnFits_decide, viewL_length] at h
      rw [vrecActs_reg_own c hs σ hc one I a ha i _ _ ks pc p1 p2 d 0 0 0 h.1 h.2,
        vrecActs_sub, vrecActs_val c hs σ hc one i _ _ ks pc p1 p2 d 0 0 0, add_sub_cancel_left, regAdd]
      by_cases hi : i = I
      · subst hi
        simp only [true_and, Nat.zero_le, ha, if_true, Nat.sub_zero]
        rw [getD_evV_mul_mult, zero_add, mul_comm _ (evVN _ _ _), mul_mult, ← evVN_viewL_sg]
        ring
      · simp only [hi, false_and, and_false, if_false, add_zero, zero_add]
    · obtain rfl := Bool.eq_not_of_ne hone
      rw [view_player_opp] at h ⊢
      rw [vrecActs_reg_opp c hs σ hc me I a ha i _ _ ks pc p1 p2 d 0 0 0 (VOwnFits_nature.mp h),
        if_neg (fun h' : (!me) = me ∧ _ => hone h'.1), add_zero, regAdd]
theorem vrecChance_reg (c : VCtx α) (hs : c.sampled = false) (σ : Bool → Strat α) (hc : CtxOf c σ)
    (me : Bool) (I a : Nat) (ha : a < ((σ me).at I).length) :
    ∀ (ws : List α) (ks : List (Node α)) (pc p1 p2 : α) (d : DrawSt α) (acc : α),
      VOwnFitsL (σ me) (viewL c.ch (σ (!me)) me ks) →
      effSum (vrecChance c ws ks pc p1 p2 d acc).2.1 me I Slot.regret a
        = regAddN (σ me) I a ws (viewL c.ch (σ (!me)) me ks) (pc * (if me then p2 else p1))
  | [], _ => by intros; simp [vrecChance, regAddN]
  | _ :: _, [] => by intros; simp [vrecChance, viewL, regAddN]
  | w :: ws, k :: ks => fun pc p1 p2 d acc h => by
    rw [viewL_cons, VOwnFitsL_cons] at h
    rw [vrecChance_cons]
    dsimp only
    rw [effSum_append, vrec_reg c hs σ hc me I a ha k _ _ _ _ h.1,
      vrecChance_reg c hs σ hc me I a ha ws ks _ _ _ _ _ h.2, viewL_cons, regAddN, mul_right_comm]
theorem vrecActs_reg_own (c : VCtx α) (hs : c.sampled = false) (σ : Bool → Strat α) (hc : CtxOf c σ)
    (me : Bool) (I a : Nat) (ha : a < ((σ me).at I).length) (i : Nat) (mult : α) :
    ∀ (ss : List α) (ks : List (Node α)) (pc p1 p2 : α) (d : DrawSt α) (k : Nat) (eo ex : α),
      ks.length ≤ ss.length → VOwnFitsL (σ me) (viewL c.ch (σ (!me)) me ks) →
      effSum (vrecActs c me i mult ss ks pc p1 p2 d k eo ex).2.2.1 me I Slot.regret a
        = regAddD (σ me) I a (viewL c.ch (σ (!me)) me ks) (pc * (if me then p2 else p1))
          + (if i = I ∧ k ≤ a then
              (ks.map (fun n => evV (σ true) (view c.ch (σ false) true n))).getD (a - k) 0 * mult
             else 0)
  | ss, [] => fun pc p1 p2 d k eo ex _ _ => by
    simp [vrecActs_nil_right, viewL, regAddD]
  | [], _ :: _ => fun _ _ _ _ _ _ _ hl _ => absurd hl (Nat.not_succ_le_zero _)
  | s :: ss, n :: ks => fun pc p1 p2 d k eo ex hl h => by
    rw [viewL_cons, VOwnFitsL_cons] at h
    rw [vrecActs_cons']
    dsimp only
    rw [effSum_append, effSum_cons, vrec_reg c hs σ hc me I a ha n _ _ _ _ h.1, ite_ite_self,
      vrec_full_value c hs σ hc n,
      vrecActs_reg_own c hs σ hc me I a ha i mult ss ks _ _ _ _ _ _ _ (Nat.le_of_succ_le_succ hl) h.2,
      viewL_cons, regAddD, List.map_cons, getD_sub_cons]
    simp only [true_and]
    ring
theorem vrecActs_reg_opp (c : VCtx α) (hs : c.sampled = false) (σ : Bool → Strat α) (hc : CtxOf c σ)
    (me : Bool) (I a : Nat) (ha : a < ((σ me).at I).length) (i : Nat) (mult : α) :
    ∀ (ss : List α) (ks : List (Node α)) (pc p1 p2 : α) (d : DrawSt α) (k : Nat) (eo ex : α),
      VOwnFitsL (σ me) (viewL c.ch (σ (!me)) me ks) →
      effSum (vrecActs c (!me) i mult ss ks pc p1 p2 d k eo ex).2.2.1 me I Slot.regret a
        = regAddN (σ me) I a ss (viewL c.ch (σ (!me)) me ks) (pc * (if me then p2 else p1))
  | [], _ => by intros; simp [vrecActs, regAddN]
  | _ :: _, [] => by intros; simp [vrecActs, viewL, regAddN]
  | s :: ss, n :: ks => fun pc p1 p2 d k eo ex h => by
    rw [viewL_cons, VOwnFitsL_cons] at h
    rw [vrecActs_cons']
    dsimp only
    rw [effSum_append, effSum_cons_ne _ _ _ _ _ _ (fun h => Bool.not_ne_self me h.1),
      vrec_reg c hs σ hc me I a ha n _ _ _ _ h.1, ite_ite_not, ← ite_mul, ← mul_assoc,
      vrecActs_reg_opp c hs σ hc me I a ha i mult ss ks _ _ _ _ _ _ _ h.2, viewL_cons, regAddN]
end

/-- the regret accumulations of the unsampled traversal are the instantaneous counterfactual
regrets on the player's view; the rest of the world reaches the subtree with `pc * p_opponent`.

Hypothesis `hfit` (the statement is false without it): at every own decision node the
strategy has an entry for every child.  `vrecActs` zips the strategy with the children, `regAddD`
runs over all children.  Counterexample over `ℚ` (checked with `decide +kernel`):
`n = .player true 0 [.player true 1 [.term 1, .term 2]]`, `σ true = [[], [1/2, 1/2]]`, `σ false = []`,
`c.ch = []`, `pc = p1 = p2 = 1`, `me = true`, `I = 1`, `a = 0`: the traversal visits no child of the
root, so the left side is `0`; the right side is `1 * (1 - 3/2) = -1/2`.
`hfit` follows from `VOK N nActs` of the view and `(σ me).at i` having length `nActs i`
(`VOK.ownFits`). -/
theorem vrec_full_regret (c : VCtx α) (hs : c.sampled = false) (σ : Bool → Strat α) (hc : CtxOf c σ)
    (me : Bool) (n : Node α) (pc p1 p2 : α) (d : DrawSt α) (I a : Nat)
    (ha : a < ((σ me).at I).length)
    (hfit : VOwnFits (σ me) (view c.ch (σ (!me)) me n)) :
    effSum (vrec c n pc p1 p2 d).2.1 me I Slot.regret a
      = regAdd (σ me) I a (view c.ch (σ (!me)) me n) (pc * (if me then p2 else p1)) :=
  vrec_reg c hs σ hc me I a ha n pc p1 p2 d hfit

/-- the average-strategy accumulations of the unsampled traversal are the own-reach-weighted
strategy masses.

Hypothesis `hfit` (the statement is false without it): at every chance node and every
opponent node there is a probability for every child.  `vrecChance` / `vrecActs` zip the
probabilities with the children, `stratAddN` runs over all children.  Counterexample over `ℚ`
(checked with `decide +kernel`): `n = .chance 0 [.player true 0 [.term 1, .term 2]]`, `c.ch = []`
(so the chance node has no probabilities), `σ true = [[1/2, 1/2]]`, `σ false = []`,
`pc = p1 = p2 = 1`, `me = true`, `I = 0`, `a = 0`: the left side is `0`, the right side is `1/2`.
`hfit` follows from `VOK N nActs` of the view (`VOK.natFits`). -/
theorem vrec_full_strat (c : VCtx α) (hs : c.sampled = false) (σ : Bool → Strat α) (hc : CtxOf c σ)
    (me : Bool) (n : Node α) (pc p1 p2 : α) (d : DrawSt α) (I a : Nat)
    (hfit : VNatFits (view c.ch (σ (!me)) me n)) :
    effSum (vrec c n pc p1 p2 d).2.1 me I Slot.strat a
      = stratAdd (σ me) I a (view c.ch (σ (!me)) me n) (if me then p1 else p2) :=
  vrec_str c hs σ hc me I a n pc p1 p2 d hfit

/-! ## the hypotheses `hfit` are necessary (closed counterexamples over `ℚ`) -/

section Counterexamples

/-- own strategy vector shorter than the number of children -/
private def cexNodeR : Node ℚ := .player true 0 [.player true 1 [.term 1, .term 2]]
private def cexσR : Bool → Strat ℚ := fun b => if b then [[], [1/2, 1/2]] else []
private def cexCtxR : VCtx ℚ := ⟨[], false, fun one i => (cexσR one).at i, fun _ _ _ _ => 0, 0⟩

example : CtxOf cexCtxR cexσR := fun _ _ => rfl
example : (0 : Nat) < ((cexσR true).at 1).length := by decide +kernel
example : effSum (vrec cexCtxR cexNodeR 1 1 1 {}).2.1 true 1 Slot.regret 0 = 0 := by
  decide +kernel
example : regAdd (cexσR true) 1 0 (view cexCtxR.ch (cexσR (!true)) true cexNodeR)
    (1 * (if true then 1 else 1)) = -1/2 := by decide +kernel

/-- chance node without probabilities -/
private def cexNodeS : Node ℚ := .chance 0 [.player true 0 [.term 1, .term 2]]
private def cexσS : Bool → Strat ℚ := fun b => if b then [[1/2, 1/2]] else []
private def cexCtxS : VCtx ℚ := ⟨[], false, fun one i => (cexσS one).at i, fun _ _ _ _ => 0, 0⟩

example : CtxOf cexCtxS cexσS := fun _ _ => rfl
example : effSum (vrec cexCtxS cexNodeS 1 1 1 {}).2.1 true 0 Slot.strat 0 = 0 := by
  decide +kernel
example : stratAdd (cexσS true) 0 0 (view cexCtxS.ch (cexσS (!true)) true cexNodeS)
    (if true then 1 else 1) = 1/2 := by decide +kernel

end Counterexamples

end Cfr
