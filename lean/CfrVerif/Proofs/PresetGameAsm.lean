import CfrVerif.Proofs.PresetGameInv
/-!
# The discounted-preset reduction: the weighted argument of `VanillaBound` on the explicit run,
with the weights `(k+1)^γ` and the weighted regrets of the per-infoset traces
-/
set_option linter.unusedSectionVars false
set_option linter.unusedVariables false
namespace Cfr.PG
noncomputable section

theorem weightTotal_nonneg (p : RegretParams ℝ) (T : ℕ) : 0 ≤ weightTotal p.strat T :=
  List.sum_nonneg fun v hv => by
    obtain ⟨k, _, rfl⟩ := List.mem_map.mp hv
    exact (wgt_pos p k).le

/-- the profile iteration `k + 1` reads -/
abbrev prof (g : Game ℝ) (p : RegretParams ℝ) (draw : DrawFn ℝ) (k : ℕ) : Profile ℝ :=
  (run g p draw k).1.profile

theorem weightedRegret_trace (g : Game ℝ) (hg : GameWF g) (p : RegretParams ℝ) (hp : 0 ≤ p.strat)
    (lo hi : ℝ) (hpay : PayIn lo hi g.root) (draw : DrawFn ℝ) (T : ℕ) (me : Bool) (I a : ℕ) (ha : a < nActsOf g me I) :
    (trace g hg p hp lo hi hpay draw T me I).weightedRegret a
      = ((List.range T).map (fun k => wgt p k *
          regAdd (prof g p draw k me) I a (viewOf g (prof g p draw k) me) 1)).sum := by
  simp only [RMTrace.weightedRegret, trace, rof, rvec, Nat.add_sub_cancel]
  apply lmsum_congr
  intro k _
  rw [SI.getD_range_map _ _ a ha]
  rfl

/-- **the reduction**: the true regret of the returned profile times the total weight is at most
the sum of the clamped maximal weighted regrets of all infosets of both players -/
theorem reduction (g : Game ℝ) (hg : GameWF g) (p : RegretParams ℝ) (hp : 0 ≤ p.strat)
    (lo hi : ℝ) (hpay : PayIn lo hi g.root) (draw : DrawFn ℝ) (T : ℕ) (hT : 0 < T) :
    (getInfo g (run g p draw T).1.avg).regret * weightTotal p.strat T
      ≤ ((List.range (g.infos true).length).map
            (fun I => (trace g hg p hp lo hi hpay draw T true I).clampedMax)).sum
        + ((List.range (g.infos false).length).map
            (fun I => (trace g hg p hp lo hi hpay draw T false I).clampedMax)).sum := by
  rw [sum_list_range, sum_list_range]
  exact wreduction g hg (List.range T) (wgt p) (prof g p draw)
    (fun k _ => stOK_profile g _ (run_ok g hg p hp draw k))
    (fun me I => (List.range (nActsOf g me I)).map
      (trace g hg p hp lo hi hpay draw T me I).weightedRegret)
    (fun me I _ => by rw [List.length_map, List.length_range])
    (fun me I _ a ha => by
      rw [SI.getD_range_map _ _ a ha, weightedRegret_trace g hg p hp lo hi hpay draw T me I a ha])
    (run g p draw T).1 (run_ok g hg p hp draw T) (wgt p T) (wgt_pos p T).ne'
    (cumStrat_closed g hg p hp draw T) (weightTotal_nonneg p T)

end
end Cfr.PG
