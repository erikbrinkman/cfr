import CfrVerif.Proofs.PresetGame
import CfrVerif.Proofs.PresetScalar
import CfrVerif.Proofs.RateProps
import CfrVerif.Proofs.PresetGameRange
/-!
# C03, second sentence: the discounted presets (used by `Props/C03.lean`)
-/
set_option linter.unusedSectionVars false
namespace Cfr

noncomputable def presetEnvelope (D : ℝ) (N A T : Nat) : ℝ :=
  6 * D * (N : ℝ) * (Real.sqrt A + 1 / Real.sqrt T) / Real.sqrt T

def IsDiscountedPreset (p : RegretParams ℝ) : Prop :=
  p = RegretParams.lcfr ∨ p = RegretParams.cfrPlus ∨ p = RegretParams.dcfr ∨ p = RegretParams.dcfrPrune

namespace PF

theorem maxD_le (d B : ℝ) (L : List ℝ) (hd : d ≤ B) (h : ∀ y ∈ L, y ≤ B) : maxD d L ≤ B := by
  cases L with
  | nil => simpa [maxD] using hd
  | cons x xs =>
    simp only [maxD]
    exact h _ (foldl_fmax_mem_le xs x).1

theorem clamped_le {p : RegretParams ℝ} {n : Nat} {D : ℝ} {T : Nat} (tr : RMTrace p n D T) (B : ℝ)
    (hB : 0 ≤ B) (h : ∀ a, a < n → tr.weightedRegret a ≤ B) : tr.clampedMax ≤ B := by
  unfold RMTrace.clampedMax
  rw [fmax_eq_max]
  refine max_le (maxD_le 0 B _ hB ?_) hB
  intro y hy
  obtain ⟨a, ha, rfl⟩ := List.mem_map.mp hy
  exact h a (List.mem_range.mp ha)

theorem sum_range_le (m : Nat) (f : Nat → ℝ) (B : ℝ) (h : ∀ I, I < m → f I ≤ B) :
    ((List.range m).map f).sum ≤ (m : ℝ) * B := by
  rw [sum_list_range]
  exact (Finset.sum_le_card_nsmul _ _ _ fun I hI => h I (Finset.mem_range.mp hI)).trans_eq
    (by rw [Finset.card_range, nsmul_eq_mul])

theorem nActs_bounds (g : Game ℝ) (hg : GameWF g) (A : Nat) (hA : ActsLe g A) (me : Bool) (I : Nat)
    (hI : I < (g.infos me).length) : 1 ≤ nActsAt g me I ∧ nActsAt g me I ≤ A := by
  unfold nActsAt
  rw [List.getD_eq_getElem?_getD, List.getElem?_eq_getElem hI]
  simp only [Option.getD_some]
  have hm := List.getElem_mem hI
  exact ⟨by have := hg.actsTwo me _ hm; omega, hA me _ hm⟩

/-- the per-infoset scalar bound, summed over all infosets -/
theorem reduce (g : Game ℝ) (hg : GameWF g) (lo hi : ℝ) (hpay : PayIn lo hi g.root)
    (A : Nat) (hA : ActsLe g A) (p : RegretParams ℝ) (hp0 : 0 ≤ p.strat)
    (hpos : p.posRegret ≠ .negInf) (draw : DrawFn ℝ) (T : Nat) (hT : 0 < T) (hD : 0 ≤ hi - lo)
    (C : ℝ) (hC : 0 ≤ C)
    (hsc : ∀ n, 1 ≤ n → ∀ (tr : RMTrace p n (hi - lo) T) (a : Nat), a < n →
      tr.weightedRegret a ≤ (T : ℝ) ^ p.strat * ((hi - lo) * Real.sqrt (n * T)) + C * (hi - lo)) :
    (getInfo g (solveVanillaSingle g false p draw T none).profile).regret * weightTotal p.strat T
      ≤ ((g.p1.length + g.p2.length : ℕ) : ℝ)
          * ((T : ℝ) ^ p.strat * ((hi - lo) * Real.sqrt (A * T)) + C * (hi - lo)) := by
  obtain ⟨tr, h⟩ := preset_reduction g hg p hp0 hpos lo hi hpay draw T hT
  refine le_trans h ?_
  have hP : 0 ≤ (T : ℝ) ^ p.strat := Real.rpow_nonneg (Nat.cast_nonneg _) _
  have key : ∀ me I, I < (g.infos me).length → (tr me I).clampedMax
      ≤ (T : ℝ) ^ p.strat * ((hi - lo) * Real.sqrt (A * T)) + C * (hi - lo) := by
    intro me I hI
    obtain ⟨h1, h2⟩ := nActs_bounds g hg A hA me I hI
    refine clamped_le _ _
      (add_nonneg (mul_nonneg hP (mul_nonneg hD (Real.sqrt_nonneg _))) (mul_nonneg hC hD))
      fun a ha => (hsc _ h1 (tr me I) a ha).trans (add_le_add ?_ le_rfl)
    -- the infoset has at most `A` actions
    exact mul_le_mul_of_nonneg_left (mul_le_mul_of_nonneg_left (Real.sqrt_le_sqrt
      (mul_le_mul_of_nonneg_right (Nat.cast_le.mpr h2) (Nat.cast_nonneg _))) hD) hP
  rw [Nat.cast_add, add_mul]
  exact add_le_add (sum_range_le _ _ _ fun I hI => key true I hI)
    (sum_range_le _ _ _ fun I hI => key false I hI)

/-- `R ≤ envelope` with the denominators cleared -/
theorem le_envelope (R D : ℝ) (N A T : ℕ) (hT : 0 < T)
    (h : R * T ≤ 6 * D * N * (Real.sqrt A * Real.sqrt T + 1)) : R ≤ presetEnvelope D N A T := by
  have hs : 0 < Real.sqrt T := Real.sqrt_pos.mpr (Nat.cast_pos.mpr hT)
  refine (le_div_iff₀ hs).mpr (le_of_mul_le_mul_right ?_ hs)
  rwa [mul_assoc R, Real.mul_self_sqrt (Nat.cast_nonneg T), mul_assoc (6 * D * N), add_mul, one_div,
    inv_mul_cancel₀ hs.ne']

/-- the arithmetic where the constant is small against the weight, `C ≤ 2·T^γ` (`s = √T`,
`a = √A`, `P = T^γ`): `R·P·T ≤ (γ+1)·N·D·(P·a·s + C) ≤ 3·N·D·P·(a·s + 2)`.  The hypothesis on
`C` is multiplied by `N`, so that nothing is asked of `C` when there is no infoset. -/
theorem arith_main (R D N a s t P C γ W : ℝ) (hR : 0 ≤ R) (hD : 0 ≤ D) (hN : 0 ≤ N) (ha : 0 ≤ a)
    (hs : 0 ≤ s) (hP : 0 < P) (hγ0 : 0 ≤ γ) (hγ2 : γ ≤ 2) (hC0 : 0 ≤ C)
    (hC : N * C ≤ N * (2 * P)) (hW : P * t / (γ + 1) ≤ W)
    (h : R * W ≤ N * (P * (D * (a * s)) + C * D)) : R * t ≤ 6 * D * N * (a * s + 1) := by
  have h1 := (mul_le_mul_of_nonneg_left hW hR).trans h
  rw [← mul_div_assoc, div_le_iff₀ (add_pos_of_nonneg_of_pos hγ0 one_pos)] at h1
  have hX : 0 ≤ N * (P * (D * (a * s)) + C * D) :=
    mul_nonneg hN
      (add_nonneg (mul_nonneg hP.le (mul_nonneg hD (mul_nonneg ha hs))) (mul_nonneg hC0 hD))
  refine le_of_mul_le_mul_left ?_ hP
  linarith [mul_le_mul_of_nonneg_left (add_le_add hγ2 (le_refl 1)) hX,
    mul_le_mul_of_nonneg_left hC hD,
    mul_nonneg (mul_nonneg (mul_nonneg hD hN) hP.le) (mul_nonneg ha hs)]

/-- the arithmetic for `T ≤ 36` and at least one infoset: already the trivial bound `R ≤ D` is
below the envelope -/
theorem arith_small (R D N a s t : ℝ) (hst : s * s = t) (hRD : R ≤ D) (hD : 0 ≤ D) (hN : 1 ≤ N)
    (ha : 1 ≤ a) (hs : 0 ≤ s) (hs6 : s ≤ 6) : R * t ≤ 6 * D * N * (a * s + 1) := by
  subst hst
  have hDs : 0 ≤ D * s := mul_nonneg hD hs
  have hDas : 0 ≤ D * s * a := mul_nonneg hDs (zero_le_one.trans ha)
  linarith [mul_le_mul_of_nonneg_right hRD (mul_self_nonneg s), mul_le_mul_of_nonneg_left hs6 hDs,
    mul_le_mul_of_nonneg_left ha hDs, mul_le_mul_of_nonneg_left hN hDas,
    mul_nonneg hD (zero_le_one.trans hN)]

/-- `R` is the regret, `W ≥ T^{γ+1}/(γ+1)` the sum of the weights, `h` the
summed scalar bounds; the constant `C` of the preset has to be small against `T^γ`, or `T` small. -/
theorem final_arith (R D W γ C : ℝ) (N A T : ℕ) (hR : 0 ≤ R) (hRD : R ≤ D) (hT : 0 < T)
    (hA : 1 ≤ A) (hγ0 : 0 ≤ γ) (hγ2 : γ ≤ 2) (hC0 : 0 ≤ C)
    (hW : (T : ℝ) ^ (γ + 1) / (γ + 1) ≤ W)
    (h : R * W ≤ (N : ℝ) * ((T : ℝ) ^ γ * (D * Real.sqrt (A * T)) + C * D))
    (hC : C ≤ 2 * (T : ℝ) ^ γ ∨ T ≤ 36) : R ≤ presetEnvelope D N A T := by
  have hD : 0 ≤ D := hR.trans hRD
  have hT0 : (0 : ℝ) < T := Nat.cast_pos.mpr hT
  have hN : (0 : ℝ) ≤ N := Nat.cast_nonneg N
  have hC' : (N : ℝ) * C ≤ N * (2 * (T : ℝ) ^ γ) ∨ ((1 : ℝ) ≤ N ∧ T ≤ 36) := by
    rcases Nat.eq_zero_or_pos N with rfl | hN1
    · left; simp
    · exact hC.imp (fun h => mul_le_mul_of_nonneg_left h hN) (fun h => ⟨Nat.one_le_cast.mpr hN1, h⟩)
  rw [Real.rpow_add_one hT0.ne'] at hW
  rw [Real.sqrt_mul (Nat.cast_nonneg A)] at h
  apply le_envelope R D N A T hT
  rcases hC' with hC' | ⟨hN1, hT36⟩
  · exact arith_main R D N _ _ T _ C γ W hR hD hN (Real.sqrt_nonneg _) (Real.sqrt_nonneg _)
      (Real.rpow_pos_of_pos hT0 γ) hγ0 hγ2 hC0 hC' hW h
  · refine arith_small R D N _ _ T (Real.mul_self_sqrt hT0.le) hRD hD hN1
      (Real.one_le_sqrt.mpr (Nat.one_le_cast.mpr hA)) (Real.sqrt_nonneg _)
      ((Real.sqrt_le_left (by norm_num)).mpr ?_)
    norm_num
    exact_mod_cast hT36

theorem regret_nonneg (g : Game ℝ) (σ : Profile ℝ) : 0 ≤ (getInfo g σ).regret := by
  simp only [StrategiesInfo.regret, getInfo, fmax_eq_max]
  exact le_max_of_le_left (le_max_right _ _)

theorem profile_ok (g : Game ℝ) (hg : GameWF g) (p : RegretParams ℝ) (hp : p.OK) (draw : DrawFn ℝ)
    (T : Nat) : ProfileOK g (solveVanillaSingle g false p draw T none).profile := by
  have w := vanilla_single_wellformed g hg false p hp draw T none
  intro me
  cases me
  · simpa [SolveOut.profile] using w.stratTwo
  · simpa [SolveOut.profile] using w.stratOne

theorem preset_ok (p : RegretParams ℝ) (hp : p = RegretParams.vanilla ∨ IsDiscountedPreset p) :
    p.OK := by
  rcases hp with rfl | rfl | rfl | rfl | rfl
  · exact presets_ok.1
  · exact presets_ok.2.1
  · exact presets_ok.2.2.1
  · exact presets_ok.2.2.2.1
  · exact presets_ok.2.2.2.2.1

theorem range_facts (g : Game ℝ) (hg : GameWF g) (lo hi : ℝ) (hpay : PayIn lo hi g.root)
    (p : RegretParams ℝ) (hp : p.OK) (draw : DrawFn ℝ) (T : Nat) :
    0 ≤ (getInfo g (solveVanillaSingle g false p draw T none).profile).regret ∧
    (getInfo g (solveVanillaSingle g false p draw T none).profile).regret ≤ hi - lo ∧
    0 ≤ hi - lo := by
  have h0 := regret_nonneg g (solveVanillaSingle g false p draw T none).profile
  have h1 := regret_le_range g hg lo hi hpay _ (profile_ok g hg p hp draw T)
  exact ⟨h0, h1, le_trans h0 h1⟩

/-- the discounted presets, from the scalar theorem of the preset (`γ` its averaging exponent,
`C` its constant) -/
theorem rate_of_scalar (g : Game ℝ) (hg : GameWF g) (lo hi : ℝ) (hpay : PayIn lo hi g.root)
    (A : Nat) (hA : ActsLe g A) (hA1 : 1 ≤ A) (p : RegretParams ℝ) (hp : p.OK) (draw : DrawFn ℝ)
    (T : Nat) (hT : 0 < T) (γ : ℝ) (hγ : p.strat = γ) (hγ0 : 0 ≤ γ) (hγ2 : γ ≤ 2)
    (hpos : p.posRegret ≠ .negInf) (C : ℝ) (hC0 : 0 ≤ C) (hC : C ≤ 2 * (T : ℝ) ^ γ ∨ T ≤ 36)
    (hsc : ∀ n, 1 ≤ n → ∀ D : ℝ, 0 ≤ D → ∀ (tr : RMTrace p n D T) (a : Nat), a < n →
      tr.weightedRegret a ≤ (T : ℝ) ^ γ * (D * Real.sqrt (n * T)) + C * D) :
    (getInfo g (solveVanillaSingle g false p draw T none).profile).regret
      ≤ presetEnvelope (hi - lo) (g.p1.length + g.p2.length) A T := by
  subst hγ
  obtain ⟨hR0, hRD, hD⟩ := range_facts g hg lo hi hpay p hp draw T
  have h := reduce g hg lo hi hpay A hA p hγ0 hpos draw T hT hD C hC0
    (fun n hn tr a ha => hsc n hn _ hD tr a ha)
  exact final_arith _ _ _ _ C _ A T hR0 hRD hT hA1 hγ0 hγ2 hC0 (weightTotal_ge _ hγ0 T) h hC

theorem envelope_le (D : ℝ) (hD : 0 ≤ D) (N A T : Nat) (hT : 0 < T) :
    presetEnvelope D N A T ≤ 6 * D * (N : ℝ) * (Real.sqrt A + 1) / Real.sqrt T := by
  have hinv : 1 / Real.sqrt T ≤ 1 :=
    div_le_one_of_le₀ (Real.one_le_sqrt.mpr (Nat.one_le_cast.mpr hT)) (Real.sqrt_nonneg _)
  exact div_le_div_of_nonneg_right (mul_le_mul_of_nonneg_left (add_le_add le_rfl hinv)
    (mul_nonneg (mul_nonneg (by norm_num) hD) (Nat.cast_nonneg N))) (Real.sqrt_nonneg _)

theorem two_le (T : ℕ) (hT : 0 < T) (γ : ℝ) (hγ : 0 ≤ γ) : (2 : ℝ) ≤ 2 * (T : ℝ) ^ γ :=
  le_mul_of_one_le_right zero_le_two (Real.one_le_rpow (Nat.one_le_cast.mpr hT) hγ)

end PF

/-- **every documented preset**: after `T` iterations of the unsampled solver (no early
termination) the true regret of the returned profile is at most `6·D·N·(√A + 1/√T)/√T`, where
`D = hi − lo` is the payoff range, `N` the number of decision infosets of both players, `A ≥ 2` a
bound on the number of actions per infoset -/
theorem full_preset_rate (g : Game ℝ) (hg : GameWF g) (lo hi : ℝ) (hpay : PayIn lo hi g.root)
    (A : Nat) (hA : ActsLe g A) (hA2 : 2 ≤ A) (p : RegretParams ℝ)
    (hp : p = RegretParams.vanilla ∨ IsDiscountedPreset p) (draw : DrawFn ℝ) (T : Nat) (hT : 0 < T) :
    (getInfo g (solveVanillaSingle g false p draw T none).profile).regret
      ≤ presetEnvelope (hi - lo) (g.p1.length + g.p2.length) A T := by
  have hok := PF.preset_ok p hp
  have hA1 : 1 ≤ A := by omega
  rcases hp with rfl | rfl | rfl | rfl | rfl
  · obtain ⟨-, -, hD⟩ := PF.range_facts g hg lo hi hpay _ hok draw T
    exact full_preset_rate_partial g hg lo hi (sub_nonneg.mp hD) hpay A hA draw T hT
  · exact PF.rate_of_scalar g hg lo hi hpay A hA hA1 _ hok draw T hT 1 rfl zero_le_one
      one_le_two nofun (presetConst 0) le_rfl
      (Or.inl (zero_le_two.trans (PF.two_le T hT 1 zero_le_one)))
      (fun n hn D hD tr a ha => lcfr_weighted_regret n hn D hD T tr a ha)
  · exact PF.rate_of_scalar g hg lo hi hpay A hA hA1 _ hok draw T hT 2 two_eq zero_le_two
      le_rfl nofun (presetConst 1) le_rfl
      (Or.inl (zero_le_two.trans (PF.two_le T hT 2 zero_le_two)))
      (fun n hn D hD tr a ha => cfrPlus_weighted_regret n hn D hD T tr a ha)
  · exact PF.rate_of_scalar g hg lo hi hpay A hA hA1 _ hok draw T hT 2 two_eq zero_le_two
      le_rfl nofun (presetConst 2) zero_le_two (Or.inl (PF.two_le T hT 2 zero_le_two))
      (fun n hn D hD tr a ha => dcfr_weighted_regret n hn D hD T tr a ha)
  · refine PF.rate_of_scalar g hg lo hi hpay A hA hA1 _ hok draw T hT 2 two_eq zero_le_two
      le_rfl nofun (presetConst 3) (by norm_num [presetConst]) ?_
      (fun n hn D hD tr a ha => dcfrPrune_weighted_regret n hn D hD T tr a ha)
    -- `250 ≤ 2·T²` from `T = 12` on
    refine (Nat.lt_or_ge T 12).symm.imp (fun h12 => ?_) (fun h12 => by omega)
    rw [Real.rpow_two]
    calc presetConst 3 ≤ 2 * (12 : ℝ) ^ 2 := by norm_num [presetConst]
      _ ≤ 2 * (T : ℝ) ^ 2 := mul_le_mul_of_nonneg_left
          (pow_le_pow_left₀ (by norm_num) (Nat.ofNat_le_cast.mpr h12) 2) zero_le_two

/-- every thread count -/
theorem full_preset_rate_multi (sched : Sched ℝ) (hs : sched.Fair) (g : Game ℝ) (hg : GameWF g)
    (lo hi : ℝ) (hpay : PayIn lo hi g.root) (A : Nat) (hA : ActsLe g A) (hA2 : 2 ≤ A)
    (p : RegretParams ℝ) (hp : p = RegretParams.vanilla ∨ IsDiscountedPreset p) (draw : DrawFn ℝ)
    (T : Nat) (hT : 0 < T) (target : Nat) :
    (getInfo g (solveVanillaMultiS sched g false p draw T none target).profile).regret
      ≤ presetEnvelope (hi - lo) (g.p1.length + g.p2.length) A T := by
  rw [full_multi_eq_single sched hs]
  exact full_preset_rate g hg lo hi hpay A hA hA2 p hp draw T hT

/-- regret tends to zero with every preset -/
theorem full_preset_regret_tendsto_zero (g : Game ℝ) (hg : GameWF g) (lo hi : ℝ)
    (hpay : PayIn lo hi g.root) (A : Nat) (hA : ActsLe g A) (hA2 : 2 ≤ A) (p : RegretParams ℝ)
    (hp : p = RegretParams.vanilla ∨ IsDiscountedPreset p) (draw : DrawFn ℝ) :
    ∀ ε : ℝ, 0 < ε → ∃ T0 : Nat, ∀ T : Nat, T0 ≤ T →
      (getInfo g (solveVanillaSingle g false p draw T none).profile).regret ≤ ε := by
  intro ε hε
  obtain ⟨-, -, hD⟩ := PF.range_facts g hg lo hi hpay p (PF.preset_ok p hp) draw 0
  obtain ⟨T0, hT0, h⟩ := const_div_sqrt_eventually
    (6 * (hi - lo) * ((g.p1.length + g.p2.length : Nat) : ℝ) * (Real.sqrt A + 1)) ε hε
  refine ⟨T0, fun T hT => ?_⟩
  have hTpos : 0 < T := by omega
  exact le_trans (full_preset_rate g hg lo hi hpay A hA hA2 p hp draw T hTpos)
    (le_trans (PF.envelope_le _ hD _ A T hTpos) (h T hT))

/-- the hypotheses are satisfiable: the default preset (DCFR) on a concrete game with one infoset
per player, two actions, payoffs in `[-1, 1]` -/
example (draw : DrawFn ℝ) (T : ℕ) (hT : 0 < T) :
    (getInfo C05.tinyGame
        (solveVanillaSingle C05.tinyGame false RegretParams.dcfr draw T none).profile).regret
      ≤ presetEnvelope (1 - -1) (C05.tinyGame.p1.length + C05.tinyGame.p2.length) 2 T :=
  full_preset_rate C05.tinyGame C05.tinyGame_wf (-1) 1 C05.tinyGame_payIn 2 C05.tinyGame_actsLe
    le_rfl RegretParams.dcfr (Or.inr (Or.inr (Or.inr (Or.inl rfl)))) draw T hT

end Cfr
