import CfrVerif.Proofs.GameWFLemmas
import CfrVerif.Proofs.Traversal
import CfrVerif.Proofs.NodeInd
import CfrVerif.Model.Locks
import CfrVerif.Proofs.Effects
import CfrVerif.Proofs.FrontierBase
/-!
# Frontier decomposition for the external-sampling multi-threaded pass

First, on its own, the count behind "an infoset of the updating player is visited at most once per
pass".  Then the decomposition, as in `Frontier`: from a draw state consistent with the oracle a
traversal is a pure function `precC` of the oracle's answers, listing its accumulations and sample
requests in order; the breadth-first frontier is a cut of the tree those answers select, so the
tasks below the cut and the cached traversal from the root redo the plain traversal, the draw log
up to order.  Last, the solver state keeps one strategy entry per action (`EShape`), which carries
one pass over to iterations and the solve.
-/
set_option linter.unusedSectionVars false
namespace Cfr
variable {α : Type} [Field α] [LinearOrder α] [IsStrictOrderedRing α] [Transc α]

/-! ## an infoset of the updating player is visited at most once per pass -/

/-- the accumulations counted by `active_infoset_visited_once` -/
def EHit (first : Bool) (i : Nat) (e : Eff α) : Bool :=
  e.one == first && e.info == i && e.slot == Slot.regret && e.act == 0

theorem Slot.strat_beq_regret : (Slot.strat == Slot.regret) = false := rfl
theorem Slot.regret_beq_regret : (Slot.regret == Slot.regret) = true := rfl

theorem EHit_extStratEffs (first : Bool) (i : Nat) (one : Bool) (j : Nat) (σ : List α) (a : Nat) :
    (extStratEffs one j σ a).countP (EHit first i) = 0 := by
  induction σ generalizing a with
  | nil => simp [extStratEffs]
  | cons s σ ih =>
    simp only [extStratEffs, List.countP_cons, ih]
    simp [EHit, Slot.strat_beq_regret]

theorem EHit_subEffsE_le (first : Bool) (i : Nat) (one : Bool) (j : Nat) (ex : α) (n : Nat) :
    (subEffsE one j ex n).countP (EHit first i) ≤ 1 := by
  unfold subEffsE
  cases n with
  | zero => simp
  | succ n =>
    rw [List.range_succ_eq_map, List.map_cons, List.map_map, List.countP_cons, List.countP_map]
    have : List.countP (EHit first i ∘ (fun a => (⟨one, j, Slot.regret, a, -ex⟩ : Eff α)) ∘ Nat.succ)
        (List.range n) = 0 := by
      rw [List.countP_eq_zero]
      intro a _
      simp [EHit]
    rw [this]
    split_ifs <;> omega

theorem EHit_subEffsE_ne (first : Bool) (i : Nat) (one : Bool) (j : Nat) (ex : α) (n : Nat)
    (h : j ≠ i) : (subEffsE one j ex n).countP (EHit first i) = 0 := by
  unfold subEffsE
  rw [List.countP_eq_zero]
  intro e he
  obtain ⟨a, _, rfl⟩ := List.mem_map.mp he
  simp [EHit, h]

theorem EHit_regret_false (first : Bool) (i : Nat) (one : Bool) (j a : Nat) (v : α)
    (h : j ≠ i ∨ a ≠ 0) : EHit first i ⟨one, j, Slot.regret, a, v⟩ = false := by
  rcases h with h | h <;> simp [EHit, h]

section
variable (c : ECtx α) (hist : Nat → Hist) (i : Nat) (ks : List (Node α))
  (h : ∀ n ∈ ks, ∀ (H : Hist) (d : DrawSt α), PR c.first hist H n →
    ((erec c n d).2.1.countP (EHit c.first i) ≤ 2 ∧
     (0 < (erec c n d).2.1.countP (EHit c.first i) → H <+: hist i)))
include h

theorem erecNth_hit_of :
    ∀ (k : Nat) (H : Hist) (d : DrawSt α), PRL c.first hist H ks →
      ((erecNth c ks k d).2.1.countP (EHit c.first i) ≤ 2 ∧
       (0 < (erecNth c ks k d).2.1.countP (EHit c.first i) → H <+: hist i)) := by
  induction ks with
  | nil => exact fun _ _ _ _ => ⟨Nat.zero_le _, fun h => absurd h (Nat.lt_irrefl 0)⟩
  | cons n ks ih =>
    intro k H d hL
    cases k with
    | zero => exact h n List.mem_cons_self H d hL.1
    | succ k => exact ih (fun n hn => h n (List.mem_cons_of_mem _ hn)) k H d hL.2

/-- The loop over the actions at infoset `j`.  If `j ≠ i`, at most one child lies on the history
of `i`, so at most one child's traversal counts; if `j = i` no child does, and the loop itself
counts the accumulation for action `0`. -/
theorem erecActs_hit_of (one : Bool) (j : Nat) :
    ∀ (σ : List α) (H : Hist) (d : DrawSt α) (a : Nat) (ex : α),
      PRD c.first hist H j a ks →
      (j ≠ i → ((erecActs c one j σ ks d a ex).2.1.countP (EHit c.first i) ≤ 2 ∧
        (0 < (erecActs c one j σ ks d a ex).2.1.countP (EHit c.first i) →
          ∃ a', a ≤ a' ∧ (H ++ [(j, a')]) <+: hist i))) ∧
      (j = i → hist i = H →
        (erecActs c one j σ ks d a ex).2.1.countP (EHit c.first i) ≤ (if a = 0 then 1 else 0)) := by
  induction ks with
  | nil =>
    intro σ H d a ex _
    rw [erecActs_nil_right]
    exact ⟨fun _ => ⟨Nat.zero_le _, fun h => absurd h (Nat.lt_irrefl 0)⟩, fun _ _ => Nat.zero_le _⟩
  | cons k ks ih =>
    intro σ H d a ex hD
    cases σ with
    | nil =>
      rw [erecActs_nil_left]
      exact ⟨fun _ => ⟨Nat.zero_le _, fun h => absurd h (Nat.lt_irrefl 0)⟩, fun _ _ => Nat.zero_le _⟩
    | cons s σ =>
      obtain ⟨hk, hks⟩ := hD
      rw [erecActs_cons_eq]
      simp only [List.countP_append, List.countP_cons]
      have hc := h k List.mem_cons_self (H ++ [(j, a)]) d hk
      have hr := ih (fun n hn => h n (List.mem_cons_of_mem _ hn)) σ H (erec c k d).2.2
        (a + 1) (ex + s * (erec c k d).1) hks
      -- `x` counts in the traversal of child `a`, `y` in the rest of the loop
      generalize (erec c k d).2.1.countP (EHit c.first i) = x at hc ⊢
      generalize (erecActs c one j σ ks (erec c k d).2.2 (a + 1)
        (ex + s * (erec c k d).1)).2.1.countP (EHit c.first i) = y at hr ⊢
      obtain ⟨c1, c2⟩ := hc
      obtain ⟨r1, r2⟩ := hr
      constructor
      · intro hj
        rw [EHit_regret_false c.first i one j a _ (Or.inl hj)]
        simp only [Bool.false_eq_true, if_false, Nat.add_zero]
        obtain ⟨r3, r4⟩ := r1 hj
        by_cases hp1 : 0 < x
        · by_cases hp2 : 0 < y
          · obtain ⟨a', ha', hpre⟩ := r4 hp2
            have := prefix_snoc_inj (c2 hp1) hpre
            simp only [Prod.mk.injEq, true_and] at this
            omega
          · refine ⟨by omega, fun _ => ⟨a, le_refl _, c2 hp1⟩⟩
        · refine ⟨by omega, fun hp => ?_⟩
          obtain ⟨a', ha', hpre⟩ := r4 (by omega)
          exact ⟨a', by omega, hpre⟩
      · intro hj hH
        have h0 : x = 0 := Nat.eq_zero_of_not_pos fun hx => by
          have := (c2 hx).length_le
          rw [hH, List.length_append] at this
          exact Nat.not_succ_le_self _ this
        have h1 := r2 hj hH
        rw [if_neg (by omega)] at h1
        rw [h0]
        by_cases ha : a = 0
        · rw [if_pos ha]; split <;> omega
        · rw [if_neg ha, EHit_regret_false c.first i one j a _ (Or.inr ha)]
          simp only [Bool.false_eq_true, if_false]
          omega

end

theorem erec_hit (c : ECtx α) (hist : Nat → Hist) (i : Nat) (n : Node α) :
    ∀ (H : Hist) (d : DrawSt α), PR c.first hist H n →
      ((erec c n d).2.1.countP (EHit c.first i) ≤ 2 ∧
       (0 < (erec c n d).2.1.countP (EHit c.first i) → H <+: hist i)) := by
  induction n using Node.induct with
  | term p => exact fun _ _ _ => ⟨Nat.zero_le _, fun h => absurd h (Nat.lt_irrefl 0)⟩
  | chance j ks ih =>
    intro H d h
    rw [erec_chance_eq]
    exact erecNth_hit_of c hist i ks ih _ H _ h
  | player one j ks ih =>
    intro H d h
    by_cases ho : (one == c.first) = true
    · rw [erec_own_eq c one j ks d ho]
      have ho' : one = c.first := by simpa using ho
      obtain ⟨hH, hD⟩ := (by simpa [PR, ho'] using h : hist j = H ∧ PRD c.first hist H j 0 ks)
      simp only [List.countP_append]
      obtain ⟨h1, h2⟩ := erecActs_hit_of c hist i ks ih one j (c.strat one j) H d 0 0 hD
      by_cases hj : j = i
      · subst hj
        have h3 := h2 rfl hH
        have h4 := EHit_subEffsE_le c.first j one j
          (erecActs c one j (c.strat one j) ks d 0 0).1 (c.strat one j).length
        simp only [if_true] at h3
        refine ⟨by omega, fun _ => hH ▸ List.prefix_refl _⟩
      · have h3 := h1 hj
        rw [EHit_subEffsE_ne _ _ _ _ _ _ hj, Nat.add_zero]
        refine ⟨h3.1, fun hp => ?_⟩
        obtain ⟨a', _, hpre⟩ := h3.2 hp
        exact (List.prefix_append _ _).trans hpre
    · rw [erec_opp_eq c one j ks d ho]
      have ho' : ¬ one = c.first := by simpa using ho
      have hL : PRL c.first hist H ks := by simpa [PR, ho'] using h
      simp only [List.countP_append, EHit_extStratEffs, Nat.zero_add]
      exact erecNth_hit_of c hist i ks ih _ H _ hL

theorem erecNth_hit (c : ECtx α) (hist : Nat → Hist) (i : Nat) :
    ∀ (ks : List (Node α)) (k : Nat) (H : Hist) (d : DrawSt α), PRL c.first hist H ks →
      ((erecNth c ks k d).2.1.countP (EHit c.first i) ≤ 2 ∧
       (0 < (erecNth c ks k d).2.1.countP (EHit c.first i) → H <+: hist i)) :=
  fun ks => erecNth_hit_of c hist i ks fun n _ => erec_hit c hist i n
theorem erecActs_hit (c : ECtx α) (hist : Nat → Hist) (i : Nat) (one : Bool) (j : Nat) :
    ∀ (σ : List α) (ks : List (Node α)) (H : Hist) (d : DrawSt α) (a : Nat) (ex : α),
      PRD c.first hist H j a ks →
      (j ≠ i → ((erecActs c one j σ ks d a ex).2.1.countP (EHit c.first i) ≤ 2 ∧
        (0 < (erecActs c one j σ ks d a ex).2.1.countP (EHit c.first i) →
          ∃ a', a ≤ a' ∧ (H ++ [(j, a')]) <+: hist i))) ∧
      (j = i → hist i = H →
        (erecActs c one j σ ks d a ex).2.1.countP (EHit c.first i) ≤ (if a = 0 then 1 else 0)) :=
  fun σ ks => erecActs_hit_of c hist i ks (fun n _ => erec_hit c hist i n) one j σ

/-- **an infoset of the updating player is visited at most once in a pass** (perfect recall) -/
theorem erec_hit_le_two (c : ECtx α) (hist : Nat → Hist) (i : Nat) (n : Node α) (d : DrawSt α)
    (h : PR c.first hist [] n) : (erec c n d).2.1.countP (EHit c.first i) ≤ 2 :=
  (erec_hit c hist i n [] d h).1

/-! ## the traversal as a pure function of the oracle's answers

Under a *consistent* draw state (every cached sample is the oracle's answer) a traversal's value
and accumulations do not depend on the caches: `precC` is the traversal with the oracle's answers
substituted, returning the value and the list of *events* (atomic accumulations and sample
requests) in the order in which they happen. -/

/-- a sample request: a chance infoset or an infoset of the non-updating player -/
inductive EReq where
  | ch (i : Nat)
  | pl (i : Nat)
  deriving DecidableEq

inductive EEv (α : Type) where
  | eff (e : Eff α)
  | req (r : EReq)

def EEv.getEff : EEv α → Option (Eff α)
  | .eff e => some e
  | .req _ => none
def EEv.getReq : EEv α → Option EReq
  | .eff _ => none
  | .req r => some r
def effsOf (l : List (EEv α)) : List (Eff α) := l.filterMap EEv.getEff
def reqsOf (l : List (EEv α)) : List EReq := l.filterMap EEv.getReq

@[simp] theorem effsOf_nil : effsOf ([] : List (EEv α)) = [] := rfl
@[simp] theorem reqsOf_nil : reqsOf ([] : List (EEv α)) = [] := rfl
@[simp] theorem effsOf_append (a b : List (EEv α)) : effsOf (a ++ b) = effsOf a ++ effsOf b := by
  simp [effsOf]
@[simp] theorem reqsOf_append (a b : List (EEv α)) : reqsOf (a ++ b) = reqsOf a ++ reqsOf b := by
  simp [reqsOf]
@[simp] theorem effsOf_cons_eff (e : Eff α) (l : List (EEv α)) :
    effsOf (.eff e :: l) = e :: effsOf l := by simp [effsOf, EEv.getEff]
@[simp] theorem effsOf_cons_req (r : EReq) (l : List (EEv α)) :
    effsOf (.req r :: l) = effsOf l := by
  simp only [effsOf]; rw [List.filterMap_cons_none]; rfl
@[simp] theorem reqsOf_cons_eff (e : Eff α) (l : List (EEv α)) :
    reqsOf (.eff e :: l) = reqsOf l := by
  simp only [reqsOf]; rw [List.filterMap_cons_none]; rfl
@[simp] theorem reqsOf_cons_req (r : EReq) (l : List (EEv α)) :
    reqsOf (.req r :: l) = r :: reqsOf l := by simp [reqsOf, EEv.getReq]
@[simp] theorem effsOf_map_eff (l : List (Eff α)) : effsOf (l.map EEv.eff) = l := by
  induction l with
  | nil => rfl
  | cons e l ih => simp [ih]
@[simp] theorem reqsOf_map_eff (l : List (Eff α)) : reqsOf (l.map EEv.eff) = [] := by
  induction l with
  | nil => rfl
  | cons e l ih => simp [ih]

/-- the oracle's answer at chance infoset `i` in this pass -/
def ECtx.oc (c : ECtx α) (i : Nat) : Nat := c.draw 0 i c.chancePass (c.ch.getD i [])
/-- the oracle's answer at infoset `i` of the non-updating player in this pass -/
def ECtx.op (c : ECtx α) (i : Nat) : Nat :=
  c.draw (if !c.first then 1 else 2) i c.playerPass (c.strat (!c.first) i)

mutual
def precC (c : ECtx α) (cache : List (Path × α)) : Node α → Path → α × List (EEv α)
  | n, path =>
    match cacheGet cache path with
    | some pay => (pay, [])
    | none =>
      match n with
      | .term p => (if c.first then p else -p, [])
      | .chance i ks =>
        ((precCNth c cache ks (c.oc i) (path ++ [c.oc i])).1,
          .req (.ch i) :: (precCNth c cache ks (c.oc i) (path ++ [c.oc i])).2)
      | .player one i ks =>
        if one == c.first then
          ((precCActs c cache one i (c.strat one i) ks path 0 0).1,
           (precCActs c cache one i (c.strat one i) ks path 0 0).2 ++
             (subEffsE one i (precCActs c cache one i (c.strat one i) ks path 0 0).1
               (c.strat one i).length).map .eff)
        else
          ((precCNth c cache ks (c.op i) (path ++ [c.op i])).1,
           .req (.pl i) :: ((extStratEffs one i (c.strat one i) 0).map .eff ++
             (precCNth c cache ks (c.op i) (path ++ [c.op i])).2))
def precCNth (c : ECtx α) (cache : List (Path × α)) : List (Node α) → Nat → Path → α × List (EEv α)
  | [], _, _ => (0, [])
  | k :: _, 0, path => precC c cache k path
  | _ :: ks, n + 1, path => precCNth c cache ks n path
def precCActs (c : ECtx α) (cache : List (Path × α)) (one : Bool) (i : Nat) :
    List α → List (Node α) → Path → Nat → α → α × List (EEv α)
  | s :: σ, k :: ks, path, a, ex =>
    ((precCActs c cache one i σ ks path (a + 1) (ex + s * (precC c cache k (path ++ [a])).1)).1,
     (precC c cache k (path ++ [a])).2 ++
       .eff ⟨one, i, .regret, a, (precC c cache k (path ++ [a])).1⟩ ::
       (precCActs c cache one i σ ks path (a + 1) (ex + s * (precC c cache k (path ++ [a])).1)).2)
  | _, _, _, _, ex => (ex, [])
end

theorem precC_hit (c : ECtx α) (cache : List (Path × α)) (n : Node α) (path : Path) (v : α)
    (h : cacheGet cache path = some v) : precC c cache n path = (v, []) := by
  cases n <;> simp only [precC, h]

theorem precC_term (c : ECtx α) (cache : List (Path × α)) (p : α) (path : Path)
    (h : cacheGet cache path = none) :
    precC c cache (.term p) path = (if c.first then p else -p, []) := by
  simp only [precC, h]

theorem precC_chance (c : ECtx α) (cache : List (Path × α)) (i : Nat) (ks : List (Node α))
    (path : Path) (h : cacheGet cache path = none) :
    precC c cache (.chance i ks) path =
      ((precCNth c cache ks (c.oc i) (path ++ [c.oc i])).1,
        .req (.ch i) :: (precCNth c cache ks (c.oc i) (path ++ [c.oc i])).2) := by
  simp only [precC, h]

theorem precC_own (c : ECtx α) (cache : List (Path × α)) (one : Bool) (i : Nat)
    (ks : List (Node α)) (path : Path) (h : cacheGet cache path = none)
    (ho : (one == c.first) = true) :
    precC c cache (.player one i ks) path =
      ((precCActs c cache one i (c.strat one i) ks path 0 0).1,
       (precCActs c cache one i (c.strat one i) ks path 0 0).2 ++
         (subEffsE one i (precCActs c cache one i (c.strat one i) ks path 0 0).1
           (c.strat one i).length).map .eff) := by
  simp only [precC, h, if_pos ho]

theorem precC_opp (c : ECtx α) (cache : List (Path × α)) (one : Bool) (i : Nat)
    (ks : List (Node α)) (path : Path) (h : cacheGet cache path = none)
    (ho : ¬ (one == c.first) = true) :
    precC c cache (.player one i ks) path =
      ((precCNth c cache ks (c.op i) (path ++ [c.op i])).1,
       .req (.pl i) :: ((extStratEffs one i (c.strat one i) 0).map .eff ++
         (precCNth c cache ks (c.op i) (path ++ [c.op i])).2)) := by
  simp only [precC, h, if_neg ho]

theorem precCActs_cons (c : ECtx α) (cache : List (Path × α)) (one : Bool) (i : Nat) (s : α)
    (σ : List α) (k : Node α) (ks : List (Node α)) (path : Path) (a : Nat) (ex : α) :
    precCActs c cache one i (s :: σ) (k :: ks) path a ex =
    ((precCActs c cache one i σ ks path (a + 1) (ex + s * (precC c cache k (path ++ [a])).1)).1,
     (precC c cache k (path ++ [a])).2 ++
       .eff ⟨one, i, .regret, a, (precC c cache k (path ++ [a])).1⟩ ::
       (precCActs c cache one i σ ks path (a + 1) (ex + s * (precC c cache k (path ++ [a])).1)).2) := by
  simp only [precCActs]

theorem precCActs_nil_left (c : ECtx α) (cache : List (Path × α)) (one : Bool) (i : Nat)
    (ks : List (Node α)) (path : Path) (a : Nat) (ex : α) :
    precCActs c cache one i [] ks path a ex = (ex, []) := by
  simp only [precCActs]

theorem precCActs_nil_right (c : ECtx α) (cache : List (Path × α)) (one : Bool) (i : Nat)
    (σ : List α) (path : Path) (a : Nat) (ex : α) :
    precCActs c cache one i σ [] path a ex = (ex, []) := by
  cases σ <;> simp only [precCActs]

/-! ### the cached traversal of the model, unfolded -/

theorem erecC_hit (c : ECtx α) (cache : List (Path × α)) (n : Node α) (path : Path) (d : DrawSt α)
    (v : α) (h : cacheGet cache path = some v) : erecC c cache n path d = (v, [], d) := by
  cases n <;> simp only [erecC, h]

theorem erecC_term (c : ECtx α) (cache : List (Path × α)) (p : α) (path : Path) (d : DrawSt α)
    (h : cacheGet cache path = none) :
    erecC c cache (.term p) path d = (if c.first then p else -p, [], d) := by
  simp only [erecC, h]

theorem erecC_chance (c : ECtx α) (cache : List (Path × α)) (i : Nat) (ks : List (Node α))
    (path : Path) (d : DrawSt α) (h : cacheGet cache path = none) :
    erecC c cache (.chance i ks) path d =
      erecCNth c cache ks (sampleChance c.draw c.chancePass (c.ch.getD i []) i d).1
        (path ++ [(sampleChance c.draw c.chancePass (c.ch.getD i []) i d).1])
        (sampleChance c.draw c.chancePass (c.ch.getD i []) i d).2 := by
  simp only [erecC, h]

theorem erecC_own (c : ECtx α) (cache : List (Path × α)) (one : Bool) (i : Nat)
    (ks : List (Node α)) (path : Path) (d : DrawSt α) (h : cacheGet cache path = none)
    (ho : (one == c.first) = true) :
    erecC c cache (.player one i ks) path d =
      ((erecCActs c cache one i (c.strat one i) ks path d 0 0).1,
       (erecCActs c cache one i (c.strat one i) ks path d 0 0).2.1 ++
         subEffsE one i (erecCActs c cache one i (c.strat one i) ks path d 0 0).1
           (c.strat one i).length,
       (erecCActs c cache one i (c.strat one i) ks path d 0 0).2.2) := by
  simp only [erecC, h, if_pos ho]

theorem erecC_opp (c : ECtx α) (cache : List (Path × α)) (one : Bool) (i : Nat)
    (ks : List (Node α)) (path : Path) (d : DrawSt α) (h : cacheGet cache path = none)
    (ho : ¬ (one == c.first) = true) :
    erecC c cache (.player one i ks) path d =
      ((erecCNth c cache ks
          (samplePlayer c.draw (if one then 1 else 2) c.playerPass (c.strat one i) i d).1
          (path ++ [(samplePlayer c.draw (if one then 1 else 2) c.playerPass (c.strat one i) i d).1])
          (samplePlayer c.draw (if one then 1 else 2) c.playerPass (c.strat one i) i d).2).1,
       extStratEffs one i (c.strat one i) 0 ++
        (erecCNth c cache ks
          (samplePlayer c.draw (if one then 1 else 2) c.playerPass (c.strat one i) i d).1
          (path ++ [(samplePlayer c.draw (if one then 1 else 2) c.playerPass (c.strat one i) i d).1])
          (samplePlayer c.draw (if one then 1 else 2) c.playerPass (c.strat one i) i d).2).2.1,
       (erecCNth c cache ks
          (samplePlayer c.draw (if one then 1 else 2) c.playerPass (c.strat one i) i d).1
          (path ++ [(samplePlayer c.draw (if one then 1 else 2) c.playerPass (c.strat one i) i d).1])
          (samplePlayer c.draw (if one then 1 else 2) c.playerPass (c.strat one i) i d).2).2.2) := by
  simp only [erecC, h, if_neg ho]

theorem erecCActs_cons_eq (c : ECtx α) (cache : List (Path × α)) (one : Bool) (j : Nat) (s : α)
    (σ : List α) (k : Node α) (ks : List (Node α)) (path : Path) (d : DrawSt α) (a : Nat) (ex : α) :
    erecCActs c cache one j (s :: σ) (k :: ks) path d a ex =
      ((erecCActs c cache one j σ ks path (erecC c cache k (path ++ [a]) d).2.2 (a + 1)
          (ex + s * (erecC c cache k (path ++ [a]) d).1)).1,
       (erecC c cache k (path ++ [a]) d).2.1 ++
         ⟨one, j, .regret, a, (erecC c cache k (path ++ [a]) d).1⟩ ::
         (erecCActs c cache one j σ ks path (erecC c cache k (path ++ [a]) d).2.2 (a + 1)
          (ex + s * (erecC c cache k (path ++ [a]) d).1)).2.1,
       (erecCActs c cache one j σ ks path (erecC c cache k (path ++ [a]) d).2.2 (a + 1)
          (ex + s * (erecC c cache k (path ++ [a]) d).1)).2.2) := by
  simp only [erecCActs]

/-! ### consistent draw states -/

/-- every cached sample is the oracle's answer -/
def ECons (c : ECtx α) (d : DrawSt α) : Prop :=
  (∀ i k, assocGet d.chance i = some k → k = c.oc i) ∧
  (∀ i k, assocGet d.player i = some k → k = c.op i)

/-- serve one sample request -/
def DrawSt.req (c : ECtx α) (d : DrawSt α) : EReq → DrawSt α
  | .ch i => (sampleChance c.draw c.chancePass (c.ch.getD i []) i d).2
  | .pl i => (samplePlayer c.draw (if !c.first then 1 else 2) c.playerPass (c.strat (!c.first) i) i d).2

def DrawSt.run (c : ECtx α) (d : DrawSt α) (rs : List EReq) : DrawSt α := rs.foldl (DrawSt.req c) d

theorem DrawSt.req_ch (c : ECtx α) (d : DrawSt α) (i : Nat) :
    (sampleChance c.draw c.chancePass (c.ch.getD i []) i d).2 = d.req c (.ch i) := rfl
theorem DrawSt.req_pl (c : ECtx α) (d : DrawSt α) (i : Nat) :
    (samplePlayer c.draw (if !c.first then 1 else 2) c.playerPass (c.strat (!c.first) i) i d).2
      = d.req c (.pl i) := rfl

@[simp] theorem DrawSt.run_nil (c : ECtx α) (d : DrawSt α) : d.run c [] = d := rfl
@[simp] theorem DrawSt.run_cons (c : ECtx α) (d : DrawSt α) (r : EReq) (rs : List EReq) :
    d.run c (r :: rs) = (d.req c r).run c rs := rfl
theorem DrawSt.run_append (c : ECtx α) (d : DrawSt α) (a b : List EReq) :
    d.run c (a ++ b) = (d.run c a).run c b := by
  simp [DrawSt.run, List.foldl_append]

theorem ECons.sampleChance_fst {c : ECtx α} {d : DrawSt α} (h : ECons c d) (i : Nat) :
    (sampleChance c.draw c.chancePass (c.ch.getD i []) i d).1 = c.oc i :=
  (sampleChance_inv (P := fun j v => v = c.oc j) _ _ _ i d h.1 rfl).1

theorem ECons.samplePlayer_fst {c : ECtx α} {d : DrawSt α} (h : ECons c d) (i : Nat) :
    (samplePlayer c.draw (if !c.first then 1 else 2) c.playerPass (c.strat (!c.first) i) i d).1
      = c.op i :=
  (samplePlayer_inv (P := fun j v => v = c.op j) _ _ _ _ i d h.2 rfl).1

theorem ECons.req {c : ECtx α} {d : DrawSt α} (h : ECons c d) : ∀ r, ECons c (d.req c r)
  | .ch i =>
    have s := sampleChance_inv (P := fun j v => v = c.oc j) c.draw c.chancePass (c.ch.getD i []) i d
      h.1 rfl
    ⟨s.2.1, s.2.2.symm ▸ h.2⟩
  | .pl i =>
    have s := samplePlayer_inv (P := fun j v => v = c.op j) c.draw (if !c.first then 1 else 2)
      c.playerPass (c.strat (!c.first) i) i d h.2 rfl
    ⟨s.2.2.symm ▸ h.1, s.2.1⟩

theorem ECons.run {c : ECtx α} {d : DrawSt α} (h : ECons c d) (rs : List EReq) :
    ECons c (d.run c rs) := by
  induction rs generalizing d with
  | nil => exact h
  | cons r rs ih => exact ih (h.req r)

theorem ECons.init (c : ECtx α) (log : List (DrawRec α)) : ECons c { log := log } :=
  ⟨fun i k h => by simp [assocGet] at h, fun i k h => by simp [assocGet] at h⟩

theorem opp_eq_not_first {c : ECtx α} {one : Bool} (h : ¬ (one == c.first) = true) :
    one = !c.first := by
  cases one <;> cases hf : c.first <;> simp_all

/-! ### the model's traversals are the pure one plus cache bookkeeping -/

section
variable (c : ECtx α) (cache : List (Path × α)) (ks : List (Node α))
  (h : ∀ n ∈ ks, ∀ (path : Path) (d : DrawSt α), ECons c d →
    erecC c cache n path d = ((precC c cache n path).1, effsOf (precC c cache n path).2,
      d.run c (reqsOf (precC c cache n path).2)))
include h

theorem erecCNth_pure_of :
    ∀ (j : Nat) (path : Path) (d : DrawSt α), ECons c d →
      erecCNth c cache ks j path d = ((precCNth c cache ks j path).1,
        effsOf (precCNth c cache ks j path).2, d.run c (reqsOf (precCNth c cache ks j path).2)) := by
  induction ks with
  | nil => exact fun _ _ _ _ => rfl
  | cons n ks ih =>
    intro j
    cases j with
    | zero => exact h n List.mem_cons_self
    | succ j => exact ih (fun n hn => h n (List.mem_cons_of_mem _ hn)) j

theorem erecCActs_pure_of (one : Bool) (i : Nat) :
    ∀ (σ : List α) (path : Path) (d : DrawSt α) (a : Nat) (ex : α), ECons c d →
      erecCActs c cache one i σ ks path d a ex = ((precCActs c cache one i σ ks path a ex).1,
        effsOf (precCActs c cache one i σ ks path a ex).2,
        d.run c (reqsOf (precCActs c cache one i σ ks path a ex).2)) := by
  induction ks with
  | nil => intro σ; cases σ <;> exact fun _ _ _ _ _ => rfl
  | cons k ks ih =>
    intro σ path d a ex hd
    cases σ with
    | nil => rfl
    | cons s σ =>
      rw [erecCActs_cons_eq, precCActs_cons, h k List.mem_cons_self (path ++ [a]) d hd]
      dsimp only
      rw [ih (fun n hn => h n (List.mem_cons_of_mem _ hn)) σ path _ (a + 1) _ (hd.run _)]
      simp only [effsOf_append, effsOf_cons_eff, reqsOf_append, reqsOf_cons_eff, DrawSt.run_append]

end

theorem erecC_pure (c : ECtx α) (cache : List (Path × α)) (n : Node α) :
    ∀ (path : Path) (d : DrawSt α), ECons c d →
      erecC c cache n path d = ((precC c cache n path).1, effsOf (precC c cache n path).2,
        d.run c (reqsOf (precC c cache n path).2)) := by
  have hit : ∀ (n : Node α) (path : Path) (d : DrawSt α) (v : α), cacheGet cache path = some v →
      erecC c cache n path d = ((precC c cache n path).1, effsOf (precC c cache n path).2,
        d.run c (reqsOf (precC c cache n path).2)) := fun n path d v hc => by
    rw [erecC_hit _ _ _ _ _ v hc, precC_hit _ _ _ _ v hc]; rfl
  induction n using Node.induct with
  | term p =>
    intro path d hd
    cases hc : cacheGet cache path with
    | some v => exact hit _ path d v hc
    | none => rw [erecC_term _ _ _ _ _ hc, precC_term _ _ _ _ hc]; rfl
  | chance i ks ih =>
    intro path d hd
    cases hc : cacheGet cache path with
    | some v => exact hit _ path d v hc
    | none =>
      rw [erecC_chance _ _ _ _ _ _ hc, precC_chance _ _ _ _ _ hc, hd.sampleChance_fst i,
        DrawSt.req_ch, erecCNth_pure_of c cache ks ih (c.oc i) (path ++ [c.oc i]) _ (hd.req (.ch i))]
      simp only [reqsOf_cons_req, effsOf_cons_req, DrawSt.run_cons]
  | player one i ks ih =>
    intro path d hd
    cases hc : cacheGet cache path with
    | some v => exact hit _ path d v hc
    | none =>
      by_cases ho : (one == c.first) = true
      · rw [erecC_own _ _ _ _ _ _ _ hc ho, precC_own _ _ _ _ _ _ hc ho,
          erecCActs_pure_of c cache ks ih one i (c.strat one i) path d 0 0 hd]
        simp only [effsOf_append, effsOf_map_eff, reqsOf_append, reqsOf_map_eff, List.append_nil]
      · rw [erecC_opp _ _ _ _ _ _ _ hc ho, precC_opp _ _ _ _ _ _ hc ho]
        have hone := opp_eq_not_first ho
        subst hone
        rw [hd.samplePlayer_fst i, DrawSt.req_pl,
          erecCNth_pure_of c cache ks ih (c.op i) (path ++ [c.op i]) _ (hd.req (.pl i))]
        simp only [reqsOf_cons_req, effsOf_cons_req, DrawSt.run_cons, effsOf_append,
          effsOf_map_eff, reqsOf_append, reqsOf_map_eff, List.nil_append]

theorem erecCNth_pure (c : ECtx α) (cache : List (Path × α)) :
    ∀ (ks : List (Node α)) (j : Nat) (path : Path) (d : DrawSt α), ECons c d →
      erecCNth c cache ks j path d = ((precCNth c cache ks j path).1,
        effsOf (precCNth c cache ks j path).2, d.run c (reqsOf (precCNth c cache ks j path).2)) :=
  fun ks => erecCNth_pure_of c cache ks fun n _ => erecC_pure c cache n
theorem erecCActs_pure (c : ECtx α) (cache : List (Path × α)) (one : Bool) (i : Nat) :
    ∀ (σ : List α) (ks : List (Node α)) (path : Path) (d : DrawSt α) (a : Nat) (ex : α),
      ECons c d →
      erecCActs c cache one i σ ks path d a ex = ((precCActs c cache one i σ ks path a ex).1,
        effsOf (precCActs c cache one i σ ks path a ex).2,
        d.run c (reqsOf (precCActs c cache one i σ ks path a ex).2)) :=
  fun σ ks => erecCActs_pure_of c cache ks (fun n _ => erecC_pure c cache n) one i σ

section
variable (c : ECtx α) (ks : List (Node α))
  (h : ∀ n ∈ ks, ∀ (path : Path) (d : DrawSt α), erecC c [] n path d = erec c n d)
include h

theorem erecNth_eq_erecCNth_of :
    ∀ (j : Nat) (path : Path) (d : DrawSt α), erecCNth c [] ks j path d = erecNth c ks j d := by
  induction ks with
  | nil => exact fun _ _ _ => rfl
  | cons n ks ih =>
    intro j
    cases j with
    | zero => exact h n List.mem_cons_self
    | succ j => exact ih (fun n hn => h n (List.mem_cons_of_mem _ hn)) j

theorem erecActs_eq_erecCActs_of (one : Bool) (i : Nat) :
    ∀ (σ : List α) (path : Path) (d : DrawSt α) (a : Nat) (ex : α),
      erecCActs c [] one i σ ks path d a ex = erecActs c one i σ ks d a ex := by
  induction ks with
  | nil => intro σ; cases σ <;> exact fun _ _ _ _ => rfl
  | cons k ks ih =>
    intro σ path d a ex
    cases σ with
    | nil => rfl
    | cons s σ =>
      rw [erecCActs_cons_eq, erecActs_cons_eq, h k List.mem_cons_self (path ++ [a]) d,
        ih (fun n hn => h n (List.mem_cons_of_mem _ hn)) σ path _ (a + 1) _]

end

theorem erec_eq_erecC (c : ECtx α) (n : Node α) :
    ∀ (path : Path) (d : DrawSt α), erecC c [] n path d = erec c n d := by
  induction n using Node.induct with
  | term p => intro path d; rw [erecC_term _ _ _ _ _ (cacheGet_nil _)]; rfl
  | chance i ks ih =>
    intro path d
    rw [erecC_chance _ _ _ _ _ _ (cacheGet_nil _), erec_chance_eq]
    exact erecNth_eq_erecCNth_of c ks ih _ _ _
  | player one i ks ih =>
    intro path d
    by_cases ho : (one == c.first) = true
    · rw [erecC_own _ _ _ _ _ _ _ (cacheGet_nil _) ho, erec_own_eq _ _ _ _ _ ho,
        erecActs_eq_erecCActs_of c ks ih one i _ path d 0 0]
    · rw [erecC_opp _ _ _ _ _ _ _ (cacheGet_nil _) ho, erec_opp_eq _ _ _ _ _ ho,
        erecNth_eq_erecCNth_of c ks ih _ _ _]

theorem erecNth_eq_erecCNth (c : ECtx α) :
    ∀ (ks : List (Node α)) (j : Nat) (path : Path) (d : DrawSt α),
      erecCNth c [] ks j path d = erecNth c ks j d :=
  fun ks => erecNth_eq_erecCNth_of c ks fun n _ => erec_eq_erecC c n
theorem erecActs_eq_erecCActs (c : ECtx α) (one : Bool) (i : Nat) :
    ∀ (σ : List α) (ks : List (Node α)) (path : Path) (d : DrawSt α) (a : Nat) (ex : α),
      erecCActs c [] one i σ ks path d a ex = erecActs c one i σ ks d a ex :=
  fun σ ks => erecActs_eq_erecCActs_of c ks (fun n _ => erec_eq_erecC c n) one i σ

theorem precCActs_eq_loop (c : ECtx α) (cache : List (Path × α)) (one : Bool) (i : Nat)
    (path : Path) (ks : List (Node α)) : ∀ (σ : List α) (a : Nat) (ex : α),
    precCActs c cache one i σ ks path a ex =
      kidLoop (fun a _ k => precC c cache k (path ++ [a])) (fun ex s v => ex + s * v)
        (fun a v => [.eff ⟨one, i, .regret, a, v⟩]) σ ks a ex := by
  induction ks with
  | nil => intro σ; cases σ <;> exact fun _ _ => rfl
  | cons k ks ih =>
    intro σ a ex
    cases σ with
    | nil => rfl
    | cons s σ => simp only [precCActs, kidLoop, ih, List.singleton_append]

theorem precCNth_eq (c : ECtx α) (cache : List (Path × α)) :
    ∀ (ks : List (Node α)) (j : Nat) (q : Path), precCNth c cache ks j q =
      match ks[j]? with
      | some k => precC c cache k q
      | none => (0, [])
  | [], _, _ => rfl
  | _ :: _, 0, _ => rfl
  | _ :: ks, j + 1, q => precCNth_eq c cache ks j q

theorem precC_congr (c : ECtx α) (c1 c2 : List (Path × α)) (n : Node α) :
    ∀ (path : Path), (∀ q, path <+: q → cacheGet c1 q = cacheGet c2 q) →
      precC c c1 n path = precC c c2 n path := by
  have hit : ∀ (n : Node α) (path : Path) (v : α), cacheGet c1 path = cacheGet c2 path →
      cacheGet c2 path = some v → precC c c1 n path = precC c c2 n path := fun n path v hp hc => by
    rw [precC_hit _ _ _ _ v hc, precC_hit _ _ _ _ v (hp.trans hc)]
  have nth : ∀ (ks : List (Node α)), (∀ k ∈ ks, ∀ (path : Path),
      (∀ q, path <+: q → cacheGet c1 q = cacheGet c2 q) → precC c c1 k path = precC c c2 k path) →
      ∀ (j : Nat) (path : Path), (∀ q, path <+: q → cacheGet c1 q = cacheGet c2 q) →
      precCNth c c1 ks j path = precCNth c c2 ks j path := fun ks ih j path h => by
    rw [precCNth_eq, precCNth_eq]
    cases hj : ks[j]? with
    | none => rfl
    | some k => exact ih k (List.mem_of_getElem? hj) path h
  induction n using Node.induct with
  | term p =>
    intro path h
    have hp := h path (List.prefix_refl _)
    cases hc : cacheGet c2 path with
    | some v => exact hit _ path v hp hc
    | none => rw [precC_term _ _ _ _ hc, precC_term _ _ _ _ (hp.trans hc)]
  | chance i ks ih =>
    intro path h
    have hp := h path (List.prefix_refl _)
    cases hc : cacheGet c2 path with
    | some v => exact hit _ path v hp hc
    | none =>
      rw [precC_chance _ _ _ _ _ hc, precC_chance _ _ _ _ _ (hp.trans hc),
        nth ks ih (c.oc i) (path ++ [c.oc i]) (fun q hq => h q ((List.prefix_append _ _).trans hq))]
  | player one i ks ih =>
    intro path h
    have hp := h path (List.prefix_refl _)
    cases hc : cacheGet c2 path with
    | some v => exact hit _ path v hp hc
    | none =>
      by_cases ho : (one == c.first) = true
      · rw [precC_own _ _ _ _ _ _ hc ho, precC_own _ _ _ _ _ _ (hp.trans hc) ho,
          precCActs_eq_loop, precCActs_eq_loop, kidLoop_congr _ _ _ _ ks _ 0 _ ?_]
        exact fun a' _ k' hk' _ =>
          ih k' hk' _ (fun q hq => h q ((List.prefix_append _ _).trans hq))
      · rw [precC_opp _ _ _ _ _ _ hc ho, precC_opp _ _ _ _ _ _ (hp.trans hc) ho,
          nth ks ih (c.op i) (path ++ [c.op i]) (fun q hq => h q ((List.prefix_append _ _).trans hq))]

theorem precCNth_congr (c : ECtx α) (c1 c2 : List (Path × α)) :
    ∀ (ks : List (Node α)) (j : Nat) (path : Path),
      (∀ q, path <+: q → cacheGet c1 q = cacheGet c2 q) →
      precCNth c c1 ks j path = precCNth c c2 ks j path := by
  intro ks j path h
  rw [precCNth_eq, precCNth_eq]
  cases ks[j]? with
  | none => rfl
  | some k => exact precC_congr c c1 c2 k path h
theorem precCActs_congr (c : ECtx α) (c1 c2 : List (Path × α)) (one : Bool) (i : Nat) :
    ∀ (σ : List α) (ks : List (Node α)) (path : Path) (a : Nat) (ex : α),
      (∀ q, path <+: q → cacheGet c1 q = cacheGet c2 q) →
      precCActs c c1 one i σ ks path a ex = precCActs c c2 one i σ ks path a ex :=
  fun σ ks path a ex h => by
    rw [precCActs_eq_loop, precCActs_eq_loop, kidLoop_congr _ _ _ _ ks σ a ex fun _ _ k' _ _ =>
      precC_congr c c1 c2 k' _ fun q hq => h q ((List.prefix_append _ _).trans hq)]

/-! ## the sampled tree and its cuts -/

/-- `OnT c n rel m` : the traversal of `n` reaches its descendant `m` along the relative path
`rel` (oracle's outcome at chance nodes, oracle's action at the opponent's nodes, any action with
a strategy entry at the updating player's nodes) -/
inductive OnT (c : ECtx α) : Node α → Path → Node α → Prop
  | here (n : Node α) : OnT c n [] n
  | chance (i : Nat) (ks : List (Node α)) (k : Node α) (rel : Path) (m : Node α) :
      ks[c.oc i]? = some k → OnT c k rel m → OnT c (.chance i ks) (c.oc i :: rel) m
  | own (one : Bool) (i : Nat) (ks : List (Node α)) (a : Nat) (k : Node α) (rel : Path) (m : Node α) :
      (one == c.first) = true → a < (c.strat one i).length → ks[a]? = some k → OnT c k rel m →
      OnT c (.player one i ks) (a :: rel) m
  | opp (one : Bool) (i : Nat) (ks : List (Node α)) (k : Node α) (rel : Path) (m : Node α) :
      ¬ (one == c.first) = true → ks[c.op i]? = some k → OnT c k rel m →
      OnT c (.player one i ks) (c.op i :: rel) m

theorem OnT.trans {c : ECtx α} {a b e : Node α} {r1 r2 : Path} (h1 : OnT c a r1 b)
    (h2 : OnT c b r2 e) : OnT c a (r1 ++ r2) e := by
  induction h1 with
  | here n => exact h2
  | chance i ks k rel m hk _ ih => exact OnT.chance i ks k _ _ hk (ih h2)
  | own one i ks a k rel m ho ha hk _ ih => exact OnT.own one i ks a k _ _ ho ha hk (ih h2)
  | opp one i ks k rel m ho hk _ ih => exact OnT.opp one i ks k _ _ ho hk (ih h2)

/-! ### adding one cut node to the cache -/

/-- **one cut node**: caching the node `m` reached on the sampled tree at path `P` (with the
value the traversal returns there) removes exactly the events of `m`'s traversal and keeps the
value — provided no cached path is a prefix or an extension of `P` -/
theorem precC_add_item (c : ECtx α) (cache : List (Path × α)) (P : Path) (v : α) {n : Node α}
    {rel : Path} {m : Node α} (h : OnT c n rel m) :
    ∀ p, P = p ++ rel → (∀ q, q <+: P → cacheGet cache q = none) →
      (∀ q, P <+: q → cacheGet cache q = none) → v = (precC c [] m P).1 →
      (precC c (cache ++ [(P, v)]) n p).1 = (precC c cache n p).1 ∧
      ((precC c (cache ++ [(P, v)]) n p).2 ++ (precC c [] m P).2).Perm (precC c cache n p).2 := by
  induction h with
  | here n =>
    intro p hP h1 h2 hv
    simp only [List.append_nil] at hP
    subst hP
    rw [precC_hit _ _ _ _ v (cacheGet_snoc_self _ _ _ (h1 P (List.prefix_refl _))),
      precC_congr c cache [] n P (fun q hq => (h2 q hq).trans (cacheGet_nil q).symm)]
    exact ⟨hv, by simp⟩
  | chance i ks k rel m hk hsub ih =>
    intro p hP h1 h2 hv
    obtain ⟨hnone, hnone'⟩ := cacheGet_above cache v hP h1
    subst hP
    rw [precC_chance _ _ _ _ _ hnone, precC_chance _ _ _ _ _ hnone',
      precCNth_eq, precCNth_eq, hk]
    obtain ⟨i1, i2⟩ := ih (p ++ [c.oc i]) (List.append_cons _ _ _) h1 h2 hv
    exact ⟨i1, by rw [List.cons_append]; exact List.Perm.cons _ i2⟩
  | own one i ks a k rel m ho ha hk hsub ih =>
    intro p hP h1 h2 hv
    obtain ⟨hnone, hnone'⟩ := cacheGet_above cache v hP h1
    subst hP
    rw [precC_own _ _ _ _ _ _ hnone ho, precC_own _ _ _ _ _ _ hnone' ho,
      precCActs_eq_loop, precCActs_eq_loop]
    refine (kidLoop_step _ _ _ _ _ a ?_ ks _ 0 _ _ k (Nat.zero_le _) (List.getElem?_eq_getElem ha) hk
      ?_).wrap id (fun _ => []) (fun ex => (subEffsE one i ex (c.strat one i).length).map EEv.eff)
    · -- the traversals of the other children do not see the new entry
      intro a' ha' _ k'
      refine precC_congr _ _ _ k' _ (fun q hq => cacheGet_snoc_ne _ _ _ _ ?_)
      intro hqP
      subst hqP
      rw [List.prefix_append_right_inj, List.cons_prefix_cons] at hq
      exact ha' hq.1
    · exact ih (p ++ [a]) (List.append_cons _ _ _) h1 h2 hv
  | opp one i ks k rel m ho hk hsub ih =>
    intro p hP h1 h2 hv
    obtain ⟨hnone, hnone'⟩ := cacheGet_above cache v hP h1
    subst hP
    rw [precC_opp _ _ _ _ _ _ hnone ho, precC_opp _ _ _ _ _ _ hnone' ho,
      precCNth_eq, precCNth_eq, hk]
    obtain ⟨i1, i2⟩ := ih (p ++ [c.op i]) (List.append_cons _ _ _) h1 h2 hv
    refine ⟨i1, ?_⟩
    rw [List.cons_append, List.append_assoc]
    exact (List.Perm.append_left _ i2).cons _

/-! ### a whole cut -/

/-- the cache entry a task leaves for its node -/
abbrev EItem.val (c : ECtx α) (it : EItem α) : Path × α :=
  (it.path, (precC c [] it.node it.path).1)
/-- the events of a task -/
abbrev EItem.evs (c : ECtx α) (it : EItem α) : List (EEv α) := (precC c [] it.node it.path).2

/-- **decomposition along a cut**: caching all nodes of a set of pairwise unrelated nodes of the
sampled tree removes exactly the events of the traversals of these nodes, and keeps the value -/
theorem precC_add_items (c : ECtx α) (root : Node α) :
    ∀ (items : List (EItem α)) (cache0 : List (Path × α)),
      (∀ it ∈ items, OnT c root it.path it.node) →
      items.Pairwise (fun x y => ApartP x.path y.path) →
      (∀ it ∈ items, ∀ e ∈ cache0, ApartP e.1 it.path) →
      (precC c (cache0 ++ items.map (EItem.val c)) root []).1 = (precC c cache0 root []).1 ∧
      ((precC c (cache0 ++ items.map (EItem.val c)) root []).2 ++
          items.flatMap (EItem.evs c)).Perm (precC c cache0 root []).2 := by
  intro items
  induction items with
  | nil =>
    intro cache0 _ _ _
    rw [List.map_nil, List.append_nil, List.flatMap_nil, List.append_nil]
    exact ⟨rfl, List.Perm.refl _⟩
  | cons x rest ih =>
    intro cache0 hon hpw hc
    obtain ⟨hx, hrest⟩ := List.pairwise_cons.mp hpw
    have hxm : x ∈ x :: rest := List.mem_cons_self
    -- first the other items on top of the cache extended by `x`, then `x` itself
    obtain ⟨i1, i2⟩ := ih (cache0 ++ [EItem.val c x])
      (fun it h => hon it (List.mem_cons_of_mem _ h)) hrest
      fun it hit e he => (List.mem_append.mp he).elim (hc it (List.mem_cons_of_mem _ hit) e)
        fun he => List.mem_singleton.mp he ▸ hx it hit
    obtain ⟨a1, a2⟩ := precC_add_item c cache0 x.path (precC c [] x.node x.path).1 (hon x hxm) [] rfl
      (fun q hq => (cacheGet_eq_none_iff _ _).2 fun e he heq => (hc x hxm e he).1 (heq ▸ hq))
      (fun q hq => (cacheGet_eq_none_iff _ _).2 fun e he heq => (hc x hxm e he).2 (heq ▸ hq))
      rfl
    rw [List.map_cons, List.flatMap_cons, List.append_cons cache0]
    exact ⟨i1.trans a1, (perm_rot _ _ _).trans ((i2.append_right _).trans a2)⟩

theorem eRunTasks_cons_eq (c : ECtx α) (it : EItem α) (rest : List (EItem α)) (d : DrawSt α) :
    eRunTasks c (it :: rest) d =
      ((it.path, (erec c it.node d).1) :: (eRunTasks c rest (erec c it.node d).2.2).1,
       (erec c it.node d).2.1 ++ (eRunTasks c rest (erec c it.node d).2.2).2.1,
       (eRunTasks c rest (erec c it.node d).2.2).2.2) := by
  simp only [eRunTasks]

/-- the tasks: each runs the plain traversal of its node -/
theorem eRunTasks_pure (c : ECtx α) :
    ∀ (items : List (EItem α)) (d : DrawSt α), ECons c d →
      eRunTasks c items d = (items.map (EItem.val c), effsOf (items.flatMap (EItem.evs c)),
        d.run c (reqsOf (items.flatMap (EItem.evs c)))) := by
  intro items
  induction items with
  | nil => exact fun d _ => by simp [eRunTasks]
  | cons it rest ih =>
    intro d hd
    have h1 : erec c it.node d = ((precC c [] it.node it.path).1,
        effsOf (precC c [] it.node it.path).2, d.run c (reqsOf (precC c [] it.node it.path).2)) := by
      rw [← erec_eq_erecC c it.node it.path d, erecC_pure c [] it.node it.path d hd]
    rw [eRunTasks_cons_eq, h1]
    simp only
    rw [ih _ (hd.run _)]
    simp only [List.map_cons, List.flatMap_cons, effsOf_append, reqsOf_append, DrawSt.run_append]

/-! ### the breadth-first frontier is a cut of the sampled tree -/

theorem mem_eChildren (P : Path) :
    ∀ (ks : List (Node α)) (a0 : Nat) (it : EItem α), it ∈ eChildren P ks a0 →
      ∃ j, ks[j]? = some it.node ∧ it.path = P ++ [a0 + j]
  | [], _, it, h => absurd h List.not_mem_nil
  | k :: ks, a0, it, h => by
    rcases List.mem_cons.mp h with rfl | h
    · exact ⟨0, rfl, rfl⟩
    · obtain ⟨j, hj, hp⟩ := mem_eChildren P ks (a0 + 1) it h
      exact ⟨j + 1, hj, by rw [hp, Nat.add_assoc, Nat.add_comm 1]⟩

theorem eChildren_pairwise (P : Path) :
    ∀ (ks : List (Node α)) (a0 : Nat),
      (eChildren P ks a0).Pairwise (fun x y => ApartP x.path y.path)
  | [], _ => by simp [eChildren]
  | k :: ks, a0 => by
    simp only [eChildren, List.pairwise_cons]
    refine ⟨fun y hy => ?_, eChildren_pairwise P ks (a0 + 1)⟩
    obtain ⟨j, _, hp⟩ := mem_eChildren P ks (a0 + 1) y hy
    rw [hp]
    exact apart_snoc P (by omega)

/-- a set of pairwise unrelated nodes of the sampled tree of `root` -/
def ECut (c : ECtx α) (root : Node α) (l : List (EItem α)) : Prop :=
  Cut (fun it => OnT c root it.path it.node) (fun x y => ApartP x.path y.path) l

theorem ECut.expand {c : ECtx α} {root : Node α} {it : EItem α} {l : List (EItem α)}
    (h : ECut c root (it :: l)) {P : Path} {one : Bool} {i : Nat} {ks : List (Node α)}
    (hP : it.path <+: P) (hon : OnT c root P (.player one i ks)) (ho : (one == c.first) = true)
    (hA : ks.length ≤ (c.strat one i).length) : ECut c root (eChildren P ks 0 ++ l) := by
  refine ⟨fun x hx => (List.mem_append.mp hx).elim (fun hx => ?_) (h.tail.1 x), pairwise_apart_replace
    EItem.path hP (fun y hy => (mem_eChildren P ks 0 y hy).elim fun j hj => ⟨0 + j, hj.2⟩)
    ((eChildren_pairwise P ks 0).imp fun {x y} hxy (e : x.path = y.path) =>
      hxy.1 (e ▸ List.prefix_refl _)) h.2⟩
  obtain ⟨j, hj, hp⟩ := mem_eChildren P ks 0 x hx
  rw [hp, Nat.zero_add]
  have hjl : j < ks.length := (List.getElem?_eq_some_iff.mp hj).1
  exact hon.trans (OnT.own one i ks j x.node [] x.node ho (by omega) hj (OnT.here _))

theorem onT_req_mem (c : ECtx α) {root : Node α} {P : Path} {m : Node α} (h : OnT c root P m)
    (r : EReq) (hr : r ∈ reqsOf (precC c [] m P).2) : r ∈ reqsOf (precC c [] root []).2 := by
  obtain ⟨-, h2⟩ := precC_add_item c [] P (precC c [] m P).1 h [] (by simp)
    (fun q _ => cacheGet_nil q) (fun q _ => cacheGet_nil q) rfl
  have h3 := (List.Perm.filterMap EEv.getReq h2).subset
  apply h3
  show r ∈ reqsOf _
  rw [reqsOf_append]
  exact List.mem_append_right _ hr

theorem eNextNodes_zero (c : ECtx α) (n : Node α) (path : Path) (d : DrawSt α) :
    eNextNodes c 0 n path d = (none, d) := by
  simp only [eNextNodes]

theorem eNextNodes_term (c : ECtx α) (fuel : Nat) (p : α) (path : Path) (d : DrawSt α) :
    eNextNodes c (fuel + 1) (.term p) path d = (none, d) := by
  simp only [eNextNodes]

theorem eNextNodes_chance (c : ECtx α) (fuel : Nat) (i : Nat) (ks : List (Node α)) (path : Path)
    (d : DrawSt α) :
    eNextNodes c (fuel + 1) (.chance i ks) path d =
      match ks[(sampleChance c.draw c.chancePass (c.ch.getD i []) i d).1]? with
      | some n' => eNextNodes c fuel n'
          (path ++ [(sampleChance c.draw c.chancePass (c.ch.getD i []) i d).1])
          (sampleChance c.draw c.chancePass (c.ch.getD i []) i d).2
      | none => (none, (sampleChance c.draw c.chancePass (c.ch.getD i []) i d).2) := by
  simp only [eNextNodes]
  rfl

theorem eNextNodes_own (c : ECtx α) (fuel : Nat) (one : Bool) (i : Nat) (ks : List (Node α))
    (path : Path) (d : DrawSt α) (ho : (one == c.first) = true) :
    eNextNodes c (fuel + 1) (.player one i ks) path d = (some (eChildren path ks 0), d) := by
  simp only [eNextNodes, if_pos ho]

theorem eNextNodes_opp (c : ECtx α) (fuel : Nat) (one : Bool) (i : Nat) (ks : List (Node α))
    (path : Path) (d : DrawSt α) (ho : ¬ (one == c.first) = true) :
    eNextNodes c (fuel + 1) (.player one i ks) path d =
      match ks[(samplePlayer c.draw (if one then 1 else 2) c.playerPass (c.strat one i) i d).1]? with
      | some n' => eNextNodes c fuel n'
          (path ++ [(samplePlayer c.draw (if one then 1 else 2) c.playerPass (c.strat one i) i d).1])
          (samplePlayer c.draw (if one then 1 else 2) c.playerPass (c.strat one i) i d).2
      | none => (none, (samplePlayer c.draw (if one then 1 else 2) c.playerPass (c.strat one i) i d).2) := by
  simp only [eNextNodes, if_neg ho]
  rfl

/-- what `next_nodes` may return from `path` in draw state `d`: it has served only requests the
plain traversal also makes, and its items are the children of a node of the updating player on the
sampled tree at or below `path` -/
def NextOK (c : ECtx α) (root : Node α) (path : Path) (d : DrawSt α)
    (res : Option (List (EItem α)) × DrawSt α) : Prop :=
  ∃ rs, res.2 = d.run c rs ∧ (∀ r ∈ rs, r ∈ reqsOf (precC c [] root []).2) ∧
    ∀ items, res.1 = some items →
      ∃ P one i ks, path <+: P ∧ OnT c root P (.player one i ks) ∧
        (one == c.first) = true ∧ items = eChildren P ks 0

theorem NextOK.none (c : ECtx α) (root : Node α) (path : Path) (d : DrawSt α) :
    NextOK c root path d (none, d) :=
  ⟨[], rfl, fun _ h => absurd h List.not_mem_nil, fun _ h => nomatch h⟩

/-- one step down: once request `r` is served, a result from child `k` is a result from `path` -/
theorem NextOK.step {c : ECtx α} {root : Node α} {path : Path} {d : DrawSt α} {r : EReq}
    (hr : r ∈ reqsOf (precC c [] root []).2) {k : Nat} {res : Option (List (EItem α)) × DrawSt α}
    (h : NextOK c root (path ++ [k]) (d.req c r) res) : NextOK c root path d res := by
  obtain ⟨rs, h1, h2, h3⟩ := h
  refine ⟨r :: rs, h1, fun r' hr' => (List.mem_cons.mp hr').elim (fun e => e ▸ hr) (h2 r'),
    fun items hi => ?_⟩
  obtain ⟨P, one, j, ks', hp, rest⟩ := h3 items hi
  exact ⟨P, one, j, ks', (List.prefix_append _ _).trans hp, rest⟩

/-- `next_nodes` walks down the sampled tree, makes only requests the plain traversal also makes,
and returns the children of a node of the updating player -/
theorem eNextNodes_spec (c : ECtx α) (root : Node α) :
    ∀ (fuel : Nat) (n : Node α) (path : Path) (d : DrawSt α), ECons c d → OnT c root path n →
      NextOK c root path d (eNextNodes c fuel n path d) := by
  intro fuel
  induction fuel with
  | zero => intro n path d _ _; rw [eNextNodes_zero]; exact NextOK.none c root path d
  | succ fuel ih =>
    intro n path d hd hon
    cases n with
    | term p => rw [eNextNodes_term]; exact NextOK.none c root path d
    | chance i ks =>
      have hmem : EReq.ch i ∈ reqsOf (precC c [] root []).2 := by
        refine onT_req_mem c hon _ ?_
        rw [precC_chance _ _ _ _ _ (cacheGet_nil _)]
        simp
      rw [eNextNodes_chance, hd.sampleChance_fst i, DrawSt.req_ch]
      cases hk : ks[c.oc i]? with
      | none => exact (NextOK.none c root (path ++ [c.oc i]) _).step hmem
      | some n' =>
        exact (ih n' (path ++ [c.oc i]) _ (hd.req (.ch i))
          (hon.trans (OnT.chance i ks n' [] n' hk (OnT.here _)))).step hmem
    | player one i ks =>
      by_cases ho : (one == c.first) = true
      · rw [eNextNodes_own _ _ _ _ _ _ _ ho]
        exact ⟨[], rfl, fun _ h => absurd h List.not_mem_nil, fun items h =>
          ⟨path, one, i, ks, List.prefix_refl _, hon, ho, (Option.some.inj h).symm⟩⟩
      · have hmem : EReq.pl i ∈ reqsOf (precC c [] root []).2 := by
          refine onT_req_mem c hon _ ?_
          rw [precC_opp _ _ _ _ _ _ (cacheGet_nil _) ho]
          simp
        rw [eNextNodes_opp _ _ _ _ _ _ _ ho]
        cases opp_eq_not_first ho
        rw [hd.samplePlayer_fst i, DrawSt.req_pl]
        cases hk : ks[c.op i]? with
        | none => exact (NextOK.none c root (path ++ [c.op i]) _).step hmem
        | some n' =>
          exact (ih n' (path ++ [c.op i]) _ (hd.req (.pl i))
            (hon.trans (OnT.opp _ i ks n' [] n' ho hk (OnT.here _)))).step hmem

theorem eThreshold_succ (c : ECtx α) (target depth fuel : Nat) (queue work : List (EItem α))
    (d : DrawSt α) :
    eThreshold c target depth (fuel + 1) queue work d =
      if (!(queue.isEmpty && work.isEmpty) && decide (queue.length + work.length < target)) = true then
        match queue.getLast? with
        | none => eThreshold c target depth fuel work queue d
        | some it =>
          match (eNextNodes c depth it.node it.path d).1 with
          | some nexts => eThreshold c target depth fuel queue.dropLast (work ++ nexts)
              (eNextNodes c depth it.node it.path d).2
          | none => eThreshold c target depth fuel queue.dropLast work
              (eNextNodes c depth it.node it.path d).2
      else (queue, work, d) := by
  rw [eThreshold]
  split_ifs with h
  · cases hq : queue.getLast? with
    | none => rfl
    | some it =>
      simp only
      rcases hN : eNextNodes c depth it.node it.path d with ⟨_ | nexts, d'⟩ <;> rfl
  · rfl

/-- what popping `it` pushes on `work` in `thread_threshold` (external.rs), and the sample caches
afterwards -/
def eExpand (c : ECtx α) (depth : Nat) (it : EItem α) (d : DrawSt α) : List (EItem α) × DrawSt α :=
  (((eNextNodes c depth it.node it.path d).1).getD [], (eNextNodes c depth it.node it.path d).2)

theorem eThreshold_eq_loop (c : ECtx α) (target depth : Nat) :
    ∀ (fuel : Nat) (queue work : List (EItem α)) (d : DrawSt α),
      eThreshold c target depth fuel queue work d
        = thresholdLoop (eExpand c depth) target fuel queue work d := by
  intro fuel
  induction fuel with
  | zero => exact fun _ _ _ => rfl
  | succ fuel ih =>
    intro queue work d
    rw [eThreshold_succ, thresholdLoop]
    simp only [ih, eExpand]
    refine if_congr Iff.rfl ?_ rfl
    cases queue.getLast? with
    | none => rfl
    | some it =>
      dsimp only
      cases (eNextNodes c depth it.node it.path d).1 with
      | none => rw [Option.getD_none, List.append_nil]
      | some nexts => rfl

/-- **the frontier is a cut**: whatever `thread_threshold` returns (for every target, depth bound
and fuel) is a set of pairwise unrelated nodes of the sampled tree, and the requests it made are
requests of the plain traversal.  `hA`: a node of the updating player has at most as many
children as its infoset has actions. -/
theorem eThreshold_spec (c : ECtx α) (root : Node α) (target depth : Nat)
    (hA : ∀ P one i ks, OnT c root P (.player one i ks) → (one == c.first) = true →
      ks.length ≤ (c.strat one i).length) :
    ∀ (fuel : Nat) (queue work : List (EItem α)) (d : DrawSt α), ECons c d →
      ECut c root (queue ++ work) →
      ∃ rs, (eThreshold c target depth fuel queue work d).2.2 = d.run c rs ∧
        (∀ r ∈ rs, r ∈ reqsOf (precC c [] root []).2) ∧
        ECut c root ((eThreshold c target depth fuel queue work d).1 ++
          (eThreshold c target depth fuel queue work d).2.1) := by
  intro fuel queue work d hd hcut
  rw [eThreshold_eq_loop]
  refine thresholdLoop_inv (eExpand c depth) target
    (fun l d' => ∃ rs, d' = d.run c rs ∧ (∀ r ∈ rs, r ∈ reqsOf (precC c [] root []).2) ∧
      ECut c root l)
    (fun _ _ _ hp ⟨rs, h1, h2, h3⟩ => ⟨rs, h1, h2, h3.perm (fun _ _ => ApartP.symm) hp⟩) ?_ fuel queue work d
    ⟨[], rfl, fun _ h => absurd h List.not_mem_nil, hcut⟩
  rintro it rest _ ⟨rs, rfl, h2, hcut⟩
  obtain ⟨rs', g1, g2, g3⟩ := eNextNodes_spec c root depth it.node it.path _ (hd.run rs)
    (hcut.1 it List.mem_cons_self)
  refine ⟨rs ++ rs', by rw [DrawSt.run_append]; exact g1,
    fun r hr => (List.mem_append.mp hr).elim (h2 r) (g2 r), ?_⟩
  unfold eExpand
  cases hN : (eNextNodes c depth it.node it.path (d.run c rs)).1 with
  | none => exact hcut.tail
  | some nexts =>
    obtain ⟨P, one, i, ks, hP, hon, ho, rfl⟩ := g3 nexts hN
    exact hcut.expand hP hon ho (hA P one i ks hon ho)

theorem ECut.root (c : ECtx α) (root : Node α) : ECut c root ([⟨[], root⟩] ++ []) := by
  refine ⟨fun it hit => ?_, by simp⟩
  simp only [List.append_nil, List.mem_singleton] at hit
  subst hit
  exact OnT.here root

/-- **the traversal phase of a multi-threaded pass**: its accumulations are a rearrangement of
the plain traversal's, its sample requests are those of the frontier construction (all of them
requests of the plain traversal) followed by a rearrangement of the plain traversal's -/
theorem externalMultiEffects_spec (g : Game α) (c : ECtx α) (target : Nat) (log : List (DrawRec α))
    (hA : ∀ P one i ks, OnT c g.root P (.player one i ks) → (one == c.first) = true →
      ks.length ≤ (c.strat one i).length) :
    ∃ rsT rs, (externalMultiEffects g c target log).1.Perm (effsOf (precC c [] g.root []).2) ∧
      (externalMultiEffects g c target log).2 = ({ log := log } : DrawSt α).run c (rsT ++ rs) ∧
      (∀ r ∈ rsT, r ∈ reqsOf (precC c [] g.root []).2) ∧
      rs.Perm (reqsOf (precC c [] g.root []).2) := by
  simp only [externalMultiEffects]
  obtain ⟨rsT, t1, t2, t3⟩ := eThreshold_spec c g.root target g.root.size hA
    (2 * g.root.size + 2) [⟨[], g.root⟩] [] { log := log } (ECons.init c log) (ECut.root c g.root)
  have hcut := t3.left
  have hd1 : ECons c (({ log := log } : DrawSt α).run c rsT) := (ECons.init c log).run rsT
  rw [t1]
  generalize (eThreshold c target g.root.size (2 * g.root.size + 2) [⟨[], g.root⟩] []
    { log := log }).1 = queue at hcut ⊢
  rw [eRunTasks_pure c queue _ hd1]
  simp only
  rw [erecC_pure c _ g.root [] _ (hd1.run _)]
  simp only
  obtain ⟨-, i2⟩ := precC_add_items c g.root queue [] hcut.1 hcut.2 (by simp)
  rw [List.nil_append] at i2
  have i3 : (queue.flatMap (EItem.evs c) ++ (precC c (queue.map (EItem.val c)) g.root []).2).Perm
      (precC c [] g.root []).2 := List.perm_append_comm.trans i2
  refine ⟨rsT, reqsOf (queue.flatMap (EItem.evs c)) ++
    reqsOf (precC c (queue.map (EItem.val c)) g.root []).2, ?_, ?_, t2, ?_⟩
  · rw [← effsOf_append]
    exact List.Perm.filterMap _ i3
  · rw [DrawSt.run_append, DrawSt.run_append]
  · rw [← reqsOf_append]
    exact List.Perm.filterMap _ i3

theorem erec_pure (c : ECtx α) (n : Node α) (d : DrawSt α) (hd : ECons c d) :
    erec c n d = ((precC c [] n []).1, effsOf (precC c [] n []).2,
      d.run c (reqsOf (precC c [] n []).2)) := by
  rw [← erec_eq_erecC c n [] d, erecC_pure c [] n [] d hd]

/-! ## the draw log -/

/-- the record a fresh request leaves in the log -/
def ECtx.recOf (c : ECtx α) : EReq → DrawRec α
  | .ch i => ⟨0, i, c.chancePass, c.ch.getD i [], c.oc i⟩
  | .pl i => ⟨if !c.first then 1 else 2, i, c.playerPass, c.strat (!c.first) i, c.op i⟩

/-- the requests served so far in this pass -/
def DrawSt.keys (d : DrawSt α) : List EReq :=
  d.chance.map (fun e => EReq.ch e.1) ++ d.player.map (fun e => EReq.pl e.1)

/-- every request served so far was logged exactly once -/
def ETr (c : ECtx α) (log0 : List (DrawRec α)) (d : DrawSt α) : Prop :=
  d.keys.Nodup ∧ d.log.Perm (d.keys.map c.recOf ++ log0)

theorem mem_keys_ch (d : DrawSt α) (i : Nat) : EReq.ch i ∈ d.keys ↔ ∃ e ∈ d.chance, e.1 = i := by
  simp [DrawSt.keys]

theorem mem_keys_pl (d : DrawSt α) (i : Nat) : EReq.pl i ∈ d.keys ↔ ∃ e ∈ d.player, e.1 = i := by
  simp [DrawSt.keys]

/-- a request already served changes nothing; a fresh one is cached and logged -/
theorem DrawSt.req_keys (c : ECtx α) (d : DrawSt α) (r : EReq) :
    (r ∈ d.keys ∧ d.req c r = d) ∨
      (r ∉ d.keys ∧ (d.req c r).keys.Perm (r :: d.keys) ∧ (d.req c r).log = c.recOf r :: d.log) := by
  cases r with
  | ch i =>
    cases hc : assocGet d.chance i with
    | some k =>
      exact Or.inl ⟨(mem_keys_ch d i).2 (assocGet_some_mem _ _ _ hc),
        congrArg Prod.snd (sampleChance_cached _ _ _ _ k d hc)⟩
    | none =>
      refine Or.inr ⟨fun hm => ?_, ?_⟩
      · obtain ⟨e, he, hei⟩ := (mem_keys_ch d i).1 hm
        exact (assocGet_eq_none_iff _ _).1 hc e he hei
      · rw [← DrawSt.req_ch, sampleChance_fresh _ _ _ _ d hc]
        exact ⟨List.Perm.refl _, rfl⟩
  | pl i =>
    cases hc : assocGet d.player i with
    | some k =>
      exact Or.inl ⟨(mem_keys_pl d i).2 (assocGet_some_mem _ _ _ hc),
        congrArg Prod.snd (samplePlayer_cached _ _ _ _ _ k d hc)⟩
    | none =>
      refine Or.inr ⟨fun hm => ?_, ?_⟩
      · obtain ⟨e, he, hei⟩ := (mem_keys_pl d i).1 hm
        exact (assocGet_eq_none_iff _ _).1 hc e he hei
      · rw [← DrawSt.req_pl, samplePlayer_fresh _ _ _ _ _ d hc]
        exact ⟨List.perm_middle, rfl⟩

theorem ETr.req {c : ECtx α} {log0 : List (DrawRec α)} {d : DrawSt α} (h : ETr c log0 d)
    (r : EReq) :
    ETr c log0 (d.req c r) ∧ ∀ r', r' ∈ (d.req c r).keys ↔ r' = r ∨ r' ∈ d.keys := by
  rcases d.req_keys c r with ⟨hmem, e⟩ | ⟨hnot, hkeys, hlog⟩
  · rw [e]
    exact ⟨h, fun r' => ⟨Or.inr, fun hr => hr.elim (fun e' => e' ▸ hmem) id⟩⟩
  · refine ⟨⟨hkeys.nodup_iff.mpr (List.nodup_cons.mpr ⟨hnot, h.1⟩), ?_⟩,
      fun r' => by rw [hkeys.mem_iff, List.mem_cons]⟩
    rw [hlog]
    exact (h.2.cons _).trans ((hkeys.map c.recOf).append_right log0).symm

theorem ETr.run {c : ECtx α} {log0 : List (DrawRec α)} {d : DrawSt α} (h : ETr c log0 d)
    (rs : List EReq) :
    ETr c log0 (d.run c rs) ∧ ∀ r', r' ∈ (d.run c rs).keys ↔ r' ∈ rs ∨ r' ∈ d.keys := by
  induction rs generalizing d with
  | nil => exact ⟨h, fun r' => by simp⟩
  | cons r rs ih =>
    obtain ⟨h1, h2⟩ := h.req r
    obtain ⟨i1, i2⟩ := ih h1
    refine ⟨i1, fun r' => ?_⟩
    rw [DrawSt.run_cons, i2, h2, List.mem_cons, or_left_comm, ← or_assoc]

theorem ETr.init (c : ECtx α) (log : List (DrawRec α)) : ETr c log { log := log } :=
  ⟨by simp [DrawSt.keys], by simp [DrawSt.keys]⟩

/-- two passes that serve the same set of requests (in any order, any number of times) starting
from rearranged logs end with rearranged logs -/
theorem run_log_perm (c : ECtx α) (l1 l2 : List (DrawRec α)) (hl : l1.Perm l2) (rs1 rs2 : List EReq)
    (hrs : ∀ r, r ∈ rs1 ↔ r ∈ rs2) :
    ((({ log := l1 } : DrawSt α).run c rs1).log).Perm ((({ log := l2 } : DrawSt α).run c rs2).log) := by
  obtain ⟨⟨n1, p1⟩, k1⟩ := (ETr.init c l1).run rs1
  obtain ⟨⟨n2, p2⟩, k2⟩ := (ETr.init c l2).run rs2
  have hk : (({ log := l1 } : DrawSt α).run c rs1).keys.Perm (({ log := l2 } : DrawSt α).run c rs2).keys := by
    rw [List.perm_ext_iff_of_nodup n1 n2]
    intro r
    rw [k1, k2, hrs]
    simp [DrawSt.keys]
  exact p1.trans (((hk.map c.recOf).append hl).trans p2.symm)

/-! ## one pass -/

/-- **one pass, multi = single**: same state, same bound, rearranged log — for rearranged input
logs, every task target and every fair schedule -/
theorem externalMultiPassS_same (sched : Sched α) (hs : sched.Fair) (g : Game α) (first : Bool)
    (p : RegretParams α) (draw : DrawFn α) (target : Nat) (it : Nat) (s : SolveSt α)
    (log log' : List (DrawRec α)) (hl : log.Perm log')
    (hA : ∀ P one i ks, OnT (externalCtx g first draw it s) g.root P (.player one i ks) →
      (one == (externalCtx g first draw it s).first) = true →
      ks.length ≤ ((externalCtx g first draw it s).strat one i).length) :
    (externalMultiPassS sched g first p draw target it s log).1
        = (externalPass g first p draw it s log').1 ∧
      (externalMultiPassS sched g first p draw target it s log).2.1
        = (externalPass g first p draw it s log').2.1 ∧
      (externalMultiPassS sched g first p draw target it s log).2.2.Perm
        (externalPass g first p draw it s log').2.2 := by
  obtain ⟨rsT, rs, e1, e2, e3, e4⟩ :=
    externalMultiEffects_spec g (externalCtx g first draw it s) target log hA
  have hst := SolveSt.applyEffs_perm s ((hs (2 * (it - 1) + (if first then 0 else 1)) _).trans e1)
  simp only [externalMultiPassS, externalPass, ← externalCtx.eq_1]
  rw [erec_pure (externalCtx g first draw it s) g.root _ (ECons.init _ log'), hst, e2]
  refine ⟨rfl, rfl, run_log_perm _ log log' hl _ _ (fun r => ?_)⟩
  rw [List.mem_append, e4.mem_iff]
  exact ⟨fun h => h.elim (e3 r) id, Or.inr⟩

/-! ## the shape of the solver state

`eNextNodes` hands out *all* children of a node of the updating player while the traversal visits
only those with a strategy entry: the two agree when the node has as many children as its infoset
has actions (`NodeOK`) and the strategy vectors keep the length they were created with. -/

/-- every registered infoset has a state entry whose vectors have one entry per action -/
def EShape (g : Game α) (s : SolveSt α) : Prop :=
  ∀ (one : Bool) (i : Nat) (e : PInfo), (g.infos one)[i]? = some e →
    ∃ x : InfoSt α, (s.get one)[i]? = some x ∧ x.strat.length = e.actions.length ∧
      x.cumRegret.length = e.actions.length

theorem EShape.init (g : Game α) : EShape g (SolveSt.init g) := by
  intro one i e he
  cases one
  · simp only [Game.infos, Bool.false_eq_true, if_false] at he
    refine ⟨InfoSt.new e.actions.length, ?_, ?_, ?_⟩
    · simp [SolveSt.init, SolveSt.get, he]
    · simp [InfoSt.new]
    · simp [InfoSt.new]
  · simp only [Game.infos, if_true] at he
    refine ⟨InfoSt.new e.actions.length, ?_, ?_, ?_⟩
    · simp [SolveSt.init, SolveSt.get, he]
    · simp [InfoSt.new]
    · simp [InfoSt.new]

theorem EShape.applyEff {g : Game α} {s : SolveSt α} (h : EShape g s) (e : Eff α) :
    EShape g (s.applyEff e) := by
  intro one i inf hinf
  obtain ⟨x, hx, h1, h2⟩ := h one i inf hinf
  unfold SolveSt.applyEff
  rw [SolveSt.get_set_ite]
  split_ifs with ho
  · subst ho
    rw [List.getElem?_modify, hx]
    by_cases hi : e.info = i
    · refine ⟨x.apply e.slot e.act e.delta, by simp [hi], ?_, ?_⟩
      · cases e.slot <;> simp [InfoSt.apply, h1]
      · cases e.slot <;> simp [InfoSt.apply, addAt, h2]
    · exact ⟨x, by simp [hi], h1, h2⟩
  · exact ⟨x, hx, h1, h2⟩

theorem EShape.applyEffs {g : Game α} {s : SolveSt α} (h : EShape g s) (es : List (Eff α)) :
    EShape g (s.applyEffs es) := by
  unfold SolveSt.applyEffs
  induction es generalizing s with
  | nil => exact h
  | cons e es ih => exact ih (h.applyEff e)

theorem EregretMatch_length (np : Ext α) (l : List α) : (regretMatch np l).length = l.length := by
  unfold regretMatch
  dsimp only
  by_cases h : 0 < lsum (l.filter fun v => 0 < v)
  · rw [if_pos h, List.length_map]
  · rw [if_neg h]
    cases np with
    | negInf => exact (List.length_map _).trans List.length_range
    | posInf => exact (List.length_map _).trans List.length_range
    | fin w =>
      dsimp only
      by_cases hw : (w == 0) = true
      · rw [if_pos hw, List.length_replicate]
      · rw [if_neg hw, List.length_map, List.length_map]

theorem EShape.advance {g : Game α} {s : SolveSt α} (h : EShape g s) (first : Bool)
    (p : RegretParams α) (it itAvg : Nat) :
    EShape g (s.set first (advanceAll p it itAvg (s.get first) 0).1) := by
  intro one i inf hinf
  obtain ⟨x, hx, h1, h2⟩ := h one i inf hinf
  rw [SolveSt.get_set_ite]
  split_ifs with ho
  · subst ho
    rw [(advanceAll_spec p it itAvg _ 0).1, List.getElem?_map, hx]
    refine ⟨(x.advance p it itAvg).1, rfl, ?_, ?_⟩
    · simp only [InfoSt.advance, EregretMatch_length]; exact h2
    · simp only [InfoSt.advance, discountCumRegret, List.length_map]; exact h2
  · exact ⟨x, hx, h1, h2⟩

theorem EShape.pass {g : Game α} {s : SolveSt α} (h : EShape g s) (first : Bool)
    (p : RegretParams α) (draw : DrawFn α) (it : Nat) (log : List (DrawRec α)) :
    EShape g (externalPass g first p draw it s log).1 := by
  unfold externalPass
  exact (h.applyEffs _).advance first p it _

theorem OnT.nodeOK {g : Game α} {c : ECtx α} {n : Node α} {P : Path} {m : Node α}
    (h : OnT c n P m) (hn : NodeOK g n) : NodeOK g m := by
  induction h with
  | here n => exact hn
  | chance i ks k rel m hk _ ih => exact ih ((nodeOKL_iff g ks).1 hn.2.2 k (List.mem_of_getElem? hk))
  | own one i ks a k rel m _ _ hk _ ih => exact ih ((nodeOKL_iff g ks).1 hn.2.2 k (List.mem_of_getElem? hk))
  | opp one i ks k rel m _ hk _ ih => exact ih ((nodeOKL_iff g ks).1 hn.2.2 k (List.mem_of_getElem? hk))

/-- in a well-formed game with a well-shaped state every player node has exactly one child per
strategy entry -/
theorem arity_of_shape {g : Game α} (hn : NodeOK g g.root) {s : SolveSt α} (hs : EShape g s)
    (first : Bool) (draw : DrawFn α) (it : Nat) :
    ∀ P one i ks, OnT (externalCtx g first draw it s) g.root P (.player one i ks) →
      (one == (externalCtx g first draw it s).first) = true →
      ks.length ≤ ((externalCtx g first draw it s).strat one i).length := by
  intro P one i ks hon _
  have hk := hon.nodeOK hn
  obtain ⟨e, he, hlen⟩ := hk.1
  obtain ⟨x, hx, h1, -⟩ := hs one i e he
  show ks.length ≤ (s.strat one i).length
  unfold SolveSt.strat
  rw [hx]
  simp only
  omega

/-! ## iterations and the whole solve -/

/-- **one iteration, multi = single** -/
theorem externalMultiIterS_same (sched : Sched α) (hs : sched.Fair) (g : Game α)
    (hn : NodeOK g g.root) (p : RegretParams α) (draw : DrawFn α) (target : Nat) (it : Nat)
    (s : SolveSt α) (hsh : EShape g s) (log log' : List (DrawRec α)) (hl : log.Perm log') :
    (externalMultiIterS sched g p draw target it s log).1 = (externalIter g p draw it s log').1 ∧
    (externalMultiIterS sched g p draw target it s log).2.1 = (externalIter g p draw it s log').2.1 ∧
    (externalMultiIterS sched g p draw target it s log).2.2.1
      = (externalIter g p draw it s log').2.2.1 ∧
    (externalMultiIterS sched g p draw target it s log).2.2.2.Perm
      (externalIter g p draw it s log').2.2.2 ∧
    EShape g (externalIter g p draw it s log').1 := by
  have a := externalMultiPassS_same sched hs g true p draw target it s log log' hl
    (arity_of_shape hn hsh true draw it)
  have hsh1 := hsh.pass true p draw it log'
  -- name the results of player one's pass in both solvers, then of player two's
  rcases hM : externalMultiPassS sched g true p draw target it s log with ⟨sM, rM, lM⟩
  rcases hS : externalPass g true p draw it s log' with ⟨sS, rS, lS⟩
  rw [hM, hS] at a
  rw [hS] at hsh1
  obtain ⟨rfl, rfl, a3⟩ := a
  have b := externalMultiPassS_same sched hs g false p draw target it sM lM lS a3
    (arity_of_shape hn hsh1 false draw it)
  have hsh2 := hsh1.pass false p draw it lS
  rcases hM' : externalMultiPassS sched g false p draw target it sM lM with ⟨sM', rM', lM'⟩
  rcases hS' : externalPass g false p draw it sM lS with ⟨sS', rS', lS'⟩
  rw [hM', hS'] at b
  rw [hS'] at hsh2
  simp only [externalMultiIterS, externalIter, hM, hS, hM', hS']
  exact ⟨b.1, trivial, b.2.1, b.2.2, hsh2⟩

/-- **C07, external sampling** -/
theorem solveExternalMultiS_same (sched : Sched α) (hs : sched.Fair) (g : Game α)
    (hn : NodeOK g g.root) (p : RegretParams α) (draw : DrawFn α) (T : Nat) (thr : Option (Ext α))
    (target : Nat) :
    (solveExternalMultiS sched g p draw T thr target).Same (solveExternalSingle g p draw T thr) := by
  unfold solveExternalMultiS solveExternalSingle solveWith
  exact solveLoop_same _ _ thr (EShape g)
    (fun it s log log' hi hl => externalMultiIterS_same sched hs g hn p draw target it s hi log log' hl)
    T 1 _ _ _ [] [] (EShape.init g) (List.Perm.refl _)

end Cfr
