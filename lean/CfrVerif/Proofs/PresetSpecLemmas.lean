import CfrVerif.Proofs.PresetSpec
/-!
# Entrywise facts about `vadd` and sums over `List.range`, used by the game-level and the scalar part
-/
namespace Cfr

theorem vadd_length (x y : List ℝ) : (vadd x y).length = min x.length y.length :=
  List.length_zipWith

theorem vadd_getD (x y : List ℝ) (a : ℕ) (hx : a < x.length) (hy : a < y.length) :
    (vadd x y).getD a 0 = x.getD a 0 + y.getD a 0 := by
  simp only [vadd, List.getD_eq_getElem?_getD, List.getElem?_zipWith, List.getElem?_eq_getElem hx,
    List.getElem?_eq_getElem hy, Option.getD_some]

theorem sum_list_range (n : ℕ) (f : ℕ → ℝ) :
    ((List.range n).map f).sum = ∑ i ∈ Finset.range n, f i := by
  induction n with
  | zero => rfl
  | succ n ih => rw [List.sum_range_succ, ih, Finset.sum_range_succ]

end Cfr
