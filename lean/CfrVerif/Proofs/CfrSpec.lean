import CfrVerif.Model.Solve
import CfrVerif.Proofs.ViewSpec
/-!
# Textbook quantities of counterfactual regret minimisation, on the player view

`regAdd σ I a v c` is the *instantaneous counterfactual regret* of action `a` at infoset `I`
when the player follows `σ` on the view `v` whose root is reached by the rest of the world with
probability `c`:  `Σ_{h ∈ I} π_{-i}(h) · (v^σ(h·a) − v^σ(h))`.

`stratAdd σ I a v q` is the reach-weighted strategy mass the traversal adds to the average-strategy
accumulator: `Σ_{h ∈ I} π_i^σ(h) · σ(I, a)`, where `q` is the own reach of the root of `v`.

`effSum` reads a list of atomic accumulations as the total added to one accumulator cell.
-/
set_option linter.unusedSectionVars false
namespace Cfr
variable {α : Type} [Field α] [LinearOrder α] [IsStrictOrderedRing α]

mutual
/-- instantaneous counterfactual regret of `(I, a)` collected below a view -/
def regAdd (σ : Strat α) (I a : Nat) : V α → α → α
  | .term _, _ => 0
  | .nature ws ks, c => regAddN σ I a ws ks c
  | .decide i ks, c =>
    (if i = I then c * ((ks.map (evV σ)).getD a 0 - evVN σ (σ.at i) ks) else 0) + regAddD σ I a ks c
def regAddN (σ : Strat α) (I a : Nat) : List α → List (V α) → α → α
  | w :: ws, k :: ks, c => regAdd σ I a k (c * w) + regAddN σ I a ws ks c
  | _, _, _ => 0
def regAddD (σ : Strat α) (I a : Nat) : List (V α) → α → α
  | [], _ => 0
  | k :: ks, c => regAdd σ I a k c + regAddD σ I a ks c
end

mutual
/-- reach-weighted strategy mass of `(I, a)` collected below a view; `q` = own reach -/
def stratAdd (σ : Strat α) (I a : Nat) : V α → α → α
  | .term _, _ => 0
  | .nature _ ks, q => stratAddN σ I a ks q
  | .decide i ks, q =>
    (if i = I then q * (σ.at i).getD a 0 else 0) + stratAddD σ I a (σ.at i) ks q
def stratAddN (σ : Strat α) (I a : Nat) : List (V α) → α → α
  | [], _ => 0
  | k :: ks, q => stratAdd σ I a k q + stratAddN σ I a ks q
def stratAddD (σ : Strat α) (I a : Nat) : List α → List (V α) → α → α
  | s :: ss, k :: ks, q => stratAdd σ I a k (q * s) + stratAddD σ I a ss ks q
  | _, _, _ => 0
end

/-- the total a list of atomic accumulations adds to one accumulator cell -/
def effSum (es : List (Eff α)) (one : Bool) (I : Nat) (slot : Slot) (a : Nat) : α :=
  ((es.filter (fun e => e.one == one && e.info == I && e.slot == slot && e.act == a)).map
    (fun e => e.delta)).sum

/-- number of own decision nodes of infoset `I` in a view -/
def cntInfo (I : Nat) : V α → Nat
  | .term _ => 0
  | .nature _ ks => cntInfoL I ks
  | .decide i ks => (if i = I then 1 else 0) + cntInfoL I ks
where cntInfoL (I : Nat) : List (V α) → Nat
  | [] => 0
  | k :: ks => cntInfo I k + cntInfoL I ks

end Cfr
