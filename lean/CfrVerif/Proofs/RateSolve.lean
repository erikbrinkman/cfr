import CfrVerif.Proofs.RateExternal
import CfrVerif.Model.Locks
import CfrVerif.Proofs.RatePotential
/-!
# The CFR rate through `advance`, one iteration and the solver loop (vanilla parameters)

Invariant after `t` iterations, for every infoset of both players (`RegInv`): the current strategy
is `regretMatch (.fin 0)` of the cumulative regrets and their potential is at most `t·A·D²`.
-/
set_option linter.unusedSectionVars false
namespace Cfr
open Finset

structure RegInv (A : ℕ) (D : ℝ) (T : ℕ) (x : InfoSt ℝ) : Prop where
  matched : x.strat = regretMatch (.fin 0) x.cumRegret
  phi : Phi x.cumRegret ≤ T * A * D ^ 2

def PInv (A : ℕ) (D : ℝ) (T : ℕ) (xs : List (InfoSt ℝ)) : Prop :=
  ∀ (I : ℕ) (x : InfoSt ℝ), xs[I]? = some x → RegInv A D T x

theorem regInv_new (A : ℕ) (D : ℝ) (n : ℕ) : RegInv A D 0 (InfoSt.new n : InfoSt ℝ) := by
  constructor
  · simp only [InfoSt.new]
    rw [regretMatch_uniform _ (by intro x hx; rw [List.eq_of_mem_replicate hx])]
    simp
  · simp only [InfoSt.new, Phi_replicate_zero]
    simp

theorem pInv_init (A : ℕ) (D : ℝ) (g : Game ℝ) (me : Bool) :
    PInv A D 0 ((SolveSt.init g).get me) := by
  intro I x hx
  obtain ⟨n, rfl⟩ := init_get g me I x hx
  exact regInv_new A D n

theorem phi_cell_step (A : ℕ) (D : ℝ) (it n : ℕ) (hit : 1 ≤ it) (hnA : n ≤ A) (x x' : InfoSt ℝ)
    (hx : InfoOK n x) (hinv : RegInv A D (it - 1) x) (δ : ℕ → ℝ)
    (hlen : x'.cumRegret.length = x.cumRegret.length)
    (hcell : ∀ a, a < x.cumRegret.length → x'.cumRegret.getD a 0 = x.cumRegret.getD a 0 + δ a)
    (horth : ∑ a ∈ range x.strat.length, x.strat.getD a 0 * δ a = 0)
    (hbd : ∀ a, |δ a| ≤ D) :
    x'.cumRegret ≠ [] ∧ Phi x'.cumRegret ≤ it * A * D ^ 2 := by
  constructor
  · intro h0
    rw [h0, List.length_nil, hx.lenR] at hlen
    have := hx.pos
    omega
  · rw [hx.lenσ, ← hx.lenR, hinv.matched] at horth
    have h1 := phi_step x.cumRegret x'.cumRegret δ D hlen hcell horth (fun a _ => hbd a)
    have h2 := hinv.phi
    rw [hx.lenR] at h1
    rw [Nat.cast_sub hit, Nat.cast_one] at h2
    calc Phi x'.cumRegret ≤ ((it : ℝ) - 1) * A * D ^ 2 + A * D ^ 2 :=
          h1.trans (add_le_add h2
            (mul_le_mul_of_nonneg_right (Nat.cast_le.mpr hnA) (sq_nonneg D)))
      _ = it * A * D ^ 2 := by ring

theorem table_advance (A : ℕ) (D : ℝ) (hD : 0 ≤ D) (it itAvg : ℕ) (hit : 1 ≤ it)
    (xs : List (InfoSt ℝ))
    (h : ∀ (I : ℕ) (x : InfoSt ℝ), xs[I]? = some x →
      x.cumRegret ≠ [] ∧ Phi x.cumRegret ≤ it * A * D ^ 2) :
    PInv A D it (advanceAll RegretParams.vanilla it itAvg xs 0).1 ∧
    (advanceAll RegretParams.vanilla it itAvg xs 0).2
      ≤ 2 * D * xs.length * Real.sqrt A / Real.sqrt it := by
  rw [advanceAll_vanilla, zero_add]
  constructor
  · intro I y hy
    rw [List.getElem?_map] at hy
    obtain ⟨x, hx, rfl⟩ := Option.map_eq_some_iff.mp hy
    exact ⟨rfl, (h I x hx).2⟩
  · have hb : ∀ b ∈ xs.map (fun x => cumRegretBound it x.cumRegret),
        b ≤ 2 * D * Real.sqrt A / Real.sqrt it := by
      intro b hb
      obtain ⟨x, hx, rfl⟩ := List.mem_map.mp hb
      obtain ⟨I, hI, rfl⟩ := List.getElem_of_mem hx
      obtain ⟨c1, c2⟩ := h I _ (List.getElem?_eq_getElem hI)
      exact bound_of_phi _ c1 D hD A it hit c2
    have := List.sum_le_card_nsmul _ _ hb
    rw [List.length_map, nsmul_eq_mul] at this
    calc _ ≤ _ := this
      _ = 2 * D * xs.length * Real.sqrt A / Real.sqrt it := by ring

/-- **one player's table through an iteration**: if what the traversal adds to the regrets of
every infoset of `me` is orthogonal to the current strategy and bounded by `D`, the invariant
advances and the reported bound obeys the rate -/
theorem advance_rate (g : Game ℝ) (A : ℕ) (hA : ActsLe g A) (D : ℝ) (hD : 0 ≤ D) (it itAvg : ℕ)
    (hit : 1 ≤ it) (s : SolveSt ℝ) (hs : StOK g s) (me : Bool)
    (hinv : PInv A D (it - 1) (s.get me)) (es : List (Eff ℝ))
    (htr : ∀ (I : ℕ) (x : InfoSt ℝ), (s.get me)[I]? = some x →
      (∑ a ∈ range x.strat.length, x.strat.getD a 0 * effSum es me I Slot.regret a = 0) ∧
      ∀ a, |effSum es me I Slot.regret a| ≤ D) :
    PInv A D it (advanceAll RegretParams.vanilla it itAvg ((s.applyEffs es).get me) 0).1 ∧
    (advanceAll RegretParams.vanilla it itAvg ((s.applyEffs es).get me) 0).2
      ≤ 2 * D * (g.infos me).length * Real.sqrt A / Real.sqrt it := by
  obtain ⟨hl, hc⟩ := applyEffs_cell s es me
  rw [← tableOK_length (hs me), ← hl]
  refine table_advance A D hD it itAvg hit _ fun I x' hx' => ?_
  have hI : I < (s.get me).length := hl ▸ (List.getElem?_eq_some_iff.mp hx').1
  have hx := List.getElem?_eq_getElem hI
  obtain ⟨e, he, hinfo⟩ := (tableOK_get (hs me)).2 I _ hx
  obtain ⟨x'', hx'', -, g3, -, g5, -⟩ := hc I _ hx
  obtain rfl : x'' = x' := Option.some.inj (hx''.symm.trans hx')
  exact phi_cell_step A D it _ hit (hA me e (List.mem_of_getElem? he)) _ _ hinfo (hinv I _ hx) _ g3 g5
    (htr I _ hx).1 (htr I _ hx).2

/-- the rate through the iteration loop: `P k` is a state invariant after `k` iterations that a step
carries on, reporting bounds that obey the rate -/
theorem solveLoop_rate (step : IterFn ℝ) (thr : Option (Ext ℝ)) (P : ℕ → SolveSt ℝ → Prop)
    (D : ℝ) (n1 n2 A : ℕ)
    (hstep : ∀ it s log, 1 ≤ it → P (it - 1) s →
      P it (step it s log).1 ∧ RateOK D n1 A it (.fin (step it s log).2.1) ∧
        RateOK D n2 A it (.fin (step it s log).2.2.1))
    (n : ℕ) (s : SolveSt ℝ) (hs : P 0 s) :
    RateOK D n1 A (solveLoop step thr n 1 s .posInf .posInf []).iters
      (solveLoop step thr n 1 s .posInf .posInf []).regOne ∧
    RateOK D n2 A (solveLoop step thr n 1 s .posInf .posInf []).iters
      (solveLoop step thr n 1 s .posInf .posInf []).regTwo := by
  obtain ⟨k, s', r1', r2', log', ⟨-, -, hr⟩, -, -, ho⟩ := solveLoop_induct step thr
    (fun it s r1 r2 _ => 1 ≤ it ∧ P (it - 1) s ∧
      RateOK D n1 A (it - 1) r1 ∧ RateOK D n2 A (it - 1) r2)
    (fun it s _ _ log h => ⟨Nat.le_add_left 1 it, hstep it s log h.1 h.2.1⟩)
    n 1 s .posInf .posInf [] ⟨le_rfl, hs, rfl, rfl⟩
  rw [ho]
  exact hr

def RInv (g : Game ℝ) (A : ℕ) (D : ℝ) (T : ℕ) (s : SolveSt ℝ) : Prop :=
  StOK g s ∧ ∀ me, PInv A D T (s.get me)

theorem rInv_init (g : Game ℝ) (hg : GameWF g) (A : ℕ) (D : ℝ) :
    RInv g A D 0 (SolveSt.init g) :=
  ⟨stOK_init g hg, fun me => pInv_init A D g me⟩

theorem payIn_le (g : Game ℝ) (hg : GameWF g) (lo hi : ℝ) (hpay : PayIn lo hi g.root) :
    lo ≤ hi := by
  have h := vrec_rng ⟨g.chance, false, (SolveSt.init g).strat, fun _ _ _ _ => 0, 0⟩
    (by intro h; cases h) lo hi g.root 1 1 1 {}
    (tfit_of_ok g hg _ (stOK_init g hg) g.root hg.nodes) hpay (DOK.init _ _)
  exact le_trans h.1 h.2.1

theorem vanilla_traversal (g : Game ℝ) (hg : GameWF g) (lo hi : ℝ) (hpay : PayIn lo hi g.root)
    (sampled : Bool) (draw : DrawFn ℝ) (hdr : sampled = true → DrawLt draw) (pass : ℕ)
    (s : SolveSt ℝ) (hs : StOK g s) (log : List (DrawRec ℝ)) (me : Bool) (I : ℕ) (x : InfoSt ℝ)
    (hx : (s.get me)[I]? = some x) :
    (∑ a ∈ range x.strat.length, x.strat.getD a 0 *
      effSum (vrec ⟨g.chance, sampled, s.strat, draw, pass⟩ g.root 1 1 1 { log := log }).2.1
        me I Slot.regret a = 0) ∧
    ∀ a, |effSum (vrec ⟨g.chance, sampled, s.strat, draw, pass⟩ g.root 1 1 1 { log := log }).2.1
        me I Slot.regret a| ≤ hi - lo := by
  obtain ⟨e, he, hinfo⟩ := (tableOK_get (hs me)).2 I x hx
  have hst := strat_of_get s me I x hx
  constructor
  · have := vrec_orth ⟨g.chance, sampled, s.strat, draw, pass⟩ me I
      (by simp only [hst]; exact hinfo.dist.2) g.root 1 1 1 { log := log }
    simp only [dotE, hst] at this
    exact this
  · intro a
    obtain ⟨hist, hpr, -⟩ := hg.recall me
    have := vrec_bnd ⟨g.chance, sampled, s.strat, draw, pass⟩ hdr me I lo hi
      (payIn_le g hg lo hi hpay) g.root 1 1 1 { log := log } zero_le_one zero_le_one zero_le_one
      (good_of_PR me hist I g.root [] hpr) (tfit_of_ok g hg s hs g.root hg.nodes) hpay
      (DOK.init _ _) a
    rwa [one_mul, ite_self, mul_one] at this

theorem vanillaIter_eq' (g : Game ℝ) (sampled : Bool) (p : RegretParams ℝ) (draw : DrawFn ℝ)
    (it : ℕ) (s : SolveSt ℝ) (log : List (DrawRec ℝ)) :
    vanillaIter g sampled p draw it s log =
      (let r := vrec ⟨g.chance, sampled, s.strat, draw, it - 1⟩ g.root 1 1 1 { log := log }
       let s' := s.applyEffs r.2.1
       (⟨(advanceAll p it it (s'.get true) 0).1, (advanceAll p it it (s'.get false) 0).1⟩,
        (advanceAll p it it (s'.get true) 0).2, (advanceAll p it it (s'.get false) 0).2,
        r.2.2.log)) :=
  rfl

theorem vanillaIter_rate (g : Game ℝ) (hg : GameWF g) (lo hi : ℝ) (hpay : PayIn lo hi g.root)
    (A : ℕ) (hA : ActsLe g A) (sampled : Bool) (draw : DrawFn ℝ)
    (hdr : sampled = true → DrawLt draw) (it : ℕ) (hit : 1 ≤ it) (s : SolveSt ℝ)
    (log : List (DrawRec ℝ)) (h : RInv g A (hi - lo) (it - 1) s) :
    RInv g A (hi - lo) it (vanillaIter g sampled RegretParams.vanilla draw it s log).1 ∧
    RateOK (hi - lo) g.p1.length A it
      (.fin (vanillaIter g sampled RegretParams.vanilla draw it s log).2.1) ∧
    RateOK (hi - lo) g.p2.length A it
      (.fin (vanillaIter g sampled RegretParams.vanilla draw it s log).2.2.1) := by
  obtain ⟨hs, hinv⟩ := h
  have hok := (vanillaIter_ok g sampled RegretParams.vanilla (le_of_eq rfl) draw it s log hs).1
  have t := fun me => advance_rate g A hA (hi - lo)
    (sub_nonneg.mpr (payIn_le g hg lo hi hpay)) it it hit s hs me (hinv me) _
    (vanilla_traversal g hg lo hi hpay sampled draw hdr (it - 1) s hs log me)
  rw [vanillaIter_eq'] at hok ⊢
  dsimp only at hok ⊢
  exact ⟨⟨hok, fun me => by cases me; exacts [(t false).1, (t true).1]⟩, (t true).2, (t false).2⟩

/-- the rate of both vanilla solvers (the chance-sampled one for in-range draws) -/
theorem vanilla_rate (g : Game ℝ) (hg : GameWF g) (lo hi : ℝ) (hpay : PayIn lo hi g.root)
    (A : ℕ) (hA : ActsLe g A) (sampled : Bool) (draw : DrawFn ℝ)
    (hdr : sampled = true → DrawLt draw) (T : ℕ) (thr : Option (Ext ℝ)) :
    RateOK (hi - lo) g.p1.length A
      (solveVanillaSingle g sampled RegretParams.vanilla draw T thr).iters
      (solveVanillaSingle g sampled RegretParams.vanilla draw T thr).regOne ∧
    RateOK (hi - lo) g.p2.length A
      (solveVanillaSingle g sampled RegretParams.vanilla draw T thr).iters
      (solveVanillaSingle g sampled RegretParams.vanilla draw T thr).regTwo := by
  unfold solveVanillaSingle solveWith
  exact solveLoop_rate _ thr (RInv g A (hi - lo)) (hi - lo) g.p1.length g.p2.length A
    (fun it s log hit h => vanillaIter_rate g hg lo hi hpay A hA sampled draw hdr it hit s log h)
    T (SolveSt.init g) (rInv_init g hg A _)

theorem externalPass_eq' (g : Game ℝ) (first : Bool) (p : RegretParams ℝ) (draw : DrawFn ℝ)
    (it : ℕ) (s : SolveSt ℝ) (log : List (DrawRec ℝ)) :
    externalPass g first p draw it s log =
      (let r := erec (externalCtx g first draw it s) g.root { log := log }
       let s' := s.applyEffs r.2.1
       let t := advanceAll p it (if first then it - 1 else it) (s'.get first) 0
       (s'.set first t.1, t.2, r.2.2.log)) :=
  rfl

theorem pInv_same (A : ℕ) (D : ℝ) (T : ℕ) (xs xs' : List (InfoSt ℝ)) (h : PInv A D T xs)
    (hlen : xs'.length = xs.length)
    (hcell : ∀ (I : ℕ) (x : InfoSt ℝ), xs[I]? = some x →
      ∃ x', xs'[I]? = some x' ∧ x'.strat = x.strat ∧
        x'.cumRegret.length = x.cumRegret.length ∧
        (∀ a, a < x.cumRegret.length → x'.cumRegret.getD a 0 = x.cumRegret.getD a 0)) :
    PInv A D T xs' := by
  intro I x' hx'
  have hI : I < xs.length := by
    rw [← hlen]
    exact (List.getElem?_eq_some_iff.mp hx').1
  have hx : xs[I]? = some xs[I] := List.getElem?_eq_getElem hI
  obtain ⟨x'', hx'', hs, hl, hc⟩ := hcell I _ hx
  rw [hx'] at hx''
  obtain rfl : x' = x'' := by simpa using hx''
  have e := list_ext_getD _ _ hl hc
  have r := h I _ hx
  exact ⟨by rw [hs, e]; exact r.matched, by rw [e]; exact r.phi⟩

theorem ext_traversal (g : Game ℝ) (hg : GameWF g) (lo hi : ℝ) (hpay : PayIn lo hi g.root)
    (first : Bool) (draw : DrawFn ℝ) (hdr : DrawLt draw) (it : ℕ)
    (s : SolveSt ℝ) (hs : StOK g s) (log : List (DrawRec ℝ)) (I : ℕ) (x : InfoSt ℝ)
    (hx : (s.get first)[I]? = some x) :
    (∑ a ∈ range x.strat.length, x.strat.getD a 0 *
      effSum (erec (externalCtx g first draw it s) g.root { log := log }).2.1
        first I Slot.regret a = 0) ∧
    ∀ a, |effSum (erec (externalCtx g first draw it s) g.root { log := log }).2.1
        first I Slot.regret a| ≤ hi - lo := by
  obtain ⟨e, he, hinfo⟩ := (tableOK_get (hs first)).2 I x hx
  have hst := strat_of_get s first I x hx
  constructor
  · have := erec_orth (externalCtx g first draw it s) first I
      (by simp only [externalCtx, hst]; exact hinfo.dist.2) g.root { log := log }
    simp only [dotE, externalCtx, hst] at this
    exact this
  · intro a
    obtain ⟨hist, hpr, -⟩ := hg.recall first
    have hgood := good_of_PR first hist I g.root [] hpr
    have hfit := tfit_of_ok g hg s hs g.root hg.nodes
    -- player two's payoffs are the negated ones, in `[-hi, -lo]`
    cases first
    · have := erec_bnd (externalCtx g false draw it s) hdr lo hi (-hi) (-lo)
        (fun p h1 h2 => ⟨neg_le_neg h2, neg_le_neg h1⟩)
        (neg_le_neg (payIn_le g hg lo hi hpay)) I g.root { log := log } hgood hfit hpay
        (EOK.init _ _) a
      rwa [neg_sub_neg] at this
    · exact erec_bnd (externalCtx g true draw it s) hdr lo hi lo hi (fun p h1 h2 => ⟨h1, h2⟩)
        (payIn_le g hg lo hi hpay) I g.root { log := log } hgood hfit hpay (EOK.init _ _) a

theorem externalPass_rate (g : Game ℝ) (hg : GameWF g) (lo hi : ℝ) (hpay : PayIn lo hi g.root)
    (A : ℕ) (hA : ActsLe g A) (draw : DrawFn ℝ) (hdr : DrawLt draw) (it : ℕ) (hit : 1 ≤ it)
    (first : Bool) (s : SolveSt ℝ) (log : List (DrawRec ℝ)) (T : Bool → ℕ)
    (hT : T first = it - 1) (hs : StOK g s) (hinv : ∀ me, PInv A (hi - lo) (T me) (s.get me)) :
    StOK g (externalPass g first RegretParams.vanilla draw it s log).1 ∧
    PInv A (hi - lo) it ((externalPass g first RegretParams.vanilla draw it s log).1.get first) ∧
    PInv A (hi - lo) (T (!first))
      ((externalPass g first RegretParams.vanilla draw it s log).1.get (!first)) ∧
    (externalPass g first RegretParams.vanilla draw it s log).2.1
      ≤ 2 * (hi - lo) * (g.infos first).length * Real.sqrt A / Real.sqrt it := by
  refine ⟨(externalPass_ok g first RegretParams.vanilla (le_of_eq rfl) draw it s log hs).1, ?_⟩
  rw [externalPass_eq']
  dsimp only
  have t := advance_rate g A hA (hi - lo) (sub_nonneg.mpr (payIn_le g hg lo hi hpay)) it
    (if first then it - 1 else it) hit s hs first (hT ▸ hinv first) _
    (ext_traversal g hg lo hi hpay first draw hdr it s hs log)
  have hne : ¬ (!first) = first := by cases first <;> simp
  refine ⟨?_, ?_, t.2⟩
  · rw [SolveSt.get_set_same]
    exact t.1
  · -- the other player's regrets are untouched
    rw [SolveSt.get_set_ne _ _ _ _ hne]
    obtain ⟨hl2, hc2⟩ := applyEffs_cell s
      (erec (externalCtx g first draw it s) g.root { log := log }).2.1 (!first)
    refine pInv_same A (hi - lo) _ (s.get (!first)) _ (hinv (!first)) hl2 fun I x hx => ?_
    obtain ⟨x', g1, g2, g3, -, g5, -⟩ := hc2 I x hx
    refine ⟨x', g1, g2, g3, fun a ha => ?_⟩
    rw [g5 a ha, erec_zero (externalCtx g first draw it s) (!first) I a g.root { log := log }
      (fun h => absurd h hne), add_zero]

attribute [local irreducible] externalPass in
/-- the two passes of an iteration, by projections; `externalPass` stays folded so that the pair
patterns of `externalIter` are matched by eta, not by evaluating the passes -/
theorem externalIter_eq' (g : Game ℝ) (p : RegretParams ℝ) (draw : DrawFn ℝ) (it : ℕ)
    (s : SolveSt ℝ) (log : List (DrawRec ℝ)) :
    externalIter g p draw it s log =
      (let r := externalPass g true p draw it s log
       let r' := externalPass g false p draw it r.1 r.2.2
       (r'.1, r.2.1, r'.2.1, r'.2.2)) :=
  rfl

theorem externalIter_rate (g : Game ℝ) (hg : GameWF g) (lo hi : ℝ) (hpay : PayIn lo hi g.root)
    (A : ℕ) (hA : ActsLe g A) (draw : DrawFn ℝ) (hdr : DrawLt draw) (it : ℕ) (hit : 1 ≤ it)
    (s : SolveSt ℝ) (log : List (DrawRec ℝ)) (h : RInv g A (hi - lo) (it - 1) s) :
    RInv g A (hi - lo) it (externalIter g RegretParams.vanilla draw it s log).1 ∧
    RateOK (hi - lo) g.p1.length A it
      (.fin (externalIter g RegretParams.vanilla draw it s log).2.1) ∧
    RateOK (hi - lo) g.p2.length A it
      (.fin (externalIter g RegretParams.vanilla draw it s log).2.2.1) := by
  obtain ⟨hs, hinv⟩ := h
  -- after player one's pass that player has done `it` iterations, player two `it − 1`
  obtain ⟨a1, a2, a3, a4⟩ := externalPass_rate g hg lo hi hpay A hA draw hdr it hit true s log
    (fun _ => it - 1) rfl hs hinv
  obtain ⟨b1, b2, b3, b4⟩ := externalPass_rate g hg lo hi hpay A hA draw hdr it hit false
    (externalPass g true RegretParams.vanilla draw it s log).1
    (externalPass g true RegretParams.vanilla draw it s log).2.2
    (fun me => if me then it else it - 1) rfl a1 (fun me => by cases me; exacts [a3, a2])
  rw [externalIter_eq']
  dsimp only
  exact ⟨⟨b1, fun me => by cases me; exacts [b2, b3]⟩, a4, b4⟩

/-- the rate of the external-sampling solver, for in-range draws -/
theorem external_rate (g : Game ℝ) (hg : GameWF g) (lo hi : ℝ) (hpay : PayIn lo hi g.root)
    (A : ℕ) (hA : ActsLe g A) (draw : DrawFn ℝ) (hdr : DrawLt draw) (T : ℕ)
    (thr : Option (Ext ℝ)) :
    RateOK (hi - lo) g.p1.length A
      (solveExternalSingle g RegretParams.vanilla draw T thr).iters
      (solveExternalSingle g RegretParams.vanilla draw T thr).regOne ∧
    RateOK (hi - lo) g.p2.length A
      (solveExternalSingle g RegretParams.vanilla draw T thr).iters
      (solveExternalSingle g RegretParams.vanilla draw T thr).regTwo := by
  unfold solveExternalSingle solveWith
  exact solveLoop_rate _ thr (RInv g A (hi - lo)) (hi - lo) g.p1.length g.p2.length A
    (fun it s log hit h => externalIter_rate g hg lo hi hpay A hA draw hdr it hit s log h)
    T (SolveSt.init g) (rInv_init g hg A _)

end Cfr
