import CfrVerif.Proofs.Basic
import CfrVerif.Model.Vanilla
import CfrVerif.Model.External
import Mathlib.Data.List.Perm.Basic
/-!
# Atomic accumulations commute

What a table and a vector read after one accumulation, and the main fact: the state after a list
of atomic accumulations does not depend on their order (exact arithmetic).  This is what makes the
result of a multi-threaded iteration independent of the thread schedule.
Last, `advanceAll` as a map over the table and a sum of the reported bounds.
-/
set_option linter.unusedSectionVars false
namespace Cfr
variable {α : Type} [Field α] [LinearOrder α] [IsStrictOrderedRing α] [Transc α]

theorem SolveSt.get_set_ite {β : Type} (s : SolveSt β) (o me : Bool) (l : List (InfoSt β)) :
    (s.set o l).get me = if me = o then l else s.get me := by
  cases o <;> cases me <;> rfl

theorem SolveSt.get_set_same {β : Type} (s : SolveSt β) (o : Bool) (l : List (InfoSt β)) :
    (s.set o l).get o = l := by rw [SolveSt.get_set_ite, if_pos rfl]

theorem SolveSt.get_set_ne {β : Type} (s : SolveSt β) (o me : Bool) (l : List (InfoSt β))
    (h : me ≠ o) : (s.set o l).get me = s.get me := by rw [SolveSt.get_set_ite, if_neg h]

theorem SolveSt.get_applyEff {β : Type} [Add β] (s : SolveSt β) (e : Eff β) (one : Bool) :
    (s.applyEff e).get one
      = if one = e.one then (s.get one).modify e.info (fun x => x.apply e.slot e.act e.delta)
        else s.get one := by
  rw [SolveSt.applyEff, SolveSt.get_set_ite]
  by_cases h : one = e.one
  · rw [if_pos h, if_pos h, h]
  · rw [if_neg h, if_neg h]

theorem SolveSt.ext_get {β : Type} {s t : SolveSt β} (h : ∀ one, s.get one = t.get one) : s = t := by
  obtain ⟨a, b⟩ := s
  obtain ⟨c, d⟩ := t
  have h1 : a = c := h true
  have h2 : b = d := h false
  rw [h1, h2]

theorem addAt_length {β : Type} [Add β] (l : List β) (a : Nat) (d : β) :
    (addAt l a d).length = l.length :=
  List.length_modify ..

theorem addAt_getD {β : Type} [Field β] (l : List β) (a : Nat) (d : β) (b : Nat)
    (hb : b < l.length) : (addAt l a d).getD b 0 = l.getD b 0 + if a = b then d else 0 := by
  rw [addAt, List.getD_eq_getElem?_getD, List.getD_eq_getElem?_getD, List.getElem?_modify,
    List.getElem?_eq_getElem hb, Option.map_eq_map, Option.map_some, Option.getD_some,
    Option.getD_some]
  by_cases h : a = b
  · rw [if_pos h, if_pos h]
  · rw [if_neg h, if_neg h, add_zero]

theorem subEffsE_eq_subEffs {β : Type} [Neg β] (one : Bool) (i : Nat) (sub : β) (n : Nat) :
    subEffsE one i sub n = subEffs one i sub n := rfl

/-- `ExternalInfo::update_cum_strat` is `update_cum_strat(1)` -/
theorem extStratEffs_eq_stratEffs {β : Type} [MulOneClass β] (one : Bool) (i : Nat) :
    ∀ (σ : List β) (k : Nat), extStratEffs one i σ k = stratEffs one i 1 σ k
  | [], _ => rfl
  | s :: σ, k =>
    congrArg₂ List.cons (congrArg (Eff.mk one i .strat k) (one_mul s).symm)
      (extStratEffs_eq_stratEffs one i σ (k + 1))

theorem modify_comm {β : Type} (f g : β → β) (l : List β) (i j : Nat)
    (h : i = j → ∀ x, f (g x) = g (f x)) :
    (l.modify i f).modify j g = (l.modify j g).modify i f := by
  apply List.ext_getElem?
  intro k
  simp only [List.getElem?_modify]
  cases l[k]? with
  | none => rfl
  | some x =>
    by_cases h1 : i = k <;> by_cases h2 : j = k <;>
      simp only [h1, h2, if_true, if_false, Option.map_eq_map, Option.map_some]
    rw [h (h1.trans h2.symm)]

theorem addAt_comm (l : List α) (a b : Nat) (x y : α) :
    addAt (addAt l a x) b y = addAt (addAt l b y) a x := by
  unfold addAt
  exact modify_comm _ _ l a b fun _ z => by ring

theorem InfoSt.apply_comm (x : InfoSt α) (s1 s2 : Slot) (a b : Nat) (u v : α) :
    (x.apply s1 a u).apply s2 b v = (x.apply s2 b v).apply s1 a u := by
  cases s1 <;> cases s2 <;> simp [InfoSt.apply, addAt_comm]

/-- table by table: the two accumulations touch the same entry of the same table, where they
commute, or different entries -/
theorem SolveSt.applyEff_comm (s : SolveSt α) (e f : Eff α) :
    (s.applyEff e).applyEff f = (s.applyEff f).applyEff e := by
  refine SolveSt.ext_get fun one => ?_
  rw [SolveSt.get_applyEff, SolveSt.get_applyEff, SolveSt.get_applyEff, SolveSt.get_applyEff]
  by_cases h1 : one = e.one <;> by_cases h2 : one = f.one
  · simp only [if_pos h1, if_pos h2]
    exact modify_comm _ _ _ _ _ fun _ x => x.apply_comm f.slot e.slot f.act e.act f.delta e.delta
  · simp only [if_pos h1, if_neg h2]
  · simp only [if_neg h1, if_pos h2]
  · simp only [if_neg h1, if_neg h2]

theorem SolveSt.applyEffs_perm (s : SolveSt α) {es es' : List (Eff α)} (h : es.Perm es') :
    s.applyEffs es = s.applyEffs es' := by
  unfold SolveSt.applyEffs
  induction h generalizing s with
  | nil => rfl
  | cons x _ ih => simp only [List.foldl_cons]; exact ih _
  | swap x y l => simp only [List.foldl_cons]; rw [SolveSt.applyEff_comm]
  | trans _ _ ih1 ih2 => rw [ih1, ih2]

theorem SolveSt.applyEffs_append (s : SolveSt α) (es es' : List (Eff α)) :
    s.applyEffs (es ++ es') = (s.applyEffs es).applyEffs es' := by
  simp [SolveSt.applyEffs, List.foldl_append]

theorem advanceAll_spec (p : RegretParams α) (it itAvg : Nat) :
    ∀ (l : List (InfoSt α)) (acc : α),
      (advanceAll p it itAvg l acc).1 = l.map (fun x => (x.advance p it itAvg).1) ∧
      (advanceAll p it itAvg l acc).2 = acc + (l.map (fun x => (x.advance p it itAvg).2)).sum
  | [], acc => by simp [advanceAll]
  | x :: xs, acc => by
    obtain ⟨h1, h2⟩ := advanceAll_spec p it itAvg xs (acc + (x.advance p it itAvg).2)
    simp only [advanceAll, List.map_cons, List.sum_cons]
    exact ⟨congrArg _ h1, by rw [h2, add_assoc]⟩

end Cfr
