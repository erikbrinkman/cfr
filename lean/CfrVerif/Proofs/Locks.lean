import CfrVerif.Model.Locks
import CfrVerif.Proofs.GameWF
import CfrVerif.Proofs.LocksGeneric
import CfrVerif.Proofs.LocksTrace
/-!
# Workers never meet, the pool never deadlocks, every schedule ends

Over the interleaving model of `Model/Locks.lean`: any worker may take the next step, a
`try_lock().unwrap()` on a held mutex is a panic, a `lock()` on a held mutex waits.

Generic part: for any list of task traces satisfying `PoolOK` (`Proofs/LocksGeneric.lean`: no
mutex is `try_lock`ed twice in the whole pool, neither by two tasks nor twice by one; every blocking
`lock()` is released by the very next event of the same task; the blocking locks are never the
`try_lock`ed ones; every acquisition is released later in its trace), no reachable configuration
lets a worker panic (`no_panic`), every reachable configuration that is not finished has a worker
that can move (`no_deadlock`), and when all have finished every mutex is free
(`finished_all_free`): the special case (`PoolOK.toPoolOK2`) of the theorems under the wider
`PoolOK2`, which are read off the invariant `Inv` of reachable configurations.  For any traces at
all, a configuration reached in `n` steps has `n` events fewer left to run (`steps_bounded`).

Specific part: on every accepted game (`GameWF`: perfect recall) the traces of the pool's tasks
in one pass of the external-sampling solver, for every pass context, task target and draw oracle,
satisfy `PoolOK` (`externalPool_ok`, from the facts about the model's traces in
`Proofs/LocksTrace.lean`); so does the closing recursion on the calling thread.
-/
set_option linter.unusedSectionVars false
namespace Cfr
namespace Lk

/-- **workers never meet**: in no reachable configuration does a `try_lock().unwrap()` find its
mutex held -/
theorem no_panic {ts : List (List LEv)} (h : PoolOK ts) {n : Nat} {cfg : LCfg}
    (hr : LReach (LCfg.init ts) n cfg) (j : Nat) : lstep cfg j ≠ LOut.panic :=
  no_panic2 h.toPoolOK2 hr j

/-- **no deadlock**: a reachable configuration is finished or some worker can move -/
theorem no_deadlock {ts : List (List LEv)} (h : PoolOK ts) {n : Nat} {cfg : LCfg}
    (hr : LReach (LCfg.init ts) n cfg) :
    cfg.finished = true ∨ ∃ j cfg', lstep cfg j = LOut.ok cfg' :=
  no_deadlock2 h.toPoolOK2 hr

/-- **every schedule ends**: each step executes one event -/
theorem steps_bounded (ts : List (List LEv)) {n : Nat} {cfg : LCfg}
    (hr : LReach (LCfg.init ts) n cfg) : n + cfg.remaining = (LCfg.init ts).remaining :=
  reach_remaining hr

/-- when everything has run, every mutex is free again -/
theorem finished_all_free {ts : List (List LEv)} (h : PoolOK ts) {n : Nat} {cfg : LCfg}
    (hr : LReach (LCfg.init ts) n cfg) (hf : cfg.finished = true) : cfg.held = [] :=
  finished_all_free2 h.toPoolOK2 hr hf

/-- for executable schedules: `lrun` never reports a panic -/
theorem lrun_isSome {ts : List (List LEv)} (h : PoolOK ts) (sch : List Nat) :
    (lrun (LCfg.init ts) sch).isSome = true :=
  Inv.lrun_isSome sch (Inv.init h.toPoolOK2)

section
variable {α : Type} [Field α] [LinearOrder α] [IsStrictOrderedRing α] [Transc α]

/-- the tasks of one external-sampling pass satisfy the hypotheses: every accepted game, every pass
context (either player updating, any current strategies, any draw oracle), every task target -/
theorem externalPool_ok (g : Game α) (hg : GameWF g) (c : ECtx α) (target : Nat)
    (log : List (DrawRec α)) : PoolOK (externalPoolTraces g c target log) := by
  obtain ⟨hist, hpr, _⟩ := hg.recall c.first
  rw [(externalTraces_eq g c target log _ rfl).1]
  refine poolOK_of_trOK (α := α) (first := c.first) (eTaskTraces_nodup c hist _ _ ?_) fun t ht => ?_
  · exact (eThreshold_itemsOK c hist target g.root.size (2 * g.root.size + 2) [⟨[], g.root⟩] []
      { log := log } (ItemsOK.root c.first hist g.root hpr)).left
  · obtain ⟨it, _, hok⟩ := eTaskTraces_mem c _ _ t ht
    exact ⟨it.node, hok⟩

/-- and so does the closing recursion on the calling thread, alone -/
theorem externalClosing_ok (g : Game α) (hg : GameWF g) (c : ECtx α) (target : Nat)
    (log : List (DrawRec α)) : PoolOK [externalClosingTrace g c target log] := by
  obtain ⟨hist, hpr, _⟩ := hg.recall c.first
  rw [(externalTraces_eq g c target log _ rfl).2]
  refine poolOK_of_trOK (α := α) (first := c.first) ?_ fun t ht => ?_
  · rw [List.flatMap_singleton]
    exact (etraceC_ok c _ g.root [] _).nodup hist [] hpr
  · exact ⟨g.root, List.mem_singleton.mp ht ▸ etraceC_ok c _ g.root [] _⟩

end
end Lk

section
variable {α : Type} [Field α] [LinearOrder α] [IsStrictOrderedRing α] [Transc α]

/-- **C07, "never fails because two workers meet at one infoset"** — as a statement about every
interleaving of the pool's workers: on an accepted game, in every configuration any thread
schedule can reach during a pass of the multi-threaded external-sampling solver, no
`try_lock().unwrap()` finds its mutex held -/
theorem external_workers_never_meet (g : Game α) (hg : GameWF g) (c : ECtx α) (target : Nat)
    (log : List (DrawRec α)) {n : Nat} {cfg : LCfg}
    (hr : LReach (LCfg.init (externalPoolTraces g c target log)) n cfg) (j : Nat) :
    lstep cfg j ≠ LOut.panic :=
  Lk.no_panic (Lk.externalPool_ok g hg c target log) hr j

/-- **C05, "never … hangs or deadlocks"** for the mutexes of the pool: every reachable
configuration is finished or has a worker that can move, every execution has exactly as many
steps as events were executed (so at most the number of events of the pass), and when all
workers are done every mutex is free -/
theorem external_pool_never_deadlocks (g : Game α) (hg : GameWF g) (c : ECtx α) (target : Nat)
    (log : List (DrawRec α)) {n : Nat} {cfg : LCfg}
    (hr : LReach (LCfg.init (externalPoolTraces g c target log)) n cfg) :
    (cfg.finished = true ∨ ∃ j cfg', lstep cfg j = LOut.ok cfg') ∧
    n + cfg.remaining = (LCfg.init (externalPoolTraces g c target log)).remaining ∧
    (cfg.finished = true → cfg.held = []) :=
  ⟨Lk.no_deadlock (Lk.externalPool_ok g hg c target log) hr,
   Lk.steps_bounded _ hr,
   Lk.finished_all_free (Lk.externalPool_ok g hg c target log) hr⟩

/-- the closing recursion on the calling thread (all workers done, every mutex free) never finds
a mutex of its own held either -/
theorem external_closing_never_panics (g : Game α) (hg : GameWF g) (c : ECtx α) (target : Nat)
    (log : List (DrawRec α)) {n : Nat} {cfg : LCfg}
    (hr : LReach (LCfg.init [externalClosingTrace g c target log]) n cfg) (j : Nat) :
    lstep cfg j ≠ LOut.panic :=
  Lk.no_panic (Lk.externalClosing_ok g hg c target log) hr j

end

/-! ## without `tryNodup` two workers can meet, without `leaf` they can deadlock -/
namespace Lk

/-- two workers that `try_lock` the same mutex can meet -/
example : ∃ cfg, LReach (LCfg.init [[.tryAcq (.player true 0), .rel (.player true 0)],
    [.tryAcq (.player true 0), .rel (.player true 0)]]) 1 cfg ∧ lstep cfg 1 = LOut.panic := by
  exact ⟨_, LReach.step 0 (LReach.refl _) rfl, rfl⟩

/-- a worker that waits for a mutex while holding another one can deadlock with its mirror image -/
example : ∃ cfg, LReach (LCfg.init [[.acq (.chance 0), .acq (.chance 1), .rel (.chance 1), .rel (.chance 0)],
    [.acq (.chance 1), .acq (.chance 0), .rel (.chance 0), .rel (.chance 1)]]) 2 cfg ∧
    cfg.finished = false ∧ ∀ j, ∀ cfg', lstep cfg j ≠ LOut.ok cfg' := by
  refine ⟨_, LReach.step 1 (LReach.step 0 (LReach.refl _) rfl) rfl, by decide, ?_⟩
  intro j cfg' h
  match j with
  | 0 => exact absurd (show LOut.blocked = LOut.ok cfg' from h) (by simp)
  | 1 => exact absurd (show LOut.blocked = LOut.ok cfg' from h) (by simp)
  | j + 2 => exact absurd (show LOut.idle = LOut.ok cfg' from h) (by simp)

end Lk
end Cfr
