import CfrVerif.Proofs.GameWF
import CfrVerif.Model.Eval
import CfrVerif.Proofs.Dist
/-!
# Specification side of the player view: expected value of an own strategy, well-formedness,
perfect recall.
-/
set_option linter.unusedSectionVars false
namespace Cfr
variable {α : Type} [Field α] [LinearOrder α] [IsStrictOrderedRing α]

mutual
/-- expected own utility of the own behavioural strategy `τ` on a view -/
def evV (τ : Strat α) : V α → α
  | .term u => u
  | .nature ws ks => evVN τ ws ks
  | .decide i ks => evVN τ (τ.at i) ks
def evVN (τ : Strat α) : List α → List (V α) → α
  | w :: ws, k :: ks => w * evV τ k + evVN τ ws ks
  | _, _ => 0
end

mutual
/-- a view with `N` own infosets, `nActs i` actions at infoset `i`, non-negative weights -/
def VOK (N : Nat) (nActs : Nat → Nat) : V α → Prop
  | .term _ => True
  | .nature ws ks => ws.length = ks.length ∧ (∀ w ∈ ws, 0 ≤ w) ∧ VOKL N nActs ks
  | .decide i ks => i < N ∧ ks.length = nActs i ∧ 1 ≤ ks.length ∧ VOKL N nActs ks
def VOKL (N : Nat) (nActs : Nat → Nat) : List (V α) → Prop
  | [] => True
  | k :: ks => VOK N nActs k ∧ VOKL N nActs ks
end

mutual
/-- perfect recall on a view, in history form -/
def PRV (hist : Nat → Hist) : Hist → V α → Prop
  | _, .term _ => True
  | H, .nature _ ks => PRVL hist H ks
  | H, .decide i ks => hist i = H ∧ PRVD hist H i 0 ks
def PRVL (hist : Nat → Hist) : Hist → List (V α) → Prop
  | _, [] => True
  | H, k :: ks => PRV hist H k ∧ PRVL hist H ks
def PRVD (hist : Nat → Hist) : Hist → Nat → Nat → List (V α) → Prop
  | _, _, _, [] => True
  | H, i, a, k :: ks => PRV hist (H ++ [(i, a)]) k ∧ PRVD hist H i (a + 1) ks
end

/-- an own strategy that fits: `N` probability vectors, vector `i` of length `nActs i` -/
def StratOK (N : Nat) (nActs : Nat → Nat) (τ : Strat α) : Prop :=
  τ.length = N ∧ (∀ i, i < N → (τ.at i).length = nActs i) ∧ IsStrat τ

end Cfr
