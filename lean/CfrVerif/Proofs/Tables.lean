import CfrVerif.Model.Eval
import CfrVerif.Proofs.Basic
/-!
# Well-formed infoset tables (what `Game::from_root` guarantees about `player_infosets` and
`single_infosets`, as far as the named views and importers rely on it)
-/
set_option linter.unusedSectionVars false
namespace Cfr

/-- labels of multi-action infosets are pairwise distinct, so are the labels of single-action
infosets, no label is in both tables, every multi-action infoset has distinct actions -/
structure TablesWF (infos : List PInfo) (singles : List (Nat × Nat)) : Prop where
  labelsNodup : (infos.map (·.label)).Nodup
  singlesNodup : (singles.map (·.1)).Nodup
  disjoint : ∀ l ∈ infos.map (·.label), l ∉ singles.map (·.1)
  actionsNodup : ∀ i ∈ infos, i.actions.Nodup

variable {α : Type} [Field α] [LinearOrder α] [IsStrictOrderedRing α]

/-- a strategy fits the table: one probability vector per infoset, of the right length -/
def Fits (infos : List PInfo) (σ : Strat α) : Prop :=
  σ.map List.length = infos.map (fun i => i.actions.length)

end Cfr
