import CfrVerif.Proofs.CfrSpec
import CfrVerif.Proofs.ViewBridge
import Mathlib.Algebra.BigOperators.Group.Finset.Basic
import Mathlib.Algebra.BigOperators.Ring.Finset
/-!
# The identities behind "the CFR bound dominates the true regret" (on a view with perfect recall)

* `perf_decomp` : the gain of any behavioural strategy `τ` over `σ` is the `τ`-reach-weighted sum
  of the instantaneous counterfactual regrets of `σ` (performance-difference lemma regrouped by
  infoset; replaces Zinkevich's Lemma 5).
* `PG.wavg_realisation` : the reach-and-weight-weighted average of strategies `σ_1 … σ_T` with
  weights `w_t` is realisation-equivalent to their weighted mixture:
  `Σ_t w_t · evV σ_t v = (Σ_t w_t) · evV σ̄ v`; `avg_realisation` is the case of all weights `1`,
  the uniform mixture: `Σ_t evV σ_t v = T · evV σ̄ v`.
* `stratAdd_eq` : what the traversal adds to the average-strategy accumulator of infoset `I` is
  (number of nodes of `I`) × (own reach of `I`) × `σ(I, a)`.
-/
set_option linter.unusedSectionVars false
namespace Cfr
variable {α : Type} [Field α] [LinearOrder α] [IsStrictOrderedRing α]

theorem sum_range_map_getD {β : Type} (d : β) (F : β → α) : ∀ l : List β,
    ∑ i ∈ Finset.range l.length, F (l.getD i d) = (l.map F).sum
  | [] => rfl
  | x :: l => by
    rw [List.length_cons, Finset.sum_range_succ', List.map_cons, List.sum_cons,
      ← sum_range_map_getD d F l, add_comm]
    rfl

theorem sum_range_getD (p : List α) : ∑ a ∈ Finset.range p.length, p.getD a 0 = p.sum :=
  (sum_range_map_getD 0 id p).trans (congrArg List.sum p.map_id)

theorem sum_range_local (p x : List α) (c v : α) (hl : p.length = x.length) :
    ∑ a ∈ Finset.range x.length, p.getD a 0 * (c * (x.getD a 0 - v))
      = c * (dot p x - p.sum * v) := by
  rw [← sum_range_dot p x hl, ← sum_range_getD p, hl, Finset.sum_mul, ← Finset.sum_sub_distrib,
    Finset.mul_sum]
  exact Finset.sum_congr rfl (fun a _ => by ring)

/-- the double sum of the statement, as a functional of the regret table -/
def wsum (N : Nat) (nActs : Nat → Nat) (hist : Nat → Hist) (τ : Strat α) (f : Nat → Nat → α) : α :=
  ∑ I ∈ Finset.range N, histW τ (hist I) *
    ∑ a ∈ Finset.range (nActs I), (τ.at I).getD a 0 * f I a

theorem wsum_zero (N : Nat) (nActs : Nat → Nat) (hist : Nat → Hist) (τ : Strat α) :
    wsum N nActs hist τ (fun _ _ => 0) = 0 := by
  simp [wsum]

theorem wsum_add (N : Nat) (nActs : Nat → Nat) (hist : Nat → Hist) (τ : Strat α)
    (f g : Nat → Nat → α) :
    wsum N nActs hist τ (fun I a => f I a + g I a)
      = wsum N nActs hist τ f + wsum N nActs hist τ g := by
  simp only [wsum, mul_add, Finset.sum_add_distrib]

theorem wsum_single (N : Nat) (nActs : Nat → Nat) (hist : Nat → Hist) (τ : Strat α)
    (i : Nat) (hi : i < N) (g : Nat → α) :
    wsum N nActs hist τ (fun I a => if i = I then g a else 0)
      = histW τ (hist i) * ∑ a ∈ Finset.range (nActs i), (τ.at i).getD a 0 * g a := by
  unfold wsum
  rw [Finset.sum_eq_single_of_mem i (Finset.mem_range.mpr hi)]
  · simp only [if_true]
  · intro J _ hJ
    simp only [if_neg hJ.symm, mul_zero, Finset.sum_const_zero]

mutual
/-- **performance difference, regrouped by infoset** (general subtree, own history `H`, rest of
the world reaching it with `c`) -/
theorem perfDecompV (N : Nat) (nActs : Nat → Nat) (hist : Nat → Hist) (τ σ : Strat α)
    (hτ : StratOK N nActs τ) :
    ∀ (t : V α) (H : Hist) (c : α), VOK N nActs t → PRV hist H t →
      histW τ H * (c * (evV τ t - evV σ t))
        = wsum N nActs hist τ (fun I a => regAdd σ I a t c)
  | .term u => by intros; simp only [evV, regAdd, sub_self, mul_zero, wsum_zero]
  | .nature ws ks => fun H c h hp => by
    simp only [evV, regAdd]
    exact perfDecompN N nActs hist τ σ hτ ws ks H c (VOK_nature.mp h).2.2 (PRV_nature.mp hp)
  | .decide i ks => fun H c h hp => by
    obtain ⟨hi, hlen, _, hk⟩ := VOK_decide.mp h
    obtain ⟨hH, hd⟩ := PRV_decide.mp hp
    have hsum : (τ.at i).sum = 1 := (hτ.2.2 _ (at_mem (hτ.1 ▸ hi))).2
    have hl : (τ.at i).length = (ks.map (evV σ)).length := by
      rw [hτ.2.1 i hi, List.length_map, hlen]
    have rc := perfDecompD N nActs hist τ σ hτ ks H i 0 c hk hd
    have e1 := sum_range_local (τ.at i) (ks.map (evV σ)) c (evVN σ (σ.at i) ks) hl
    rw [List.length_map, hlen, hsum, one_mul] at e1
    rw [List.drop_zero] at rc
    simp only [evV, regAdd]
    rw [wsum_add, ← rc, wsum_single N nActs hist τ i hi, hH, evVN_eq_dot τ, e1]
    ring
theorem perfDecompN (N : Nat) (nActs : Nat → Nat) (hist : Nat → Hist) (τ σ : Strat α)
    (hτ : StratOK N nActs τ) :
    ∀ (ws : List α) (ks : List (V α)) (H : Hist) (c : α), VOKL N nActs ks → PRVL hist H ks →
      histW τ H * (c * (evVN τ ws ks - evVN σ ws ks))
        = wsum N nActs hist τ (fun I a => regAddN σ I a ws ks c)
  | [], ks => by intros; simp [evVN, regAddN, wsum_zero]
  | _ :: _, [] => by intros; simp [evVN, regAddN, wsum_zero]
  | w :: ws, k :: ks => fun H c hk hp => by
    have a := perfDecompV N nActs hist τ σ hτ k H (c * w) (VOKL_cons.mp hk).1 (PRVL_cons.mp hp).1
    have b := perfDecompN N nActs hist τ σ hτ ws ks H c (VOKL_cons.mp hk).2 (PRVL_cons.mp hp).2
    simp only [evVN, regAddN]
    rw [wsum_add, ← a, ← b]; ring
theorem perfDecompD (N : Nat) (nActs : Nat → Nat) (hist : Nat → Hist) (τ σ : Strat α)
    (hτ : StratOK N nActs τ) :
    ∀ (ks : List (V α)) (H : Hist) (i a : Nat) (c : α), VOKL N nActs ks → PRVD hist H i a ks →
      histW τ H * (c * (dot ((τ.at i).drop a) (ks.map (evV τ))
          - dot ((τ.at i).drop a) (ks.map (evV σ))))
        = wsum N nActs hist τ (fun I b => regAddD σ I b ks c)
  | [] => by intros; simp [regAddD, wsum_zero]
  | k :: ks => fun H i a c hk hp => by
    have a' := perfDecompV N nActs hist τ σ hτ k (H ++ [(i, a)]) c (VOKL_cons.mp hk).1
      (PRVD_cons.mp hp).1
    have b := perfDecompD N nActs hist τ σ hτ ks H i (a + 1) c (VOKL_cons.mp hk).2
      (PRVD_cons.mp hp).2
    simp only [regAddD, List.map_cons, dot_drop]
    rw [wsum_add, ← a', ← b, histW_snoc]; ring
end

theorem perf_decomp (N : Nat) (nActs : Nat → Nat) (hist : Nat → Hist) (τ σ : Strat α)
    (hτ : StratOK N nActs τ) (v : V α) (hok : VOK N nActs v) (hpr : PRV hist [] v) :
    evV τ v - evV σ v
      = ∑ I ∈ Finset.range N, histW τ (hist I) *
          ∑ a ∈ Finset.range (nActs I), (τ.at I).getD a 0 * regAdd σ I a v 1 := by
  have := perfDecompV N nActs hist τ σ hτ v [] 1 hok hpr
  rwa [histW_nil, one_mul, one_mul] at this

theorem strat_entry_le_one {τ : Strat α} (hτ : IsStrat τ) (i a : Nat) :
    (τ.at i).getD a 0 ≤ 1 := by
  by_cases hi : i < τ.length
  · have hd := hτ _ (at_mem hi)
    by_cases ha : a < (τ.at i).length
    · rw [List.getD_eq_getElem?_getD, List.getElem?_eq_getElem ha, Option.getD_some, ← hd.2]
      exact List.single_le_sum hd.1 _ (List.getElem_mem ha)
    · rw [List.getD_eq_getElem?_getD, List.getElem?_eq_none (not_lt.mp ha)]
      exact zero_le_one
  · rw [Strat.at, List.getD_eq_getElem?_getD (l := τ), List.getElem?_eq_none (not_lt.mp hi)]
    exact zero_le_one

theorem histW_le_one {τ : Strat α} (hτ : IsStrat τ) (H : Hist) : histW τ H ≤ 1 := by
  induction H with
  | nil => exact (histW_nil τ).le
  | cons e H ih =>
    have : histW τ (e :: H) = (τ.at e.1).getD e.2 0 * histW τ H := by simp [histW]
    rw [this]
    exact mul_le_one₀ (strat_entry_le_one hτ e.1 e.2) (histW_nonneg hτ H) ih

def tsum (σs : List (Strat α)) (f : Strat α → α) : α := (σs.map f).sum

theorem tsum_const_one (σs : List (Strat α)) : tsum σs (fun _ => (1 : α)) = (σs.length : α) := by
  simp [tsum]

/-- `σbar` is the reach-weighted average of `σs` at infoset `I` (no division: if the total reach
is zero every `σbar` qualifies) -/
def AvgAt (N : Nat) (nActs : Nat → Nat) (hist : Nat → Hist) (σs : List (Strat α)) (σbar : Strat α)
    (I : Nat) : Prop :=
  (σbar.at I).length = nActs I ∧
  ∀ a, a < nActs I →
    (σbar.at I).getD a 0 * tsum σs (fun σ => histW σ (hist I))
      = tsum σs (fun σ => histW σ (hist I) * (σ.at I).getD a 0)

namespace PG

def wts (ws : List (α × Strat α)) (f : Strat α → α) : α := (ws.map (fun p => p.1 * f p.2)).sum

theorem wts_zero (ws : List (α × Strat α)) : wts ws (fun _ => (0 : α)) = 0 := by
  simp only [wts, mul_zero, List.sum_map_zero]

theorem wts_add (ws : List (α × Strat α)) (f g : Strat α → α) :
    wts ws (fun σ => f σ + g σ) = wts ws f + wts ws g := by
  simp only [wts, mul_add, List.sum_map_add]

theorem wts_mul_right (ws : List (α × Strat α)) (f : Strat α → α) (c : α) :
    wts ws (fun σ => f σ * c) = wts ws f * c := by
  simp only [wts, ← mul_assoc, List.sum_map_mul_right]

theorem wts_map {β : Type} (l : List β) (w : β → α) (ρ : β → Strat α) (f : Strat α → α) :
    wts (l.map fun k => (w k, ρ k)) f = (l.map fun k => w k * f (ρ k)).sum := by
  simp only [wts, List.map_map, Function.comp_def]

theorem wts_one (σs : List (Strat α)) (f : Strat α → α) :
    wts (σs.map (fun σ => ((1 : α), σ))) f = tsum σs f :=
  (wts_map σs (fun _ => 1) (fun σ => σ) f).trans (by simp only [one_mul, tsum])

/-- `σbar` is the weighted reach-weighted average of `ws` at infoset `I` -/
def WAvgAt (N : Nat) (nActs : Nat → Nat) (hist : Nat → Hist) (ws : List (α × Strat α))
    (σbar : Strat α) (I : Nat) : Prop :=
  (σbar.at I).length = nActs I ∧
  ∀ a, a < nActs I →
    (σbar.at I).getD a 0 * wts ws (fun σ => histW σ (hist I))
      = wts ws (fun σ => histW σ (hist I) * (σ.at I).getD a 0)

theorem wavgAt_one {N : Nat} {nActs : Nat → Nat} {hist : Nat → Hist} {σs : List (Strat α)}
    {σbar : Strat α} {I : Nat} (h : AvgAt N nActs hist σs σbar I) :
    WAvgAt N nActs hist (σs.map (fun σ => ((1 : α), σ))) σbar I := by
  simpa only [WAvgAt, wts_one, AvgAt] using h

mutual
theorem wavgRealV (N : Nat) (nActs : Nat → Nat) (hist : Nat → Hist) (ws : List (α × Strat α))
    (σbar : Strat α) :
    ∀ (t : V α) (H : Hist), VOK N nActs t → PRV hist H t →
      (∀ I, 0 < cntInfo I t → WAvgAt N nActs hist ws σbar I) →
      wts ws (fun σ => histW σ H * evV σ t) = wts ws (fun σ => histW σ H) * evV σbar t
  | .term u, H, _, _, _ => wts_mul_right ws (fun σ => histW σ H) u
  | .nature qs ks, H, h, hp, hb => wavgRealN N nActs hist ws σbar qs ks H h.2.2 hp hb
  | .decide i ks, H, h, hp, hb => by
    have := wavgRealD N nActs hist ws σbar ks H i 0 h.2.2.2 hp.2 hp.1 (by rw [h.2.1]; omega)
      (hb i (by rw [cntInfo, if_pos rfl]; omega))
      (fun I hI => hb I (Nat.lt_of_lt_of_le hI (Nat.le_add_left _ _)))
    simp only [List.drop_zero] at this
    simp only [evV, evVN_eq_dot]
    exact this
theorem wavgRealN (N : Nat) (nActs : Nat → Nat) (hist : Nat → Hist) (ws : List (α × Strat α))
    (σbar : Strat α) :
    ∀ (qs : List α) (ks : List (V α)) (H : Hist), VOKL N nActs ks → PRVL hist H ks →
      (∀ I, 0 < cntInfo.cntInfoL I ks → WAvgAt N nActs hist ws σbar I) →
      wts ws (fun σ => histW σ H * evVN σ qs ks) = wts ws (fun σ => histW σ H) * evVN σbar qs ks
  | [], ks, H, _, _, _ => by simp only [evVN, mul_zero, wts_zero]
  | _ :: _, [], H, _, _, _ => by simp only [evVN, mul_zero, wts_zero]
  | w :: qs, k :: ks, H, hk, hp, hb => by
    have a := wavgRealV N nActs hist ws σbar k H hk.1 hp.1
      (fun I hI => hb I (Nat.lt_of_lt_of_le hI (Nat.le_add_right _ _)))
    have b := wavgRealN N nActs hist ws σbar qs ks H hk.2 hp.2
      (fun I hI => hb I (Nat.lt_of_lt_of_le hI (Nat.le_add_left _ _)))
    simp only [evVN]
    have e : (fun σ : Strat α => histW σ H * (w * evV σ k + evVN σ qs ks))
        = (fun σ => (histW σ H * evV σ k) * w + histW σ H * evVN σ qs ks) := by
      funext σ; ring
    rw [e, wts_add, wts_mul_right, a, b]; ring
theorem wavgRealD (N : Nat) (nActs : Nat → Nat) (hist : Nat → Hist) (ws : List (α × Strat α))
    (σbar : Strat α) :
    ∀ (ks : List (V α)) (H : Hist) (i a : Nat), VOKL N nActs ks → PRVD hist H i a ks →
      hist i = H → a + ks.length ≤ nActs i → WAvgAt N nActs hist ws σbar i →
      (∀ I, 0 < cntInfo.cntInfoL I ks → WAvgAt N nActs hist ws σbar I) →
      wts ws (fun σ => histW σ H * dot ((σ.at i).drop a) (ks.map (evV σ)))
        = wts ws (fun σ => histW σ H) * dot ((σbar.at i).drop a) (ks.map (evV σbar))
  | [], H, i, a, _, _, _, _, _, _ => by
    simp only [List.map_nil, dot_nil_right, mul_zero, wts_zero]
  | k :: ks, H, i, a, hk, hp, hH, hl, hav, hb => by
    have hl' : a + 1 + ks.length ≤ nActs i := by rw [List.length_cons] at hl; omega
    have a' := wavgRealV N nActs hist ws σbar k (H ++ [(i, a)]) hk.1 hp.1
      (fun I hI => hb I (Nat.lt_of_lt_of_le hI (Nat.le_add_right _ _)))
    have b := wavgRealD N nActs hist ws σbar ks H i (a + 1) hk.2 hp.2 hH hl' hav
      (fun I hI => hb I (Nat.lt_of_lt_of_le hI (Nat.le_add_left _ _)))
    -- the average at `i` turns the iterates' reach of action `a` into the average's
    have hava := hav.2 a (by omega)
    rw [hH] at hava
    simp only [List.map_cons, dot_drop]
    have e : (fun σ : Strat α => histW σ H *
          ((σ.at i).getD a 0 * evV σ k + dot ((σ.at i).drop (a + 1)) (ks.map (evV σ))))
        = (fun σ => histW σ (H ++ [(i, a)]) * evV σ k
            + histW σ H * dot ((σ.at i).drop (a + 1)) (ks.map (evV σ))) := by
      funext σ; rw [histW_snoc]; ring
    have e2 : (fun σ : Strat α => histW σ (H ++ [(i, a)]))
        = (fun σ => histW σ H * (σ.at i).getD a 0) := by
      funext σ; rw [histW_snoc]
    rw [e, wts_add, a', b, e2, ← hava]; ring
end

theorem wavg_realisation (N : Nat) (nActs : Nat → Nat) (hist : Nat → Hist)
    (ws : List (α × Strat α)) (σbar : Strat α)
    (v : V α) (hok : VOK N nActs v) (hpr : PRV hist [] v)
    (hbar : ∀ I, 0 < cntInfo I v → WAvgAt N nActs hist ws σbar I) :
    wts ws (fun σ => evV σ v) = wts ws (fun _ => 1) * evV σbar v := by
  have := wavgRealV N nActs hist ws σbar v [] hok hpr hbar
  simp only [histW_nil, one_mul] at this
  exact this

end PG

theorem avgRealN (N : Nat) (nActs : Nat → Nat) (hist : Nat → Hist) (σs : List (Strat α))
    (σbar : Strat α) :
    ∀ (ws : List α) (ks : List (V α)) (H : Hist), VOKL N nActs ks → PRVL hist H ks →
      (∀ I, 0 < cntInfo.cntInfoL I ks → AvgAt N nActs hist σs σbar I) →
      tsum σs (fun σ => histW σ H * evVN σ ws ks) = tsum σs (fun σ => histW σ H) * evVN σbar ws ks :=
  fun ws ks H hk hp hb => by
    simpa only [PG.wts_one] using PG.wavgRealN N nActs hist _ σbar ws ks H hk hp
      fun I hI => PG.wavgAt_one (hb I hI)

theorem avgRealD (N : Nat) (nActs : Nat → Nat) (hist : Nat → Hist) (σs : List (Strat α))
    (σbar : Strat α) :
    ∀ (ks : List (V α)) (H : Hist) (i a : Nat), VOKL N nActs ks → PRVD hist H i a ks →
      hist i = H → a + ks.length ≤ nActs i → AvgAt N nActs hist σs σbar i →
      (∀ I, 0 < cntInfo.cntInfoL I ks → AvgAt N nActs hist σs σbar I) →
      tsum σs (fun σ => histW σ H * dot ((σ.at i).drop a) (ks.map (evV σ)))
        = tsum σs (fun σ => histW σ H) * dot ((σbar.at i).drop a) (ks.map (evV σbar)) :=
  fun ks H i a hk hp hH hl hav hb => by
    simpa only [PG.wts_one] using PG.wavgRealD N nActs hist _ σbar ks H i a hk hp hH hl
      (PG.wavgAt_one hav) fun I hI => PG.wavgAt_one (hb I hI)

theorem avg_realisation (N : Nat) (nActs : Nat → Nat) (hist : Nat → Hist)
    (σs : List (Strat α)) (hσs : ∀ σ ∈ σs, StratOK N nActs σ) (σbar : Strat α)
    (v : V α) (hok : VOK N nActs v) (hpr : PRV hist [] v)
    (hbar : ∀ I, 0 < cntInfo I v → AvgAt N nActs hist σs σbar I) :
    tsum σs (fun σ => evV σ v) = (σs.length : α) * evV σbar v := by
  simpa only [PG.wts_one, tsum_const_one] using PG.wavg_realisation N nActs hist _ σbar v hok hpr
    fun I hI => PG.wavgAt_one (hbar I hI)

mutual
theorem stratAdd_zero (σ : Strat α) (I a : Nat) : ∀ t : V α, stratAdd σ I a t 0 = 0
  | .term _ => by simp [stratAdd]
  | .nature _ ks => by simp only [stratAdd]; exact stratAddN_zero σ I a ks
  | .decide i ks => by
    simp only [stratAdd, zero_mul, ite_self, zero_add]; exact stratAddD_zero σ I a _ ks
theorem stratAddN_zero (σ : Strat α) (I a : Nat) : ∀ ks : List (V α), stratAddN σ I a ks 0 = 0
  | [] => by simp [stratAddN]
  | k :: ks => by simp [stratAddN, stratAdd_zero σ I a k, stratAddN_zero σ I a ks]
theorem stratAddD_zero (σ : Strat α) (I a : Nat) :
    ∀ (ss : List α) (ks : List (V α)), stratAddD σ I a ss ks 0 = 0
  | [], _ => by simp [stratAddD]
  | _ :: _, [] => by simp [stratAddD]
  | s :: ss, k :: ks => by
    simp [stratAddD, stratAdd_zero σ I a k, stratAddD_zero σ I a ss ks]
end

theorem stratAddD_drop (σ : Strat α) (I a : Nat) (p : List α) (b : Nat) (k : V α)
    (ks : List (V α)) (q : α) :
    stratAddD σ I a (p.drop b) (k :: ks) q
      = stratAdd σ I a k (q * p.getD b 0) + stratAddD σ I a (p.drop (b + 1)) ks q := by
  by_cases h : b < p.length
  · rw [List.drop_eq_getElem_cons h, stratAddD, List.getD_eq_getElem?_getD,
      List.getElem?_eq_getElem h]
    rfl
  · rw [List.drop_of_length_le (not_lt.mp h), List.drop_of_length_le (Nat.le_succ_of_le (not_lt.mp h)),
      List.getD_eq_getElem?_getD, List.getElem?_eq_none (not_lt.mp h), Option.getD_none, mul_zero,
      stratAdd_zero]
    simp [stratAddD]

mutual
theorem stratAddEqV (hist : Nat → Hist) (σ : Strat α) (I a : Nat) :
    ∀ (t : V α) (H : Hist), PRV hist H t →
      stratAdd σ I a t (histW σ H) = (cntInfo I t : α) * (histW σ (hist I) * (σ.at I).getD a 0)
  | .term _ => by intros; rw [stratAdd, cntInfo, Nat.cast_zero, zero_mul]
  | .nature _ ks => fun H hp => by
    rw [stratAdd, cntInfo]
    exact stratAddEqN hist σ I a ks H (PRV_nature.mp hp)
  | .decide i ks => fun H hp => by
    obtain ⟨hH, hd⟩ := PRV_decide.mp hp
    have := stratAddEqD hist σ I a ks H i 0 hd
    rw [List.drop_zero] at this
    rw [stratAdd, cntInfo, this]
    by_cases hi : i = I
    · subst hi
      rw [if_pos rfl, if_pos rfl, hH]
      push_cast
      ring
    · rw [if_neg hi, if_neg hi, zero_add, Nat.zero_add]
theorem stratAddEqN (hist : Nat → Hist) (σ : Strat α) (I a : Nat) :
    ∀ (ks : List (V α)) (H : Hist), PRVL hist H ks →
      stratAddN σ I a ks (histW σ H)
        = (cntInfo.cntInfoL I ks : α) * (histW σ (hist I) * (σ.at I).getD a 0)
  | [] => by intros; rw [stratAddN, cntInfo.cntInfoL, Nat.cast_zero, zero_mul]
  | k :: ks => fun H hp => by
    rw [stratAddN, cntInfo.cntInfoL, stratAddEqV hist σ I a k H (PRVL_cons.mp hp).1,
      stratAddEqN hist σ I a ks H (PRVL_cons.mp hp).2, Nat.cast_add, add_mul]
theorem stratAddEqD (hist : Nat → Hist) (σ : Strat α) (I a : Nat) :
    ∀ (ks : List (V α)) (H : Hist) (i b : Nat), PRVD hist H i b ks →
      stratAddD σ I a ((σ.at i).drop b) ks (histW σ H)
        = (cntInfo.cntInfoL I ks : α) * (histW σ (hist I) * (σ.at I).getD a 0)
  | [] => fun H i b _ => by
    cases (σ.at i).drop b <;> simp [stratAddD, cntInfo.cntInfoL]
  | k :: ks => fun H i b hp => by
    rw [stratAddD_drop, ← histW_snoc, stratAddEqV hist σ I a k _ (PRVD_cons.mp hp).1,
      stratAddEqD hist σ I a ks H i (b + 1) (PRVD_cons.mp hp).2, cntInfo.cntInfoL, Nat.cast_add,
      add_mul]
end

theorem stratAdd_eq (N : Nat) (nActs : Nat → Nat) (hist : Nat → Hist) (σ : Strat α) (I a : Nat)
    (t : V α) (H : Hist) (hok : VOK N nActs t) (hpr : PRV hist H t) :
    stratAdd σ I a t (histW σ H) = (cntInfo I t : α) * (histW σ (hist I) * (σ.at I).getD a 0) :=
  stratAddEqV hist σ I a t H hpr

mutual
theorem cntInfo_view (ch : List (List α)) (σo σo' : Strat α) (me : Bool) (I : Nat) :
    ∀ n : Node α, cntInfo I (view ch σo me n) = cntInfo I (view ch σo' me n)
  | .term _ => by simp only [view, cntInfo]
  | .chance i ks => by
    simp only [view, cntInfo]; exact cntInfoL_view ch σo σo' me I ks
  | .player one i ks => by
    simp only [view]
    split
    · simp only [cntInfo]; rw [cntInfoL_view ch σo σo' me I ks]
    · simp only [cntInfo]; exact cntInfoL_view ch σo σo' me I ks
theorem cntInfoL_view (ch : List (List α)) (σo σo' : Strat α) (me : Bool) (I : Nat) :
    ∀ ks : List (Node α),
      cntInfo.cntInfoL I (viewL ch σo me ks) = cntInfo.cntInfoL I (viewL ch σo' me ks)
  | [] => by rw [viewL_nil, viewL_nil]
  | k :: ks => by
    rw [viewL_cons, viewL_cons, cntInfo.cntInfoL, cntInfo.cntInfoL, cntInfo_view ch σo σo' me I k,
      cntInfoL_view ch σo σo' me I ks]
end

/-- a convex combination of a regret vector is at most the clamped maximum the solver reports -/
theorem dot_le_clamped_max (p R : List α) (hp : IsDist p) (hl : p.length = R.length) :
    dot p R ≤ fmax (maxD 0 R) 0 := by
  rw [fmax_eq_max]
  cases R with
  | nil => simp
  | cons x xs =>
    obtain ⟨_, h2⟩ := foldl_fmax_mem_le xs x
    have := dot_le_sum_mul (xs.foldl fmax x) p (x :: xs) hp.1 h2 hl
    rw [hp.2, one_mul] at this
    exact le_trans this (le_max_left _ _)

theorem wsum_le_clamped (N : Nat) (nActs : Nat → Nat) (hist : Nat → Hist) (τ : Strat α)
    (hτ : StratOK N nActs τ) (R : Nat → List α) (hR : ∀ I, I < N → (R I).length = nActs I) :
    wsum N nActs hist τ (fun I a => (R I).getD a 0)
      ≤ ∑ I ∈ Finset.range N, fmax (maxD 0 (R I)) 0 := by
  apply Finset.sum_le_sum
  intro I hI
  have hI := Finset.mem_range.mp hI
  have hτl : (τ.at I).length = (R I).length := (hτ.2.1 I hI).trans (hR I hI).symm
  have hd := dot_le_clamped_max (τ.at I) (R I) (hτ.2.2 _ (at_mem (by rw [hτ.1]; exact hI))) hτl
  have hM : 0 ≤ fmax (maxD 0 (R I)) 0 := by
    rw [fmax_eq_max]; exact le_max_right _ _
  show histW τ (hist I) * ∑ a ∈ Finset.range (nActs I), (τ.at I).getD a 0 * (R I).getD a 0 ≤ _
  rw [← hR I hI, sum_range_dot _ _ hτl]
  calc histW τ (hist I) * dot (τ.at I) (R I)
      ≤ histW τ (hist I) * fmax (maxD 0 (R I)) 0 :=
        mul_le_mul_of_nonneg_left hd (histW_nonneg hτ.2.2 (hist I))
    _ ≤ 1 * fmax (maxD 0 (R I)) 0 := mul_le_mul_of_nonneg_right (histW_le_one hτ.2.2 (hist I)) hM
    _ = fmax (maxD 0 (R I)) 0 := one_mul _

end Cfr
