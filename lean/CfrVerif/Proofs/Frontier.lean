import CfrVerif.Proofs.FrontierBase
import CfrVerif.Proofs.NodeInd
import CfrVerif.Proofs.Effects
/-!
# Frontier decomposition for the vanilla (full / chance-sampled) multi-threaded iteration

The breadth-first frontier (`vThreshold`) is a cut of the tree that carries the reach
probabilities of the current strategies; the tasks' traversals of the drained cut nodes together
with the cached traversal from the root perform exactly the accumulations of the plain
traversal, and the cached traversal returns the plain traversal's value.
-/
set_option linter.unusedSectionVars false
namespace Cfr
variable {α : Type} [Field α] [LinearOrder α] [IsStrictOrderedRing α] [Transc α]

/-! Everything below is internal to the proofs of C06 / C07 (vanilla part) and lives in `Cfr.Van`. -/
namespace Van

/-- an event of the pure traversal: an accumulation, or a visit of a sampled chance infoset -/
abbrev Ev (α : Type) := Eff α ⊕ Nat

def effsOf (l : List (Ev α)) : List (Eff α) := l.filterMap (Sum.elim some (fun _ => none))
def idsOf (l : List (Ev α)) : List Nat := l.filterMap (Sum.elim (fun _ => none) some)

@[simp] theorem effsOf_nil : effsOf ([] : List (Ev α)) = [] := rfl
@[simp] theorem idsOf_nil : idsOf ([] : List (Ev α)) = [] := rfl
@[simp] theorem effsOf_append (a b : List (Ev α)) : effsOf (a ++ b) = effsOf a ++ effsOf b := by
  simp [effsOf]
@[simp] theorem idsOf_append (a b : List (Ev α)) : idsOf (a ++ b) = idsOf a ++ idsOf b := by
  simp [idsOf]
@[simp] theorem effsOf_inl (e : Eff α) (l : List (Ev α)) : effsOf (.inl e :: l) = e :: effsOf l := by
  simp [effsOf]
@[simp] theorem effsOf_inr (i : Nat) (l : List (Ev α)) : effsOf (.inr i :: l) = effsOf l := rfl
@[simp] theorem idsOf_inl (e : Eff α) (l : List (Ev α)) : idsOf (.inl e :: l) = idsOf l := rfl
@[simp] theorem idsOf_inr (i : Nat) (l : List (Ev α)) : idsOf (.inr i :: l) = i :: idsOf l := by
  simp [idsOf]
@[simp] theorem effsOf_map_inl (l : List (Eff α)) : effsOf (l.map (Sum.inl : Eff α → Ev α)) = l := by
  induction l with
  | nil => rfl
  | cons e l ih => simp [ih]
@[simp] theorem idsOf_map_inl (l : List (Eff α)) : idsOf (l.map (Sum.inl : Eff α → Ev α)) = [] := by
  induction l with
  | nil => rfl
  | cons e l ih => simp [ih]
theorem effsOf_perm {a b : List (Ev α)} (h : a.Perm b) : (effsOf a).Perm (effsOf b) :=
  h.filterMap _
theorem idsOf_perm {a b : List (Ev α)} (h : a.Perm b) : (idsOf a).Perm (idsOf b) :=
  h.filterMap _
theorem mem_idsOf {i : Nat} {l : List (Ev α)} : i ∈ idsOf l ↔ Sum.inr i ∈ l := by
  induction l with
  | nil => simp
  | cons e l ih => cases e <;> simp [ih]

/-- the outcome the oracle gives at chance infoset `i` in this pass -/
def kdraw (c : VCtx α) (i : Nat) : Nat := c.draw 0 i c.pass (c.ch.getD i [])

mutual
/-- the traversal without the draw state: every sampled chance infoset follows the oracle -/
def pv (c : VCtx α) (cache : List (Path × α)) : Node α → Path → α → α → α → α × List (Ev α)
  | n, path, pc, p1, p2 =>
    match cacheGet cache path with
    | some pay => (pay, [])
    | none =>
      match n with
      | .term p => (p, [])
      | .chance i ks =>
        if c.sampled then
          ((pvNth c cache ks (kdraw c i) (path ++ [kdraw c i]) pc p1 p2).1,
            .inr i :: (pvNth c cache ks (kdraw c i) (path ++ [kdraw c i]) pc p1 p2).2)
        else pvChance c cache (c.ch.getD i []) ks path 0 pc p1 p2 0
      | .player one i ks =>
        ((pvActs c cache one i (if one then pc * p2 else -p1 * pc) (c.strat one i) ks path pc p1 p2 0 0 0).1,
          (stratEffs one i (if one then p1 else p2) (c.strat one i) 0).map .inl
            ++ (pvActs c cache one i (if one then pc * p2 else -p1 * pc) (c.strat one i) ks path pc p1 p2 0 0 0).2.2
            ++ (subEffs one i (pvActs c cache one i (if one then pc * p2 else -p1 * pc) (c.strat one i) ks path pc p1 p2 0 0 0).2.1
                  (c.strat one i).length).map .inl)
def pvNth (c : VCtx α) (cache : List (Path × α)) :
    List (Node α) → Nat → Path → α → α → α → α × List (Ev α)
  | [], _, _, _, _, _ => (0, [])
  | k :: _, 0, path, pc, p1, p2 => pv c cache k path pc p1 p2
  | _ :: ks, n + 1, path, pc, p1, p2 => pvNth c cache ks n path pc p1 p2
def pvChance (c : VCtx α) (cache : List (Path × α)) :
    List α → List (Node α) → Path → Nat → α → α → α → α → α × List (Ev α)
  | p :: ps, k :: ks, path, a, pc, p1, p2, acc =>
    ((pvChance c cache ps ks path (a + 1) pc p1 p2 (acc + p * (pv c cache k (path ++ [a]) (pc * p) p1 p2).1)).1,
      (pv c cache k (path ++ [a]) (pc * p) p1 p2).2
        ++ (pvChance c cache ps ks path (a + 1) pc p1 p2 (acc + p * (pv c cache k (path ++ [a]) (pc * p) p1 p2).1)).2)
  | _, _, _, _, _, _, _, acc => (acc, [])
def pvActs (c : VCtx α) (cache : List (Path × α)) (one : Bool) (i : Nat) (mult : α) :
    List α → List (Node α) → Path → α → α → α → Nat → α → α → α × α × List (Ev α)
  | s :: σ, k :: ks, path, pc, p1, p2, a, eo, ex =>
    let r := if one then pv c cache k (path ++ [a]) pc (p1 * s) p2
      else pv c cache k (path ++ [a]) pc p1 (p2 * s)
    let r' := pvActs c cache one i mult σ ks path pc p1 p2 (a + 1) (eo + s * r.1) (ex + r.1 * mult * s)
    (r'.1, r'.2.1, r.2 ++ .inl ⟨one, i, .regret, a, r.1 * mult⟩ :: r'.2.2)
  | _, _, _, _, _, _, _, eo, ex => (eo, ex, [])
end

theorem pv_hit (c : VCtx α) (cache : List (Path × α)) (n : Node α) (path : Path) (pc p1 p2 v : α)
    (h : cacheGet cache path = some v) : pv c cache n path pc p1 p2 = (v, []) := by
  rw [pv.eq_def]; simp only [h]

theorem pv_term (c : VCtx α) (cache : List (Path × α)) (p : α) (path : Path) (pc p1 p2 : α)
    (h : cacheGet cache path = none) : pv c cache (.term p) path pc p1 p2 = (p, []) := by
  rw [pv.eq_def]; simp only [h]

theorem pv_chance_s (c : VCtx α) (cache : List (Path × α)) (i : Nat) (ks : List (Node α))
    (path : Path) (pc p1 p2 : α) (h : cacheGet cache path = none) (hs : c.sampled = true) :
    pv c cache (.chance i ks) path pc p1 p2 =
      ((pvNth c cache ks (kdraw c i) (path ++ [kdraw c i]) pc p1 p2).1,
        .inr i :: (pvNth c cache ks (kdraw c i) (path ++ [kdraw c i]) pc p1 p2).2) := by
  rw [pv.eq_def]; simp only [h, hs, if_true]

theorem pv_chance_f (c : VCtx α) (cache : List (Path × α)) (i : Nat) (ks : List (Node α))
    (path : Path) (pc p1 p2 : α) (h : cacheGet cache path = none) (hs : c.sampled = false) :
    pv c cache (.chance i ks) path pc p1 p2 =
      pvChance c cache (c.ch.getD i []) ks path 0 pc p1 p2 0 := by
  rw [pv.eq_def]; simp only [h, hs, Bool.false_eq_true, if_false]

theorem pv_player (c : VCtx α) (cache : List (Path × α)) (one : Bool) (i : Nat) (ks : List (Node α))
    (path : Path) (pc p1 p2 : α) (h : cacheGet cache path = none) :
    pv c cache (.player one i ks) path pc p1 p2 =
      ((pvActs c cache one i (if one then pc * p2 else -p1 * pc) (c.strat one i) ks path pc p1 p2 0 0 0).1,
        (stratEffs one i (if one then p1 else p2) (c.strat one i) 0).map .inl
          ++ (pvActs c cache one i (if one then pc * p2 else -p1 * pc) (c.strat one i) ks path pc p1 p2 0 0 0).2.2
          ++ (subEffs one i (pvActs c cache one i (if one then pc * p2 else -p1 * pc) (c.strat one i) ks path pc p1 p2 0 0 0).2.1
                (c.strat one i).length).map .inl) := by
  rw [pv.eq_def]; simp only [h]


/-! ## draw states -/

/-- every cached sample is the oracle's answer -/
def Cons (c : VCtx α) (d : DrawSt α) : Prop :=
  ∀ i k, assocGet d.chance i = some k → k = kdraw c i

def drawOne (c : VCtx α) (i : Nat) (d : DrawSt α) : DrawSt α :=
  (sampleChance c.draw c.pass (c.ch.getD i []) i d).2

def drawAll (c : VCtx α) (ids : List Nat) (d : DrawSt α) : DrawSt α :=
  ids.foldl (fun d i => drawOne c i d) d

@[simp] theorem drawAll_nil (c : VCtx α) (d : DrawSt α) : drawAll c [] d = d := rfl
@[simp] theorem drawAll_cons (c : VCtx α) (i : Nat) (ids : List Nat) (d : DrawSt α) :
    drawAll c (i :: ids) d = drawAll c ids (drawOne c i d) := rfl
theorem drawAll_append (c : VCtx α) (a b : List Nat) (d : DrawSt α) :
    drawAll c (a ++ b) d = drawAll c b (drawAll c a d) := by
  simp [drawAll, List.foldl_append]

theorem sampleChance_cons (c : VCtx α) (i : Nat) (d : DrawSt α) (h : Cons c d) :
    sampleChance c.draw c.pass (c.ch.getD i []) i d = (kdraw c i, drawOne c i d) :=
  Prod.ext (sampleChance_inv (P := fun j v => v = kdraw c j) _ _ _ i d h rfl).1 rfl

theorem Cons.drawOne {c : VCtx α} {d : DrawSt α} (h : Cons c d) (i : Nat) : Cons c (drawOne c i d) :=
  (sampleChance_inv (P := fun j v => v = kdraw c j) _ _ _ i d h rfl).2.1

theorem Cons.drawAll {c : VCtx α} (ids : List Nat) : ∀ {d : DrawSt α}, Cons c d → Cons c (drawAll c ids d) := by
  induction ids with
  | nil => intro d h; exact h
  | cons i ids ih => intro d h; exact ih (h.drawOne i)

theorem vrecCNth_eq (c : VCtx α) (cache : List (Path × α)) : ∀ (ks : List (Node α)) (k : Nat)
    (path : Path) (pc p1 p2 : α) (d : DrawSt α), vrecCNth c cache ks k path pc p1 p2 d =
      match ks[k]? with
      | some n => vrecC c cache n path pc p1 p2 d
      | none => (0, [], d)
  | [], _, _, _, _, _, _ => rfl
  | _ :: _, 0, _, _, _, _, _ => rfl
  | _ :: ks, k + 1, path, pc, p1, p2, d => vrecCNth_eq c cache ks k path pc p1 p2 d

theorem pvNth_eq (c : VCtx α) (C : List (Path × α)) : ∀ (ks : List (Node α)) (k : Nat) (path : Path)
    (pc p1 p2 : α), pvNth c C ks k path pc p1 p2 =
      match ks[k]? with
      | some n => pv c C n path pc p1 p2
      | none => (0, [])
  | [], _, _, _, _, _ => rfl
  | _ :: _, 0, _, _, _, _ => rfl
  | _ :: ks, k + 1, path, pc, p1, p2 => pvNth_eq c C ks k path pc p1 p2

/-! Under oracle-consistent caches the cached traversal is the pure one, its draws made in order:
first the three child loops, given the statement for the children. -/

section
variable (c : VCtx α) (cache : List (Path × α)) (ks : List (Node α))
  (h : ∀ n ∈ ks, ∀ (path : Path) (pc p1 p2 : α) (d : DrawSt α), Cons c d →
    vrecC c cache n path pc p1 p2 d =
      ((pv c cache n path pc p1 p2).1, effsOf (pv c cache n path pc p1 p2).2,
        drawAll c (idsOf (pv c cache n path pc p1 p2).2) d))
include h

theorem vrecCNth_pv_of (k : Nat) (path : Path) (pc p1 p2 : α) (d : DrawSt α) (hd : Cons c d) :
    vrecCNth c cache ks k path pc p1 p2 d =
      ((pvNth c cache ks k path pc p1 p2).1, effsOf (pvNth c cache ks k path pc p1 p2).2,
        drawAll c (idsOf (pvNth c cache ks k path pc p1 p2).2) d) := by
  rw [vrecCNth_eq, pvNth_eq]
  cases hk : ks[k]? with
  | none => rfl
  | some n => exact h n (List.mem_of_getElem? hk) path pc p1 p2 d hd

theorem vrecCChance_pv_of :
    ∀ (ps : List α) (path : Path) (a : Nat) (pc p1 p2 : α) (d : DrawSt α) (acc : α), Cons c d →
      vrecCChance c cache ps ks path a pc p1 p2 d acc =
        ((pvChance c cache ps ks path a pc p1 p2 acc).1,
          effsOf (pvChance c cache ps ks path a pc p1 p2 acc).2,
          drawAll c (idsOf (pvChance c cache ps ks path a pc p1 p2 acc).2) d) := by
  induction ks with
  | nil => intro ps; cases ps <;> exact fun _ _ _ _ _ _ _ _ => rfl
  | cons k ks ih =>
    intro ps path a pc p1 p2 d acc hd
    cases ps with
    | nil => rfl
    | cons p ps =>
      simp only [vrecCChance, pvChance]
      rw [h k List.mem_cons_self (path ++ [a]) (pc * p) p1 p2 d hd]
      simp only
      rw [ih (fun n hn => h n (List.mem_cons_of_mem _ hn)) ps path (a + 1) pc p1 p2 _ _
        (hd.drawAll _)]
      simp only [effsOf_append, idsOf_append, drawAll_append]

theorem vrecCActs_pv_of (one : Bool) (i : Nat) (mult : α) :
    ∀ (σ : List α) (path : Path) (pc p1 p2 : α) (d : DrawSt α) (a : Nat) (eo ex : α), Cons c d →
      vrecCActs c cache one i mult σ ks path pc p1 p2 d a eo ex =
        ((pvActs c cache one i mult σ ks path pc p1 p2 a eo ex).1,
          (pvActs c cache one i mult σ ks path pc p1 p2 a eo ex).2.1,
          effsOf (pvActs c cache one i mult σ ks path pc p1 p2 a eo ex).2.2,
          drawAll c (idsOf (pvActs c cache one i mult σ ks path pc p1 p2 a eo ex).2.2) d) := by
  induction ks with
  | nil => intro σ; cases σ <;> exact fun _ _ _ _ _ _ _ _ _ => rfl
  | cons k ks ih =>
    intro σ path pc p1 p2 d a eo ex hd
    cases σ with
    | nil => rfl
    | cons s σ =>
      simp only [vrecCActs, pvActs]
      rw [h k List.mem_cons_self (path ++ [a]) pc (p1 * s) p2 d hd,
        h k List.mem_cons_self (path ++ [a]) pc p1 (p2 * s) d hd]
      cases one
      · simp only [Bool.false_eq_true, if_false]
        rw [ih (fun n hn => h n (List.mem_cons_of_mem _ hn)) σ path pc p1 p2 _ _ _ _ (hd.drawAll _)]
        simp only [effsOf_append, effsOf_inl, idsOf_append, idsOf_inl, drawAll_append]
      · simp only [if_true]
        rw [ih (fun n hn => h n (List.mem_cons_of_mem _ hn)) σ path pc p1 p2 _ _ _ _ (hd.drawAll _)]
        simp only [effsOf_append, effsOf_inl, idsOf_append, idsOf_inl, drawAll_append]

end

theorem vrecC_pv (c : VCtx α) (cache : List (Path × α)) (n : Node α) :
    ∀ (path : Path) (pc p1 p2 : α) (d : DrawSt α), Cons c d →
      vrecC c cache n path pc p1 p2 d =
        ((pv c cache n path pc p1 p2).1, effsOf (pv c cache n path pc p1 p2).2,
          drawAll c (idsOf (pv c cache n path pc p1 p2).2) d) := by
  have hit : ∀ (n : Node α) (path : Path) (pc p1 p2 : α) (d : DrawSt α) (v : α),
      cacheGet cache path = some v → vrecC c cache n path pc p1 p2 d =
        ((pv c cache n path pc p1 p2).1, effsOf (pv c cache n path pc p1 p2).2,
          drawAll c (idsOf (pv c cache n path pc p1 p2).2) d) := fun n path pc p1 p2 d v hc => by
    rw [vrecC_hit c cache n path pc p1 p2 d v hc, pv_hit c cache n path pc p1 p2 v hc]; rfl
  induction n using Node.induct with
  | term p =>
    intro path pc p1 p2 d hd
    cases hc : cacheGet cache path with
    | some v => exact hit _ path pc p1 p2 d v hc
    | none => rw [vrecC_term c cache p path pc p1 p2 d hc, pv_term c cache p path pc p1 p2 hc]; rfl
  | chance i ks ih =>
    intro path pc p1 p2 d hd
    cases hc : cacheGet cache path with
    | some v => exact hit _ path pc p1 p2 d v hc
    | none =>
      cases hs : c.sampled with
      | true =>
        rw [vrecC_chance_s c cache i ks path pc p1 p2 d hc hs, pv_chance_s c cache i ks path pc p1 p2 hc hs,
          sampleChance_cons c i d hd, vrecCNth_pv_of c cache ks ih _ _ pc p1 p2 _ (hd.drawOne i)]
        rfl
      | false =>
        rw [vrecC_chance_f c cache i ks path pc p1 p2 d hc hs, pv_chance_f c cache i ks path pc p1 p2 hc hs]
        exact vrecCChance_pv_of c cache ks ih _ path 0 pc p1 p2 d 0 hd
  | player one i ks ih =>
    intro path pc p1 p2 d hd
    cases hc : cacheGet cache path with
    | some v => exact hit _ path pc p1 p2 d v hc
    | none =>
      rw [vrecC_player c cache one i ks path pc p1 p2 d hc, pv_player c cache one i ks path pc p1 p2 hc,
        vrecCActs_pv_of c cache ks ih one i _ _ path pc p1 p2 d 0 0 0 hd]
      simp only [effsOf_append, effsOf_map_inl, idsOf_append, idsOf_map_inl, List.append_nil,
        List.nil_append]

theorem vrecCNth_pv (c : VCtx α) (cache : List (Path × α)) :
    ∀ (ks : List (Node α)) (k : Nat) (path : Path) (pc p1 p2 : α) (d : DrawSt α), Cons c d →
      vrecCNth c cache ks k path pc p1 p2 d =
        ((pvNth c cache ks k path pc p1 p2).1, effsOf (pvNth c cache ks k path pc p1 p2).2,
          drawAll c (idsOf (pvNth c cache ks k path pc p1 p2).2) d) :=
  fun ks => vrecCNth_pv_of c cache ks fun n _ => vrecC_pv c cache n
theorem vrecCChance_pv (c : VCtx α) (cache : List (Path × α)) :
    ∀ (ps : List α) (ks : List (Node α)) (path : Path) (a : Nat) (pc p1 p2 : α) (d : DrawSt α)
      (acc : α), Cons c d →
      vrecCChance c cache ps ks path a pc p1 p2 d acc =
        ((pvChance c cache ps ks path a pc p1 p2 acc).1,
          effsOf (pvChance c cache ps ks path a pc p1 p2 acc).2,
          drawAll c (idsOf (pvChance c cache ps ks path a pc p1 p2 acc).2) d) :=
  fun ps ks => vrecCChance_pv_of c cache ks (fun n _ => vrecC_pv c cache n) ps
theorem vrecCActs_pv (c : VCtx α) (cache : List (Path × α)) (one : Bool) (i : Nat) (mult : α) :
    ∀ (σ : List α) (ks : List (Node α)) (path : Path) (pc p1 p2 : α) (d : DrawSt α) (a : Nat)
      (eo ex : α), Cons c d →
      vrecCActs c cache one i mult σ ks path pc p1 p2 d a eo ex =
        ((pvActs c cache one i mult σ ks path pc p1 p2 a eo ex).1,
          (pvActs c cache one i mult σ ks path pc p1 p2 a eo ex).2.1,
          effsOf (pvActs c cache one i mult σ ks path pc p1 p2 a eo ex).2.2,
          drawAll c (idsOf (pvActs c cache one i mult σ ks path pc p1 p2 a eo ex).2.2) d) :=
  fun σ ks => vrecCActs_pv_of c cache ks (fun n _ => vrecC_pv c cache n) one i mult σ

section
variable (c : VCtx α) (ks : List (Node α))
  (h : ∀ n ∈ ks, ∀ (path : Path) (pc p1 p2 : α) (d : DrawSt α),
    vrecC c [] n path pc p1 p2 d = vrec c n pc p1 p2 d)
include h

theorem vrecCNth_nil_of :
    ∀ (k : Nat) (path : Path) (pc p1 p2 : α) (d : DrawSt α),
      vrecCNth c [] ks k path pc p1 p2 d = vrecNth c ks k pc p1 p2 d := by
  induction ks with
  | nil => exact fun _ _ _ _ _ _ => rfl
  | cons n ks ih =>
    intro k
    cases k with
    | zero => exact h n List.mem_cons_self
    | succ k => exact ih (fun n hn => h n (List.mem_cons_of_mem _ hn)) k

theorem vrecCChance_nil_of :
    ∀ (ps : List α) (path : Path) (a : Nat) (pc p1 p2 : α) (d : DrawSt α) (acc : α),
      vrecCChance c [] ps ks path a pc p1 p2 d acc = vrecChance c ps ks pc p1 p2 d acc := by
  induction ks with
  | nil => intro ps; cases ps <;> exact fun _ _ _ _ _ _ _ => rfl
  | cons k ks ih =>
    intro ps path a pc p1 p2 d acc
    cases ps with
    | nil => rfl
    | cons p ps =>
      simp only [vrecCChance, vrecChance, h k List.mem_cons_self,
        ih (fun n hn => h n (List.mem_cons_of_mem _ hn))]

theorem vrecCActs_nil_of (one : Bool) (i : Nat) (mult : α) :
    ∀ (σ : List α) (path : Path) (pc p1 p2 : α) (d : DrawSt α) (a : Nat) (eo ex : α),
      vrecCActs c [] one i mult σ ks path pc p1 p2 d a eo ex
        = vrecActs c one i mult σ ks pc p1 p2 d a eo ex := by
  induction ks with
  | nil => intro σ; cases σ <;> exact fun _ _ _ _ _ _ _ _ => rfl
  | cons k ks ih =>
    intro σ path pc p1 p2 d a eo ex
    cases σ with
    | nil => rfl
    | cons s σ =>
      simp only [vrecCActs, vrecActs, h k List.mem_cons_self,
        ih (fun n hn => h n (List.mem_cons_of_mem _ hn))]

end

theorem vrecC_nil (c : VCtx α) (n : Node α) : ∀ (path : Path) (pc p1 p2 : α) (d : DrawSt α),
    vrecC c [] n path pc p1 p2 d = vrec c n pc p1 p2 d := by
  induction n using Node.induct with
  | term p =>
    intro path pc p1 p2 d
    rw [vrecC_term c [] p path pc p1 p2 d rfl, vrec_term]
  | chance i ks ih =>
    intro path pc p1 p2 d
    cases hs : c.sampled with
    | true =>
      rw [vrecC_chance_s c [] i ks path pc p1 p2 d rfl hs, vrec_chance_s c hs]
      exact vrecCNth_nil_of c ks ih _ _ pc p1 p2 _
    | false =>
      rw [vrecC_chance_f c [] i ks path pc p1 p2 d rfl hs, vrec_chance c hs]
      exact vrecCChance_nil_of c ks ih _ path 0 pc p1 p2 d 0
  | player one i ks ih =>
    intro path pc p1 p2 d
    rw [vrecC_player c [] one i ks path pc p1 p2 d rfl, vrec_player,
      vrecCActs_nil_of c ks ih one i _ _ path pc p1 p2 d 0 0 0]

theorem vrecCNth_nil (c : VCtx α) : ∀ (ks : List (Node α)) (k : Nat) (path : Path) (pc p1 p2 : α)
    (d : DrawSt α), vrecCNth c [] ks k path pc p1 p2 d = vrecNth c ks k pc p1 p2 d :=
  fun ks => vrecCNth_nil_of c ks fun n _ => vrecC_nil c n
theorem vrecCChance_nil (c : VCtx α) : ∀ (ps : List α) (ks : List (Node α)) (path : Path) (a : Nat)
    (pc p1 p2 : α) (d : DrawSt α) (acc : α),
    vrecCChance c [] ps ks path a pc p1 p2 d acc = vrecChance c ps ks pc p1 p2 d acc :=
  fun ps ks => vrecCChance_nil_of c ks (fun n _ => vrecC_nil c n) ps
theorem vrecCActs_nil (c : VCtx α) (one : Bool) (i : Nat) (mult : α) : ∀ (σ : List α)
    (ks : List (Node α)) (path : Path) (pc p1 p2 : α) (d : DrawSt α) (a : Nat) (eo ex : α),
    vrecCActs c [] one i mult σ ks path pc p1 p2 d a eo ex
      = vrecActs c one i mult σ ks pc p1 p2 d a eo ex :=
  fun σ ks => vrecCActs_nil_of c ks (fun n _ => vrecC_nil c n) one i mult σ

/-! ## only the cache entries below a node matter -/

theorem pvChance_eq_loop (c : VCtx α) (C : List (Path × α)) (path : Path) (pc p1 p2 : α)
    (ks : List (Node α)) : ∀ (ps : List α) (a : Nat) (acc : α),
    pvChance c C ps ks path a pc p1 p2 acc =
      kidLoop (fun a p k => pv c C k (path ++ [a]) (pc * p) p1 p2) (fun acc p v => acc + p * v)
        (fun _ _ => []) ps ks a acc := by
  induction ks with
  | nil => intro ps; cases ps <;> exact fun _ _ => rfl
  | cons k ks ih =>
    intro ps a acc
    cases ps with
    | nil => rfl
    | cons p ps => simp only [pvChance, kidLoop, ih, List.nil_append]

theorem pvActs_eq_loop (c : VCtx α) (C : List (Path × α)) (one : Bool) (i : Nat) (mult : α)
    (path : Path) (pc p1 p2 : α) (ks : List (Node α)) : ∀ (σ : List α) (a : Nat) (eo ex : α),
    pvActs c C one i mult σ ks path pc p1 p2 a eo ex =
      (let r := kidLoop
        (fun a s k => if one then pv c C k (path ++ [a]) pc (p1 * s) p2
          else pv c C k (path ++ [a]) pc p1 (p2 * s))
        (fun st s v => (st.1 + s * v, st.2 + v * mult * s))
        (fun a v => [.inl ⟨one, i, .regret, a, v * mult⟩]) σ ks a (eo, ex)
       (r.1.1, r.1.2, r.2)) := by
  induction ks with
  | nil => intro σ; cases σ <;> exact fun _ _ _ => rfl
  | cons k ks ih =>
    intro σ a eo ex
    cases σ with
    | nil => rfl
    | cons s σ => simp only [pvActs, kidLoop, ih, List.singleton_append]

theorem pv_irr (c : VCtx α) (C' C : List (Path × α)) (n : Node α) :
    ∀ (path : Path) (pc p1 p2 : α), (∀ q, path <+: q → cacheGet C' q = cacheGet C q) →
      pv c C' n path pc p1 p2 = pv c C n path pc p1 p2 := by
  have hit : ∀ (n : Node α) (path : Path) (pc p1 p2 v : α), cacheGet C' path = cacheGet C path →
      cacheGet C path = some v → pv c C' n path pc p1 p2 = pv c C n path pc p1 p2 :=
    fun n path pc p1 p2 v h0 hc => by
      rw [pv_hit c C _ _ _ _ _ v hc, pv_hit c C' _ _ _ _ _ v (h0.trans hc)]
  induction n using Node.induct with
  | term p =>
    intro path pc p1 p2 h
    have h0 := h path (List.prefix_refl _)
    cases hc : cacheGet C path with
    | some v => exact hit _ path pc p1 p2 v h0 hc
    | none => rw [pv_term c C _ _ _ _ _ hc, pv_term c C' _ _ _ _ _ (h0.trans hc)]
  | chance i ks ih =>
    intro path pc p1 p2 h
    have h0 := h path (List.prefix_refl _)
    have hk : ∀ a q, path ++ [a] <+: q → cacheGet C' q = cacheGet C q :=
      fun a q hq => h q ((List.prefix_append _ _).trans hq)
    cases hc : cacheGet C path with
    | some v => exact hit _ path pc p1 p2 v h0 hc
    | none =>
      cases hs : c.sampled with
      | true =>
        rw [pv_chance_s c C _ _ _ _ _ _ hc hs, pv_chance_s c C' _ _ _ _ _ _ (h0.trans hc) hs,
          pvNth_eq, pvNth_eq]
        cases hn : ks[kdraw c i]? with
        | none => rfl
        | some n => simp only [ih n (List.mem_of_getElem? hn) _ pc p1 p2 (hk _)]
      | false =>
        rw [pv_chance_f c C _ _ _ _ _ _ hc hs, pv_chance_f c C' _ _ _ _ _ _ (h0.trans hc) hs,
          pvChance_eq_loop, pvChance_eq_loop, kidLoop_congr _ _ _ _ ks _ 0 _
            (fun b _ k hk' p => ih k hk' _ (pc * p) p1 p2 (hk b))]
  | player one i ks ih =>
    intro path pc p1 p2 h
    have h0 := h path (List.prefix_refl _)
    cases hc : cacheGet C path with
    | some v => exact hit _ path pc p1 p2 v h0 hc
    | none =>
      rw [pv_player c C _ _ _ _ _ _ _ hc, pv_player c C' _ _ _ _ _ _ _ (h0.trans hc),
        pvActs_eq_loop, pvActs_eq_loop, kidLoop_congr _ _ _ _ ks _ 0 _ ?_]
      intro b _ k hk' s
      have hq : ∀ q, path ++ [b] <+: q → cacheGet C' q = cacheGet C q :=
        fun q hq => h q ((List.prefix_append _ _).trans hq)
      rw [ih k hk' _ pc _ _ hq, ih k hk' _ pc _ _ hq]

theorem pvNth_irr (c : VCtx α) (C' C : List (Path × α)) :
    ∀ (ks : List (Node α)) (k : Nat) (path : Path) (pc p1 p2 : α),
      (∀ q, path <+: q → cacheGet C' q = cacheGet C q) →
      pvNth c C' ks k path pc p1 p2 = pvNth c C ks k path pc p1 p2 := by
  intro ks k path pc p1 p2 h
  rw [pvNth_eq, pvNth_eq]
  cases ks[k]? with
  | none => rfl
  | some n => exact pv_irr c C' C n path pc p1 p2 h

/-! ## positions in the tree -/

def pvI (c : VCtx α) (C : List (Path × α)) (x : VItem α) : α × List (Ev α) :=
  pv c C x.node x.path x.pc x.p1 x.p2

/-- the child the plain traversal reaches from `x` through index `a`, with its reach triple -/
def vstep (c : VCtx α) (x : VItem α) (a : Nat) : Option (VItem α) :=
  match x.node with
  | .term _ => none
  | .chance i ks =>
    if c.sampled then
      if a = kdraw c i then (ks[a]?).map (fun n => ⟨x.path ++ [a], n, x.pc, x.p1, x.p2⟩) else none
    else
      match (c.ch.getD i [])[a]?, ks[a]? with
      | some p, some n => some ⟨x.path ++ [a], n, x.pc * p, x.p1, x.p2⟩
      | _, _ => none
  | .player one i ks =>
    match (c.strat one i)[a]?, ks[a]? with
    | some s, some n =>
      some (if one then ⟨x.path ++ [a], n, x.pc, x.p1 * s, x.p2⟩
        else ⟨x.path ++ [a], n, x.pc, x.p1, x.p2 * s⟩)
    | _, _ => none

def vdesc (c : VCtx α) : VItem α → List Nat → Option (VItem α)
  | x, [] => some x
  | x, a :: r => (vstep c x a).bind (fun y => vdesc c y r)

theorem vstep_path {c : VCtx α} {x y : VItem α} {a : Nat} (h : vstep c x a = some y) :
    y.path = x.path ++ [a] := by
  unfold vstep at h
  split at h
  · exact absurd h (by simp)
  · split_ifs at h
    · simp only [Option.map_eq_some_iff] at h
      obtain ⟨n, -, h⟩ := h
      rw [← h]
    · split at h
      · simp only [Option.some.injEq] at h; rw [← h]
      · exact absurd h (by simp)
  · split at h
    · simp only [Option.some.injEq] at h; rw [← h]; split_ifs <;> rfl
    · exact absurd h (by simp)

theorem vdesc_path {c : VCtx α} : ∀ (r : List Nat) {x y : VItem α}, vdesc c x r = some y →
    y.path = x.path ++ r
  | [], x, y, h => by simp only [vdesc, Option.some.injEq] at h; rw [← h]; simp
  | a :: r, x, y, h => by
    simp only [vdesc] at h
    cases hs : vstep c x a with
    | none => simp [hs] at h
    | some z =>
      simp only [hs, Option.bind_some] at h
      rw [vdesc_path r h, vstep_path hs]; simp

theorem vdesc_append (c : VCtx α) : ∀ (r s : List Nat) (x : VItem α),
    vdesc c x (r ++ s) = (vdesc c x r).bind (fun y => vdesc c y s)
  | [], s, x => by simp [vdesc]
  | a :: r, s, x => by
    simp only [List.cons_append, vdesc]
    cases hs : vstep c x a with
    | none => simp
    | some z => simp only [Option.bind_some]; exact vdesc_append c r s z

theorem vdesc_snoc (c : VCtx α) (r : List Nat) (a : Nat) (x y z : VItem α)
    (h1 : vdesc c x r = some y) (h2 : vstep c y a = some z) : vdesc c x (r ++ [a]) = some z := by
  rw [vdesc_append, h1]; simp [vdesc, h2]

/-! ## one more cached node -/

/-- at `x` the traversal with cache `C'` returns the value of the traversal with cache `C` and
performs its events except `E` -/
def RelAt (c : VCtx α) (C' C : List (Path × α)) (E : List (Ev α)) (x : VItem α) : Prop :=
  (pvI c C' x).1 = (pvI c C x).1 ∧ ((pvI c C' x).2 ++ E).Perm (pvI c C x).2

/-- one step up: if the relation holds at a child `y` of `x`, the caches agree away from `y`
and neither has an entry at `x`, it holds at `x` -/
theorem relAt_step (c : VCtx α) (C' C : List (Path × α)) (E : List (Ev α)) (x y : VItem α) (a : Nat)
    (hv : vstep c x a = some y) (hx : cacheGet C x.path = none) (hx' : cacheGet C' x.path = none)
    (hag : ∀ q, ¬ y.path <+: q → cacheGet C' q = cacheGet C q) (hy : RelAt c C' C E y) :
    RelAt c C' C E x := by
  -- the traversals of the siblings of `y` do not see the difference
  have hother : ∀ b, b ≠ a → ∀ k pc q1 q2,
      pv c C' k (x.path ++ [b]) pc q1 q2 = pv c C k (x.path ++ [b]) pc q1 q2 :=
    fun b hb k pc q1 q2 => pv_irr c C' C k _ pc q1 q2 fun q hq =>
      hag q (by rw [vstep_path hv]; exact not_prefix_of_ne hb hq)
  obtain ⟨h1, h2⟩ := hy
  obtain ⟨xp, xn, xpc, x1, x2⟩ := x
  unfold RelAt pvI
  cases xn with
  | term p => simp [vstep] at hv
  | chance i ks =>
    simp only [vstep] at hv
    cases hs : c.sampled with
    | true =>
      simp only [hs, if_true] at hv
      split_ifs at hv with hak
      · subst hak
        simp only [Option.map_eq_some_iff] at hv
        obtain ⟨n, hn, rfl⟩ := hv
        rw [pv_chance_s c C _ _ _ _ _ _ hx hs, pv_chance_s c C' _ _ _ _ _ _ hx' hs,
          pvNth_eq, pvNth_eq, hn]
        exact ⟨h1, List.Perm.cons _ h2⟩
    | false =>
      simp only [hs, Bool.false_eq_true, if_false] at hv
      split at hv
      · rename_i p n hp hn
        simp only [Option.some.injEq] at hv
        subst hv
        rw [pv_chance_f c C _ _ _ _ _ _ hx hs, pv_chance_f c C' _ _ _ _ _ _ hx' hs,
          pvChance_eq_loop, pvChance_eq_loop]
        exact kidLoop_step _ _ _ _ E a (fun b hb p k => hother b hb k _ x1 x2) ks _ 0 0 p n
          (Nat.zero_le _) hp hn ⟨h1, h2⟩
      · simp at hv
  | player one i ks =>
    simp only [vstep] at hv
    split at hv
    · rename_i s n hs hn
      simp only [Option.some.injEq] at hv
      subst hv
      rw [pv_player c C _ _ _ _ _ _ _ hx, pv_player c C' _ _ _ _ _ _ _ hx',
        pvActs_eq_loop, pvActs_eq_loop]
      refine (kidLoop_step _ _ _ _ E a ?_ ks _ 0 _ s n (Nat.zero_le _) hs hn ?_).wrap (fun st : α × α => st.1)
        (fun _ => (stratEffs one i (if one then x1 else x2) (c.strat one i) 0).map .inl)
        (fun st : α × α => (subEffs one i st.2 (c.strat one i).length).map .inl)
      · intro b hb s k
        dsimp only
        rw [hother b hb k xpc, hother b hb k xpc]
      · cases one <;> exact ⟨h1, h2⟩
    · simp at hv

/-- caching one more node `x0` (with the value of its plain traversal) that is incomparable with
all cached paths: at every ancestor `x` the value is unchanged and exactly the events of `x0`'s
plain traversal disappear -/
theorem relAt_desc (c : VCtx α) (C : List (Path × α)) (x0 : VItem α)
    (hinc : ∀ e ∈ C, ¬ e.1 <+: x0.path ∧ ¬ x0.path <+: e.1) :
    ∀ (r : List Nat) (x : VItem α), vdesc c x r = some x0 →
      RelAt c ((x0.path, (pvI c [] x0).1) :: C) C (pvI c [] x0).2 x := by
  intro r
  induction r with
  | nil =>
    intro x h
    simp only [vdesc, Option.some.injEq] at h
    subst h
    have h1 : pvI c ((x.path, (pvI c [] x).1) :: C) x = ((pvI c [] x).1, []) := by
      unfold pvI
      exact pv_hit c _ _ _ _ _ _ _ (by rw [cacheGet_cons, if_pos rfl])
    have h2 : pvI c C x = pvI c [] x := by
      unfold pvI
      apply pv_irr
      intro q hq
      rw [cacheGet_nil]
      exact (cacheGet_eq_none_iff _ _).2 (fun e he heq => (hinc e he).2 (heq ▸ hq))
    unfold RelAt
    rw [h1, h2]
    exact ⟨rfl, by simp⟩
  | cons a r ih =>
    intro x h
    simp only [vdesc] at h
    cases hs : vstep c x a with
    | none => simp [hs] at h
    | some y =>
      simp only [hs, Option.bind_some] at h
      have hyp := vstep_path hs
      have h0p := vdesc_path r h
      have hpre : x.path <+: x0.path := by
        rw [h0p, hyp, List.append_assoc]; exact List.prefix_append _ _
      have hne : x0.path ≠ x.path := by
        intro heq
        have := congrArg List.length heq
        rw [h0p, hyp] at this
        simp at this
      have hx : cacheGet C x.path = none :=
        (cacheGet_eq_none_iff _ _).2 (fun e he heq => (hinc e he).1 (heq ▸ hpre))
      have hx' : cacheGet ((x0.path, (pvI c [] x0).1) :: C) x.path = none := by
        rw [cacheGet_cons, if_neg hne]; exact hx
      refine relAt_step c _ C _ x y a hs hx hx' ?_ (ih y h)
      intro q hq
      rw [cacheGet_cons, if_neg]
      intro heq
      apply hq
      rw [← heq, h0p]
      exact List.prefix_append _ _


/-! ## cuts -/

/-- every item is the position the plain traversal reaches along its path (with the reach
triple), and no item is below another -/
def CutInv (c : VCtx α) (r0 : VItem α) (S : List (VItem α)) : Prop :=
  Cut (fun x => vdesc c r0 x.path = some x) (fun x y => ApartP x.path y.path) S

def cacheOf (c : VCtx α) (Q : List (VItem α)) : List (Path × α) :=
  Q.map (fun x => (x.path, (pvI c [] x).1))

def taskEvs (c : VCtx α) (Q : List (VItem α)) : List (Ev α) :=
  Q.flatMap (fun x => (pvI c [] x).2)

/-- **decomposition**: the tasks on a cut and the cached traversal from the root together perform
the events of the plain traversal, and the cached traversal returns its value -/
theorem cut_decomp (c : VCtx α) (r0 : VItem α) :
    ∀ (Q : List (VItem α)), CutInv c r0 Q →
      (pvI c (cacheOf c Q) r0).1 = (pvI c [] r0).1 ∧
      (taskEvs c Q ++ (pvI c (cacheOf c Q) r0).2).Perm (pvI c [] r0).2 := by
  intro Q
  induction Q with
  | nil => exact fun _ => by simp [cacheOf, taskEvs]
  | cons x Q ih =>
    intro h
    obtain ⟨ih1, ih2⟩ := ih h.tail
    have hinc : ∀ e ∈ cacheOf c Q, ¬ e.1 <+: x.path ∧ ¬ x.path <+: e.1 := by
      intro e he
      obtain ⟨y, hy, rfl⟩ := List.mem_map.mp he
      exact ((List.pairwise_cons.mp h.2).1 y hy).symm
    have hd : vdesc c r0 x.path = some x := h.1 x List.mem_cons_self
    obtain ⟨h1, h2⟩ := relAt_desc c (cacheOf c Q) x hinc x.path r0 hd
    have hc : cacheOf c (x :: Q) = (x.path, (pvI c [] x).1) :: cacheOf c Q := rfl
    have ht : taskEvs c (x :: Q) = (pvI c [] x).2 ++ taskEvs c Q := by simp [taskEvs]
    rw [hc, ht]
    refine ⟨h1.trans ih1, ?_⟩
    refine List.Perm.trans ?_ ih2
    rw [List.append_assoc]
    refine List.perm_append_comm.trans ?_
    rw [List.append_assoc]
    exact h2.append_left _

theorem evs_sub (c : VCtx α) (r0 x : VItem α) (hd : vdesc c r0 x.path = some x) :
    ∀ e ∈ (pvI c [] x).2, e ∈ (pvI c [] r0).2 := by
  obtain ⟨-, h2⟩ := relAt_desc c [] x (fun e he => absurd he List.not_mem_nil) x.path r0 hd
  intro e he
  exact h2.subset (List.mem_append_right _ he)

/-! ## the children pushed by the frontier loop -/

/-- The entries the frontier loop pushes for the children `ks` of a node, one per weight in `ws`:
`f` is `chanceItems …` or `childItems …`, and `mk a w k` the entry of child number `a`.  Each is
the entry of some child, and their paths differ. -/
theorem kidItems_spec (path : Path) (mk : Nat → α → Node α → VItem α)
    (f : List α → List (Node α) → Nat → List (VItem α))
    (hcons : ∀ w ws k ks a, f (w :: ws) (k :: ks) a = mk a w k :: f ws ks (a + 1))
    (hnil : ∀ ks a, f [] ks a = []) (hnil' : ∀ ws a, f ws [] a = [])
    (hpath : ∀ a w k, (mk a w k).path = path ++ [a]) :
    ∀ (ks : List (Node α)) (ws : List α) (a0 : Nat),
      (∀ y ∈ f ws ks a0, ∃ j w n, ws[j]? = some w ∧ ks[j]? = some n ∧ y = mk (a0 + j) w n) ∧
      (f ws ks a0).Pairwise (fun y z => y.path ≠ z.path) := by
  intro ks
  induction ks with
  | nil => intro ws a0; rw [hnil']; exact ⟨fun _ h => absurd h List.not_mem_nil, List.Pairwise.nil⟩
  | cons k ks ih =>
    intro ws a0
    cases ws with
    | nil => rw [hnil]; exact ⟨fun _ h => absurd h List.not_mem_nil, List.Pairwise.nil⟩
    | cons w ws =>
      obtain ⟨ih1, ih2⟩ := ih ws (a0 + 1)
      rw [hcons]
      refine ⟨fun y hy => ?_, List.pairwise_cons.mpr ⟨fun y hy => ?_, ih2⟩⟩
      · rcases List.mem_cons.mp hy with rfl | hy
        · exact ⟨0, w, k, rfl, rfl, rfl⟩
        · obtain ⟨j, w', n, h1, h2, h3⟩ := ih1 y hy
          exact ⟨j + 1, w', n, h1, h2, by rw [h3, Nat.add_assoc, Nat.add_comm 1]⟩
      · obtain ⟨j, w', n, -, -, rfl⟩ := ih1 y hy
        rw [hpath, hpath]
        intro h
        have := (List.cons.inj (List.append_cancel_left h)).1
        omega

/-- replacing an item of a cut by (some of) its children gives a cut -/
theorem CutInv.replace {c : VCtx α} {r0 it : VItem α} {R ch : List (VItem α)}
    (h : CutInv c r0 (it :: R)) (hch : ∀ y ∈ ch, ∃ a, vstep c it a = some y)
    (hne : ch.Pairwise (fun y z => y.path ≠ z.path)) : CutInv c r0 (ch ++ R) := by
  refine ⟨fun x hx => (List.mem_append.mp hx).elim (fun hx => ?_) (h.tail.1 x), pairwise_apart_replace
    VItem.path (List.prefix_refl _) (fun y hy => (hch y hy).imp fun _ ha => vstep_path ha) hne h.2⟩
  obtain ⟨a, ha⟩ := hch x hx
  rw [vstep_path ha]
  exact vdesc_snoc c it.path a r0 it x (h.1 it List.mem_cons_self) ha

/-! ## the draw log is determined by the set of sampled infosets -/

def keys (d : DrawSt α) : List Nat := d.chance.map Prod.fst

/-- the log record of a fresh draw at chance infoset `i` -/
def drec (c : VCtx α) (i : Nat) : DrawRec α := ⟨0, i, c.pass, c.ch.getD i [], kdraw c i⟩

/-- cached samples are the oracle's, every infoset is cached once, and the log is the initial
log plus one record per cached infoset (newest first) -/
def Good (c : VCtx α) (log0 : List (DrawRec α)) (d : DrawSt α) : Prop :=
  Cons c d ∧ (keys d).Nodup ∧ d.log = (keys d).map (drec c) ++ log0

theorem Good.init (c : VCtx α) (log0 : List (DrawRec α)) : Good c log0 { log := log0 } :=
  ⟨fun i k h => by simp [assocGet] at h, by simp [keys], by simp [keys]⟩

theorem Good.drawOne {c : VCtx α} {log0 : List (DrawRec α)} {d : DrawSt α} (h : Good c log0 d)
    (i : Nat) : Good c log0 (drawOne c i d) ∧ ∀ j, j ∈ keys (drawOne c i d) ↔ j = i ∨ j ∈ keys d := by
  obtain ⟨h1, h2, h3⟩ := h
  have hC := h1.drawOne i
  unfold Cfr.Van.drawOne at hC ⊢
  cases hg : assocGet d.chance i with
  | some k =>
    rw [sampleChance_cached _ _ _ _ k d hg] at hC ⊢
    obtain ⟨e, he, rfl⟩ := assocGet_some_mem _ _ _ hg
    exact ⟨⟨hC, h2, h3⟩,
      fun j => ⟨Or.inr, fun hj => hj.elim (fun e' => e' ▸ List.mem_map_of_mem he) id⟩⟩
  | none =>
    rw [sampleChance_fresh _ _ _ _ d hg] at hC ⊢
    have hni : i ∉ keys d := fun hi => by
      obtain ⟨e, he, rfl⟩ := List.mem_map.mp hi
      exact (assocGet_eq_none_iff _ _).1 hg e he rfl
    exact ⟨⟨hC, List.nodup_cons.mpr ⟨hni, h2⟩, congrArg (drec c i :: ·) h3⟩, fun j => List.mem_cons⟩

theorem Good.drawAll {c : VCtx α} {log0 : List (DrawRec α)} : ∀ (ids : List Nat) {d : DrawSt α},
    Good c log0 d →
      Good c log0 (drawAll c ids d) ∧ ∀ j, j ∈ keys (drawAll c ids d) ↔ j ∈ keys d ∨ j ∈ ids
  | [], d, h => ⟨h, fun j => (or_iff_left List.not_mem_nil).symm⟩
  | i :: ids, d, h => by
    obtain ⟨g1, k1⟩ := h.drawOne i
    obtain ⟨g2, k2⟩ := Good.drawAll ids g1
    refine ⟨g2, fun j => ?_⟩
    rw [drawAll_cons, k2, k1, List.mem_cons, or_assoc, or_left_comm]

theorem Good.log_perm {c : VCtx α} {log0 log0' : List (DrawRec α)} {d d' : DrawSt α}
    (h : Good c log0 d) (h' : Good c log0' d') (hk : ∀ j, j ∈ keys d ↔ j ∈ keys d')
    (hl : log0.Perm log0') : d.log.Perm d'.log := by
  rw [h.2.2, h'.2.2]
  exact (((List.perm_ext_iff_of_nodup h.2.1 h'.2.1).2 hk).map _).append hl

/-! ## the frontier loop keeps a cut -/

/-- what popping `it` pushes on `work` in `thread_threshold` (vanilla.rs), and the sample cache
afterwards -/
def vExpand (c : VCtx α) (it : VItem α) (d : DrawSt α) : List (VItem α) × DrawSt α :=
  match it.node with
  | .term _ => ([], d)
  | .chance i ks =>
    if c.sampled then
      (match ks[(sampleChance c.draw c.pass (c.ch.getD i []) i d).1]? with
        | some n => [⟨it.path ++ [(sampleChance c.draw c.pass (c.ch.getD i []) i d).1], n,
            it.pc * 1, it.p1, it.p2⟩]
        | none => [],
       (sampleChance c.draw c.pass (c.ch.getD i []) i d).2)
    else (chanceItems it.path it.pc it.p1 it.p2 (c.ch.getD i []) ks 0, d)
  | .player one i ks => (childItems one it.path it.pc it.p1 it.p2 (c.strat one i) ks 0, d)

theorem vThreshold_eq_loop (c : VCtx α) (target : Nat) :
    ∀ (fuel : Nat) (queue work : List (VItem α)) (d : DrawSt α),
      vThreshold c target fuel queue work d = thresholdLoop (vExpand c) target fuel queue work d := by
  intro fuel
  induction fuel with
  | zero => exact fun _ _ _ => rfl
  | succ fuel ih =>
    intro queue work d
    rw [vThreshold, thresholdLoop]
    simp only [ih]
    refine if_congr Iff.rfl ?_ rfl
    cases queue.getLast? with
    | none => rfl
    | some it =>
      obtain ⟨path, n, pc, p1, p2⟩ := it
      cases n with
      | term p => simp only [vExpand, List.append_nil]
      | chance i ks =>
        cases hs : c.sampled with
        | false => simp only [vExpand, hs, Bool.false_eq_true, if_false]
        | true =>
          simp only [vExpand, hs, if_true]
          cases ks[(sampleChance c.draw c.pass (c.ch.getD i []) i d).1]? with
          | none => simp only [List.append_nil]
          | some n => rfl
      | player one i ks => rfl

/-- what the frontier loop maintains about the draw state -/
def DInv (c : VCtx α) (r0 : VItem α) (log0 : List (DrawRec α)) (dinit d : DrawSt α) : Prop :=
  Good c log0 d ∧ (∀ j ∈ keys d, Sum.inr j ∈ (pvI c [] r0).2) ∧ (c.sampled = false → d = dinit)

/-- expanding an entry of a cut: the pushed entries are children of it with distinct paths; a
sampled chance node draws at its infoset, which the plain traversal from the root also visits -/
theorem vExpand_inv (c : VCtx α) (r0 : VItem α) (log0 : List (DrawRec α)) (dinit : DrawSt α)
    (it : VItem α) (rest : List (VItem α)) (d : DrawSt α) (hc : CutInv c r0 (it :: rest))
    (hd : DInv c r0 log0 dinit d) :
    CutInv c r0 ((vExpand c it d).1 ++ rest) ∧ DInv c r0 log0 dinit (vExpand c it d).2 := by
  have hit : vdesc c r0 it.path = some it := hc.1 it List.mem_cons_self
  unfold vExpand
  cases hn : it.node with
  | term p => exact ⟨hc.sublist (List.sublist_cons_self _ _), hd⟩
  | chance i ks =>
    cases hs : c.sampled with
    | true =>
      simp only [if_true, sampleChance_cons c i d hd.1.1]
      obtain ⟨g1, k1⟩ := hd.1.drawOne i
      have hi : Sum.inr i ∈ (pvI c [] r0).2 := by
        apply evs_sub c r0 it hit
        unfold pvI
        rw [hn, pv_chance_s c [] _ _ _ _ _ _ (cacheGet_nil _) hs]
        exact List.mem_cons_self
      refine ⟨?_, g1, fun j hj => ((k1 j).1 hj).elim (fun e => e ▸ hi) (hd.2.1 j),
        fun hf => absurd (hs.symm.trans hf) (by decide)⟩
      cases hk : ks[kdraw c i]? with
      | none => exact hc.sublist (List.sublist_cons_self _ _)
      | some n =>
        refine hc.replace (fun y hy => ⟨kdraw c i, ?_⟩) (List.pairwise_singleton _ _)
        rw [List.mem_singleton.mp hy, mul_one]
        simp only [vstep, hn, hs, hk, if_true, Option.map_some]
    | false =>
      simp only [Bool.false_eq_true, if_false]
      obtain ⟨s1, s2⟩ := kidItems_spec it.path (fun a p n => ⟨it.path ++ [a], n, it.pc * p, it.p1, it.p2⟩)
        (chanceItems it.path it.pc it.p1 it.p2) (fun _ _ _ _ _ => rfl) (fun _ _ => rfl)
        (fun ws _ => by cases ws <;> rfl) (fun _ _ _ => rfl) ks (c.ch.getD i []) 0
      refine ⟨hc.replace (fun y hy => ?_) s2, hd⟩
      obtain ⟨j, p, n, hp, hn', rfl⟩ := s1 y hy
      exact ⟨j, by simp only [vstep, hn, hs, Bool.false_eq_true, if_false, Nat.zero_add, hp, hn']⟩
  | player one i ks =>
    obtain ⟨s1, s2⟩ := kidItems_spec it.path
      (fun a s n => if one then ⟨it.path ++ [a], n, it.pc, it.p1 * s, it.p2⟩
        else ⟨it.path ++ [a], n, it.pc, it.p1, it.p2 * s⟩)
      (childItems one it.path it.pc it.p1 it.p2) (fun _ _ _ _ _ => rfl) (fun _ _ => rfl)
      (fun ws _ => by cases ws <;> rfl) (fun _ _ _ => by cases one <;> rfl) ks (c.strat one i) 0
    refine ⟨hc.replace (fun y hy => ?_) s2, hd⟩
    obtain ⟨j, s, n, hp, hn', rfl⟩ := s1 y hy
    exact ⟨j, by simp only [vstep, hn, Nat.zero_add, hp, hn']⟩

theorem vThreshold_inv (c : VCtx α) (r0 : VItem α) (target : Nat) (log0 : List (DrawRec α))
    (dinit : DrawSt α) (fuel : Nat) (queue work : List (VItem α)) (d : DrawSt α)
    (hc : CutInv c r0 (queue ++ work)) (hd : DInv c r0 log0 dinit d) :
    CutInv c r0 ((vThreshold c target fuel queue work d).1
      ++ (vThreshold c target fuel queue work d).2.1) ∧
    DInv c r0 log0 dinit (vThreshold c target fuel queue work d).2.2 := by
  rw [vThreshold_eq_loop]
  exact thresholdLoop_inv (vExpand c) target (fun l d => CutInv c r0 l ∧ DInv c r0 log0 dinit d)
    (fun _ _ _ hp h => ⟨h.1.perm (fun _ _ => ApartP.symm) hp, h.2⟩)
    (fun it rest d h => vExpand_inv c r0 log0 dinit it rest d h.1 h.2) fuel queue work d ⟨hc, hd⟩

/-! ## the unsampled traversal visits no sampled infoset -/

section
variable (c : VCtx α) (C : List (Path × α)) (ks : List (Node α))
  (h : ∀ k ∈ ks, ∀ (path : Path) (pc p1 p2 : α), idsOf (pv c C k path pc p1 p2).2 = [])
include h

theorem pvChance_ids_full_of :
    ∀ (ps : List α) (path : Path) (a : Nat) (pc p1 p2 acc : α),
      idsOf (pvChance c C ps ks path a pc p1 p2 acc).2 = [] := by
  induction ks with
  | nil => intro ps; cases ps <;> exact fun _ _ _ _ _ _ => rfl
  | cons k ks ih =>
    intro ps path a pc p1 p2 acc
    cases ps with
    | nil => rfl
    | cons p ps =>
      simp only [pvChance, idsOf_append, h k List.mem_cons_self,
        ih (fun k' hk' => h k' (List.mem_cons_of_mem _ hk')), List.append_nil]

theorem pvActs_ids_full_of (one : Bool) (i : Nat) (mult : α) :
    ∀ (σ : List α) (path : Path) (pc p1 p2 : α) (a : Nat) (eo ex : α),
      idsOf (pvActs c C one i mult σ ks path pc p1 p2 a eo ex).2.2 = [] := by
  induction ks with
  | nil => intro σ; cases σ <;> exact fun _ _ _ _ _ _ _ => rfl
  | cons k ks ih =>
    intro σ path pc p1 p2 a eo ex
    cases σ with
    | nil => rfl
    | cons s σ =>
      simp only [pvActs, idsOf_append, idsOf_inl,
        ih (fun k' hk' => h k' (List.mem_cons_of_mem _ hk')), List.append_nil]
      cases one <;> exact h k List.mem_cons_self _ _ _ _

end

theorem pv_ids_full (c : VCtx α) (C : List (Path × α)) (hs : c.sampled = false) (n : Node α) :
    ∀ (path : Path) (pc p1 p2 : α), idsOf (pv c C n path pc p1 p2).2 = [] := by
  induction n using Node.induct with
  | term p =>
    intro path pc p1 p2
    cases hc : cacheGet C path with
    | some v => rw [pv_hit c C _ _ _ _ _ v hc]; rfl
    | none => rw [pv_term c C _ _ _ _ _ hc]; rfl
  | chance i ks ih =>
    intro path pc p1 p2
    cases hc : cacheGet C path with
    | some v => rw [pv_hit c C _ _ _ _ _ v hc]; rfl
    | none =>
      rw [pv_chance_f c C _ _ _ _ _ _ hc hs]
      exact pvChance_ids_full_of c C ks ih _ path 0 pc p1 p2 0
  | player one i ks ih =>
    intro path pc p1 p2
    cases hc : cacheGet C path with
    | some v => rw [pv_hit c C _ _ _ _ _ v hc]; rfl
    | none =>
      rw [pv_player c C _ _ _ _ _ _ _ hc]
      simp only [idsOf_append, idsOf_map_inl, pvActs_ids_full_of c C ks ih one i _, List.append_nil]

theorem pvChance_ids_full (c : VCtx α) (C : List (Path × α)) (hs : c.sampled = false) :
    ∀ (ps : List α) (ks : List (Node α)) (path : Path) (a : Nat) (pc p1 p2 acc : α),
      idsOf (pvChance c C ps ks path a pc p1 p2 acc).2 = [] :=
  fun ps ks => pvChance_ids_full_of c C ks (fun k _ => pv_ids_full c C hs k) ps
theorem pvActs_ids_full (c : VCtx α) (C : List (Path × α)) (hs : c.sampled = false) (one : Bool)
    (i : Nat) (mult : α) :
    ∀ (σ : List α) (ks : List (Node α)) (path : Path) (pc p1 p2 : α) (a : Nat) (eo ex : α),
      idsOf (pvActs c C one i mult σ ks path pc p1 p2 a eo ex).2.2 = [] :=
  fun σ ks => pvActs_ids_full_of c C ks (fun k _ => pv_ids_full c C hs k) one i mult σ

theorem taskEvs_ids_full (c : VCtx α) (hs : c.sampled = false) (Q : List (VItem α)) :
    idsOf (taskEvs c Q) = [] := by
  induction Q with
  | nil => rfl
  | cons x Q ih =>
    have ht : taskEvs c (x :: Q) = (pvI c [] x).2 ++ taskEvs c Q := by simp [taskEvs]
    rw [ht, idsOf_append, ih]
    unfold pvI
    rw [pv_ids_full c [] hs]; rfl

/-! ## the three phases of a multi-threaded iteration -/

theorem vrec_pv (c : VCtx α) (x : VItem α) (d : DrawSt α) (hd : Cons c d) :
    vrec c x.node x.pc x.p1 x.p2 d =
      ((pvI c [] x).1, effsOf (pvI c [] x).2, drawAll c (idsOf (pvI c [] x).2) d) := by
  rw [← vrecC_nil c x.node x.path]
  exact vrecC_pv c [] x.node x.path x.pc x.p1 x.p2 d hd

theorem vRunTasks_spec (c : VCtx α) : ∀ (Q : List (VItem α)) (d : DrawSt α), Cons c d →
    vRunTasks c Q d = (cacheOf c Q, effsOf (taskEvs c Q), drawAll c (idsOf (taskEvs c Q)) d) := by
  intro Q
  induction Q with
  | nil => exact fun d _ => by simp [vRunTasks, cacheOf, taskEvs]
  | cons x Q ih =>
    intro d hd
    simp only [vRunTasks]
    rw [vrec_pv c x d hd]
    simp only
    rw [ih _ (hd.drawAll _)]
    simp [cacheOf, taskEvs, drawAll_append]

def rootItem (g : Game α) : VItem α := ⟨[], g.root, 1, 1, 1⟩

/-- **one multi-threaded traversal phase**: its accumulations are a rearrangement of those of the
plain traversal; its draw state is good, has sampled exactly the infosets the plain traversal
samples, and is untouched when nothing is sampled -/
theorem vanillaMultiEffects_spec (g : Game α) (c : VCtx α) (target : Nat) (log : List (DrawRec α)) :
    ((vanillaMultiEffects g c target log).1).Perm (effsOf (pvI c [] (rootItem g)).2) ∧
    Good c log (vanillaMultiEffects g c target log).2 ∧
    (∀ j, j ∈ keys (vanillaMultiEffects g c target log).2 ↔ j ∈ idsOf (pvI c [] (rootItem g)).2) ∧
    (c.sampled = false → (vanillaMultiEffects g c target log).2 = { log := log }) := by
  have hc0 : CutInv c (rootItem g) ([rootItem g] ++ []) :=
    ⟨fun x hx => by rw [List.mem_singleton.mp hx]; rfl, List.pairwise_singleton _ _⟩
  have hd0 : DInv c (rootItem g) log { log := log } { log := log } :=
    ⟨Good.init c log, fun j hj => absurd hj List.not_mem_nil, fun _ => rfl⟩
  obtain ⟨hc1, hg1, hk1, hf1⟩ := vThreshold_inv c (rootItem g) target log { log := log }
    (2 * g.root.size + 2) [⟨[], g.root, 1, 1, 1⟩] [] { log := log } hc0 hd0
  simp only [vanillaMultiEffects]
  -- the drained queue `Q` and the draw state `d1` the frontier loop leaves
  generalize vThreshold c target (2 * g.root.size + 2) [⟨[], g.root, 1, 1, 1⟩] [] { log := log } = T
    at hc1 hg1 hk1 hf1 ⊢
  obtain ⟨Q, W, d1⟩ := T
  obtain ⟨-, dp⟩ := cut_decomp c (rootItem g) Q (hc1.sublist (List.sublist_append_left _ _))
  dsimp only at hc1 hg1 hk1 hf1
  rw [vRunTasks_spec c Q d1 hg1.1]
  dsimp only
  rw [vrecC_pv c _ g.root [] 1 1 1 _ (hg1.1.drawAll _)]
  dsimp only
  rw [← effsOf_append, ← drawAll_append, ← idsOf_append]
  obtain ⟨g2, k2⟩ := hg1.drawAll (idsOf (taskEvs c Q ++ (pvI c (cacheOf c Q) (rootItem g)).2))
  refine ⟨effsOf_perm dp, g2, fun j => ?_, fun hs => ?_⟩
  · refine (k2 j).trans ?_
    rw [(idsOf_perm dp).mem_iff]
    exact ⟨fun h => h.elim (fun h => mem_idsOf.2 (hk1 j h)) id, Or.inr⟩
  · rw [idsOf_append, taskEvs_ids_full c hs, pv_ids_full c _ hs, hf1 hs]
    rfl

/-! ## one iteration, the whole solve -/

/-- one multi-threaded iteration against one single-threaded iteration started with a
rearranged log: same state, same bounds, rearranged log (the same log when nothing is sampled) -/
theorem vanillaMultiIterS_rel (sched : Sched α) (hs : sched.Fair) (g : Game α) (sampled : Bool)
    (p : RegretParams α) (draw : DrawFn α) (target it : Nat) (s : SolveSt α)
    (log log' : List (DrawRec α)) :
    (vanillaMultiIterS sched g sampled p draw target it s log).1
      = (vanillaIter g sampled p draw it s log').1 ∧
    (vanillaMultiIterS sched g sampled p draw target it s log).2.1
      = (vanillaIter g sampled p draw it s log').2.1 ∧
    (vanillaMultiIterS sched g sampled p draw target it s log).2.2.1
      = (vanillaIter g sampled p draw it s log').2.2.1 ∧
    (log.Perm log' → (vanillaMultiIterS sched g sampled p draw target it s log).2.2.2.Perm
      (vanillaIter g sampled p draw it s log').2.2.2) ∧
    (sampled = false → log = log' → (vanillaMultiIterS sched g sampled p draw target it s log).2.2.2
      = (vanillaIter g sampled p draw it s log').2.2.2) := by
  obtain ⟨e1, e2, e3, e4⟩ :=
    vanillaMultiEffects_spec g ⟨g.chance, sampled, s.strat, draw, it - 1⟩ target log
  have hv := vrec_pv ⟨g.chance, sampled, s.strat, draw, it - 1⟩ (rootItem g) { log := log' }
    (Good.init _ log').1
  have hst : s.applyEffs (sched it
      (vanillaMultiEffects g ⟨g.chance, sampled, s.strat, draw, it - 1⟩ target log).1)
      = s.applyEffs (effsOf (pvI ⟨g.chance, sampled, s.strat, draw, it - 1⟩ [] (rootItem g)).2) :=
    SolveSt.applyEffs_perm s ((hs it _).trans e1)
  unfold vanillaMultiIterS vanillaIter
  simp only
  rw [show vrec ⟨g.chance, sampled, s.strat, draw, it - 1⟩ g.root 1 1 1 { log := log' }
    = _ from hv, hst]
  refine ⟨rfl, rfl, rfl, ?_, ?_⟩
  · intro hl
    simp only
    obtain ⟨g2, k2⟩ := Good.drawAll (c := ⟨g.chance, sampled, s.strat, draw, it - 1⟩)
      (idsOf (pvI ⟨g.chance, sampled, s.strat, draw, it - 1⟩ [] (rootItem g)).2) (Good.init _ log')
    refine Good.log_perm e2 g2 ?_ hl
    intro j
    rw [e3, k2]
    simp [keys]
  · intro hf hl
    subst hf hl
    simp only
    rw [e4 rfl]
    unfold pvI
    rw [pv_ids_full _ _ rfl]
    rfl

end Van

end Cfr
