import CfrVerif.Model.Locks
/-!
# The pool's mutexes, generic part: hypotheses on the traces and the invariant they give

Two sets of hypotheses on the traces handed to the pool.  `PoolOK` is the crate's discipline: a
`try_lock`ed mutex is try-locked once and never `lock()`ed, every `lock()` is a leaf critical
section.  `PoolOK2` is what the argument really uses, and also covers harmless variants of the
crate (for instance `lock()` instead of `try_lock()` at the updating player's infosets, which are
visited once per pass): a mutex that is *acquired only once in the whole pass* is never contended,
whatever call acquires it and however long it is held; every other acquisition must be a blocking
`lock()` released by the thread's next operation.  `PoolOK.toPoolOK2` : the first is a special case.

`Inv` is the invariant of the configurations reachable from `LCfg.init ts` under
`PoolOK2 ts`; no panic, no deadlock and "all free at the end" are read off it.
-/
namespace Cfr
namespace Lk

def tryLocks : List LEv → List LockId
  | [] => []
  | .tryAcq l :: t => l :: tryLocks t
  | _ :: t => tryLocks t

def blockLocks : List LEv → List LockId
  | [] => []
  | .acq l :: t => l :: blockLocks t
  | _ :: t => blockLocks t

/-- every `lock()` is released by the next event of the trace -/
def LeafCS : List LEv → Prop
  | [] => True
  | .acq l :: .rel l' :: t => l = l' ∧ LeafCS t
  | .acq _ :: _ => False
  | _ :: t => LeafCS t

structure PoolOK (ts : List (List LEv)) : Prop where
  tryNodup : (ts.flatMap tryLocks).Nodup
  leaf : ∀ t ∈ ts, LeafCS t
  /-- a mutex that some task `try_lock`s is never `lock()`ed by any task -/
  disjoint : ∀ l ∈ ts.flatMap tryLocks, l ∉ ts.flatMap blockLocks
  /-- every acquisition is released later in the same trace -/
  released : ∀ t ∈ ts, ∀ pre post l,
    (t = pre ++ LEv.tryAcq l :: post ∨ t = pre ++ LEv.acq l :: post) → LEv.rel l ∈ post

/-- every acquisition is released later in the trace (recursive form of `PoolOK.released`) -/
def RelOK : List LEv → Prop
  | [] => True
  | .tryAcq l :: t => LEv.rel l ∈ t ∧ RelOK t
  | .acq l :: t => LEv.rel l ∈ t ∧ RelOK t
  | .rel _ :: t => RelOK t

/-- every mutex a trace acquires, with multiplicity -/
def acqLocks : List LEv → List LockId
  | [] => []
  | .tryAcq l :: t => l :: acqLocks t
  | .acq l :: t => l :: acqLocks t
  | .rel _ :: t => acqLocks t

/-- every acquisition in the trace is of a mutex acquired once in the pass (`all`: every
acquisition of the pass), or a `lock()` released by the next operation of the trace -/
def WideOK (all : List LockId) : List LEv → Prop
  | [] => True
  | .tryAcq l :: t => all.count l = 1 ∧ WideOK all t
  | .acq l :: t => (all.count l = 1 ∨ ∃ t', t = .rel l :: t') ∧ WideOK all t
  | .rel _ :: t => WideOK all t

structure PoolOK2 (ts : List (List LEv)) : Prop where
  wide : ∀ t ∈ ts, WideOK (ts.flatMap acqLocks) t
  released : ∀ t ∈ ts, RelOK t

/-! ## the predicates, one event at a time -/

@[simp] theorem tryLocks_nil : tryLocks [] = [] := rfl
@[simp] theorem tryLocks_tryAcq (l : LockId) (t : List LEv) :
    tryLocks (.tryAcq l :: t) = l :: tryLocks t := rfl
@[simp] theorem tryLocks_acq (l : LockId) (t : List LEv) : tryLocks (.acq l :: t) = tryLocks t := rfl
@[simp] theorem tryLocks_rel (l : LockId) (t : List LEv) : tryLocks (.rel l :: t) = tryLocks t := rfl
@[simp] theorem blockLocks_nil : blockLocks [] = [] := rfl
@[simp] theorem blockLocks_tryAcq (l : LockId) (t : List LEv) :
    blockLocks (.tryAcq l :: t) = blockLocks t := rfl
@[simp] theorem blockLocks_acq (l : LockId) (t : List LEv) :
    blockLocks (.acq l :: t) = l :: blockLocks t := rfl
@[simp] theorem blockLocks_rel (l : LockId) (t : List LEv) :
    blockLocks (.rel l :: t) = blockLocks t := rfl

@[simp] theorem tryLocks_append (a b : List LEv) : tryLocks (a ++ b) = tryLocks a ++ tryLocks b := by
  induction a with
  | nil => rfl
  | cons e a ih => cases e <;> simp [ih]

@[simp] theorem blockLocks_append (a b : List LEv) :
    blockLocks (a ++ b) = blockLocks a ++ blockLocks b := by
  induction a with
  | nil => rfl
  | cons e a ih => cases e <;> simp [ih]

@[simp] theorem LeafCS_nil : LeafCS [] = True := rfl
@[simp] theorem LeafCS_tryAcq (l : LockId) (t : List LEv) : LeafCS (.tryAcq l :: t) = LeafCS t := rfl
@[simp] theorem LeafCS_rel (l : LockId) (t : List LEv) : LeafCS (.rel l :: t) = LeafCS t := rfl
@[simp] theorem LeafCS_acq_rel (l l' : LockId) (t : List LEv) :
    LeafCS (.acq l :: .rel l' :: t) = (l = l' ∧ LeafCS t) := rfl

theorem LeafCS_acq {l : LockId} {rest : List LEv} (h : LeafCS (.acq l :: rest)) :
    ∃ t, rest = .rel l :: t ∧ LeafCS t := by
  cases rest with
  | nil => exact False.elim h
  | cons e t =>
    cases e with
    | tryAcq l' => exact False.elim h
    | acq l' => exact False.elim h
    | rel l' =>
      obtain ⟨rfl, h'⟩ : l = l' ∧ LeafCS t := h
      exact ⟨t, rfl, h'⟩

theorem LeafCS_append (a b : List LEv) (ha : LeafCS a) (hb : LeafCS b) : LeafCS (a ++ b) := by
  induction a with
  | nil => exact hb
  | cons e a ih =>
    cases e with
    | tryAcq l => exact ih ha
    | rel l => exact ih ha
    | acq l =>
      obtain ⟨t, rfl, ht⟩ := LeafCS_acq ha
      exact ⟨rfl, ih ht⟩

@[simp] theorem RelOK_nil : RelOK [] = True := rfl
@[simp] theorem RelOK_tryAcq (l : LockId) (t : List LEv) :
    RelOK (.tryAcq l :: t) = (LEv.rel l ∈ t ∧ RelOK t) := rfl
@[simp] theorem RelOK_acq (l : LockId) (t : List LEv) :
    RelOK (.acq l :: t) = (LEv.rel l ∈ t ∧ RelOK t) := rfl
@[simp] theorem RelOK_rel (l : LockId) (t : List LEv) : RelOK (.rel l :: t) = RelOK t := rfl

theorem RelOK_tail {e : LEv} {t : List LEv} (h : RelOK (e :: t)) : RelOK t := by
  cases e with
  | tryAcq l => exact (RelOK_tryAcq l t ▸ h).2
  | acq l => exact (RelOK_acq l t ▸ h).2
  | rel l => exact h

theorem RelOK_append (a b : List LEv) (ha : RelOK a) (hb : RelOK b) : RelOK (a ++ b) := by
  induction a with
  | nil => exact hb
  | cons e a ih =>
    cases e with
    | tryAcq l => exact ⟨List.mem_append_left b (RelOK_tryAcq l a ▸ ha).1, ih (RelOK_tail ha)⟩
    | acq l => exact ⟨List.mem_append_left b (RelOK_acq l a ▸ ha).1, ih (RelOK_tail ha)⟩
    | rel l => exact ih ha

theorem RelOK_iff (t : List LEv) : RelOK t ↔ ∀ pre post l,
    (t = pre ++ LEv.tryAcq l :: post ∨ t = pre ++ LEv.acq l :: post) → LEv.rel l ∈ post := by
  induction t with
  | nil => simp
  | cons e t ih =>
    constructor
    · intro h pre post l hl
      cases pre with
      | nil =>
        rcases hl with hl | hl
        · cases hl; exact (show LEv.rel l ∈ _ ∧ _ from h).1
        · cases hl; exact (show LEv.rel l ∈ _ ∧ _ from h).1
      | cons x pre =>
        exact ih.mp (RelOK_tail h) pre post l
          (hl.imp (fun h => (List.cons.inj h).2) (fun h => (List.cons.inj h).2))
    · intro h
      have ht : RelOK t := ih.mpr fun pre post l hl =>
        h (e :: pre) post l (hl.imp (congrArg (e :: ·)) (congrArg (e :: ·)))
      cases e with
      | tryAcq l => exact ⟨h [] t l (Or.inl rfl), ht⟩
      | acq l => exact ⟨h [] t l (Or.inr rfl), ht⟩
      | rel l => exact ht

theorem WideOK_tail {all : List LockId} {e : LEv} {t : List LEv} (h : WideOK all (e :: t)) :
    WideOK all t := by
  cases e with
  | tryAcq l => exact (show _ ∧ WideOK all t from h).2
  | acq l => exact (show _ ∧ WideOK all t from h).2
  | rel l => exact h

theorem count_acqLocks (l : LockId) (t : List LEv) :
    (acqLocks t).count l = (tryLocks t).count l + (blockLocks t).count l := by
  induction t with
  | nil => rfl
  | cons e t ih =>
    cases e with
    | tryAcq l' =>
      rw [show acqLocks (.tryAcq l' :: t) = l' :: acqLocks t from rfl, tryLocks_tryAcq,
        blockLocks_tryAcq, List.count_cons, List.count_cons, ih, Nat.add_right_comm]
    | acq l' =>
      rw [show acqLocks (.acq l' :: t) = l' :: acqLocks t from rfl, tryLocks_acq,
        blockLocks_acq, List.count_cons, List.count_cons, ih, Nat.add_assoc]
    | rel l' => exact ih

theorem count_flatMap_acqLocks (l : LockId) (ts : List (List LEv)) :
    (ts.flatMap acqLocks).count l =
      (ts.flatMap tryLocks).count l + (ts.flatMap blockLocks).count l := by
  induction ts with
  | nil => rfl
  | cons t ts ih =>
    simp only [List.flatMap_cons, List.count_append, ih, count_acqLocks]
    omega

theorem wideOK_of_leaf (all : List LockId) (t : List LEv) (h1 : LeafCS t)
    (h2 : ∀ l ∈ tryLocks t, all.count l = 1) : WideOK all t := by
  induction t with
  | nil => trivial
  | cons e t ih =>
    cases e with
    | tryAcq l =>
      exact ⟨h2 l List.mem_cons_self, ih h1 fun l' hl' => h2 l' (List.mem_cons_of_mem _ hl')⟩
    | rel l => exact ih h1 h2
    | acq l =>
      obtain ⟨t', rfl, ht'⟩ := LeafCS_acq h1
      exact ⟨Or.inr ⟨t', rfl⟩, ih ht' h2⟩

theorem PoolOK.toPoolOK2 {ts : List (List LEv)} (h : PoolOK ts) : PoolOK2 ts := by
  refine ⟨fun t ht => wideOK_of_leaf _ t (h.leaf t ht) (fun l hl => ?_),
    fun t ht => (RelOK_iff t).mpr (h.released t ht)⟩
  have hl' : l ∈ ts.flatMap tryLocks := List.mem_flatMap.mpr ⟨t, ht, hl⟩
  rw [count_flatMap_acqLocks, List.count_eq_zero_of_not_mem (h.disjoint l hl')]
  have h1 := List.nodup_iff_count.mp h.tryNodup l
  have h2 := List.count_pos_iff.mpr hl'
  omega

/-! ## lists: replacing one entry -/

theorem flatMap_set {β γ : Type} (f : β → List γ) (l : List β) (j : Nat) (x y : β)
    (h : l[j]? = some x) :
    ∃ X Y, l.flatMap f = X ++ (f x ++ Y) ∧ (l.set j y).flatMap f = X ++ (f y ++ Y) := by
  induction l generalizing j with
  | nil => cases h
  | cons a l ih =>
    cases j with
    | zero => cases h; exact ⟨[], l.flatMap f, rfl, rfl⟩
    | succ j =>
      obtain ⟨X, Y, h1, h2⟩ := ih j h
      exact ⟨f a ++ X, Y, by rw [List.flatMap_cons, h1, List.append_assoc],
        by rw [List.set_cons_succ, List.flatMap_cons, h2, List.append_assoc]⟩

theorem mem_set_tail {tasks : List (List LEv)} {j : Nat} {e : LEv} {rest t : List LEv}
    (_hj : tasks[j]? = some (e :: rest)) (ht : t ∈ tasks.set j rest) : t ∈ tasks ∨ t = rest :=
  List.mem_or_eq_of_mem_set ht

/-! ## the steps -/

theorem isHeld_eq_true_iff (cfg : LCfg) (l : LockId) :
    cfg.isHeld l = true ↔ ∃ k, (l, k) ∈ cfg.held := by
  unfold LCfg.isHeld
  rw [List.any_eq_true]
  constructor
  · rintro ⟨⟨l', k⟩, hx, hxl⟩
    cases beq_iff_eq.mp hxl
    exact ⟨k, hx⟩
  · rintro ⟨k, hk⟩
    exact ⟨(l, k), hk, beq_self_eq_true l⟩

theorem isHeld_eq_false_iff (cfg : LCfg) (l : LockId) :
    cfg.isHeld l = false ↔ ∀ k, (l, k) ∉ cfg.held := by
  rw [← Bool.not_eq_true, isHeld_eq_true_iff, not_exists]

theorem lstep_tryAcq {cfg : LCfg} {j : Nat} {l : LockId} {rest : List LEv}
    (h : cfg.tasks[j]? = some (.tryAcq l :: rest)) :
    lstep cfg j = if cfg.isHeld l then .panic else .ok ⟨cfg.tasks.set j rest, (l, j) :: cfg.held⟩ := by
  unfold lstep; rw [h]

theorem lstep_acq {cfg : LCfg} {j : Nat} {l : LockId} {rest : List LEv}
    (h : cfg.tasks[j]? = some (.acq l :: rest)) :
    lstep cfg j = if cfg.isHeld l then .blocked else .ok ⟨cfg.tasks.set j rest, (l, j) :: cfg.held⟩ := by
  unfold lstep; rw [h]

theorem lstep_rel {cfg : LCfg} {j : Nat} {l : LockId} {rest : List LEv}
    (h : cfg.tasks[j]? = some (.rel l :: rest)) :
    lstep cfg j = .ok ⟨cfg.tasks.set j rest,
      cfg.held.filter (fun h => !(h.1 == l && h.2 == j))⟩ := by
  unfold lstep; rw [h]

theorem lstep_idle {cfg : LCfg} {j : Nat} (h : cfg.tasks[j]? = none ∨ cfg.tasks[j]? = some []) :
    lstep cfg j = .idle := by
  unfold lstep; rcases h with h | h <;> rw [h]

/-- the successful steps: task `j` executes the head `e` of its trace; an acquisition makes it a
holder, a release removes it from the holders -/
theorem lstep_ok {cfg cfg' : LCfg} {j : Nat} (h : lstep cfg j = .ok cfg') :
    ∃ e rest, cfg.tasks[j]? = some (e :: rest) ∧ cfg'.tasks = cfg.tasks.set j rest ∧
      ((∃ l, (e = .tryAcq l ∨ e = .acq l) ∧ cfg'.held = (l, j) :: cfg.held) ∨
       (∃ l, e = .rel l ∧ cfg'.held = cfg.held.filter (fun h => !(h.1 == l && h.2 == j)))) := by
  cases hj : cfg.tasks[j]? with
  | none => rw [lstep_idle (Or.inl hj)] at h; cases h
  | some t =>
    cases t with
    | nil => rw [lstep_idle (Or.inr hj)] at h; cases h
    | cons e rest =>
      refine ⟨e, rest, rfl, ?_⟩
      cases e with
      | tryAcq l =>
        rw [lstep_tryAcq hj] at h
        split at h
        · cases h
        · cases h; exact ⟨rfl, Or.inl ⟨l, Or.inl rfl, rfl⟩⟩
      | acq l =>
        rw [lstep_acq hj] at h
        split at h
        · cases h
        · cases h; exact ⟨rfl, Or.inl ⟨l, Or.inr rfl, rfl⟩⟩
      | rel l =>
        rw [lstep_rel hj] at h
        cases h; exact ⟨rfl, Or.inr ⟨l, rfl, rfl⟩⟩

/-- the only step that panics is a `try_lock` of a held mutex -/
theorem lstep_panic {cfg : LCfg} {j : Nat} (h : lstep cfg j = .panic) :
    ∃ l rest, cfg.tasks[j]? = some (.tryAcq l :: rest) ∧ cfg.isHeld l = true := by
  cases hj : cfg.tasks[j]? with
  | none => rw [lstep_idle (Or.inl hj)] at h; cases h
  | some t =>
    cases t with
    | nil => rw [lstep_idle (Or.inr hj)] at h; cases h
    | cons e rest =>
      cases e with
      | tryAcq l =>
        rw [lstep_tryAcq hj] at h
        split at h
        · rename_i hh; exact ⟨l, rest, rfl, hh⟩
        · cases h
      | acq l => rw [lstep_acq hj] at h; split at h <;> cases h
      | rel l => rw [lstep_rel hj] at h; cases h

theorem exists_event_of_not_finished {cfg : LCfg} (hf : ¬ cfg.finished = true) :
    ∃ (j : Nat) (e : LEv) (rest : List LEv), cfg.tasks[j]? = some (e :: rest) := by
  unfold LCfg.finished at hf
  rw [List.all_eq_true, Classical.not_forall] at hf
  obtain ⟨t, ht⟩ := hf
  obtain ⟨ht, hte⟩ := Classical.not_imp.mp ht
  obtain ⟨j, hj⟩ := List.getElem?_of_mem ht
  cases t with
  | nil => exact absurd rfl hte
  | cons e rest => exact ⟨j, e, rest, hj⟩

/-! ## the invariant -/

/-- what the holder `k` of the mutex `l` owes -/
structure Owes (all : List LockId) (cfg : LCfg) (l : LockId) (k : Nat) : Prop where
  /-- a mutex acquired more than once in the pass is released with the holder's next step -/
  next : all.count l ≠ 1 → ∃ rest, cfg.tasks[k]? = some (.rel l :: rest)
  /-- every mutex is released by its holder some time -/
  willRel : ∃ t, cfg.tasks[k]? = some t ∧ LEv.rel l ∈ t

/-- what holds in every configuration reachable from `LCfg.init ts` when `PoolOK2 ts`
(`all = ts.flatMap acqLocks`) -/
structure Inv (all : List LockId) (cfg : LCfg) : Prop where
  /-- acquisitions still to come and mutexes held, together, are among the acquisitions of the pass -/
  cnt : ∀ l, (cfg.tasks.flatMap acqLocks).count l + (cfg.held.map Prod.fst).count l ≤ all.count l
  wide : ∀ t ∈ cfg.tasks, WideOK all t
  owes : ∀ l k, (l, k) ∈ cfg.held → Owes all cfg l k
  relOK : ∀ t ∈ cfg.tasks, RelOK t

theorem Inv.init {ts : List (List LEv)} (h : PoolOK2 ts) :
    Inv (ts.flatMap acqLocks) (LCfg.init ts) where
  cnt := fun _ => Nat.le_refl _
  wide := h.wide
  owes := fun _ _ hk => nomatch hk
  relOK := h.released

theorem Inv.step {all : List LockId} {cfg cfg' : LCfg} {j : Nat} (hI : Inv all cfg)
    (h : lstep cfg j = .ok cfg') : Inv all cfg' := by
  obtain ⟨e, rest, hj, htasks, hcase⟩ := lstep_ok h
  have hmem : (e :: rest) ∈ cfg.tasks := List.mem_of_getElem? hj
  have hget : ∀ k, cfg'.tasks[k]? = if j = k then some rest else cfg.tasks[k]? := by
    intro k
    rw [htasks, List.getElem?_set, if_pos (List.getElem?_eq_some_iff.mp hj).1]
  have hmem' : ∀ t ∈ cfg'.tasks, t ∈ cfg.tasks ∨ t = rest := fun t ht =>
    List.mem_or_eq_of_mem_set (htasks ▸ ht)
  have hwide : ∀ t ∈ cfg'.tasks, WideOK all t := fun t ht =>
    (hmem' t ht).elim (hI.wide t) fun ht => ht ▸ WideOK_tail (hI.wide _ hmem)
  have hrelOK : ∀ t ∈ cfg'.tasks, RelOK t := fun t ht =>
    (hmem' t ht).elim (hI.relOK t) fun ht => ht ▸ RelOK_tail (hI.relOK _ hmem)
  obtain ⟨X, Y, hX, hX'⟩ := flatMap_set acqLocks cfg.tasks j _ rest hj
  rw [← htasks] at hX'
  -- a holder that does not release with this step owes what it owed
  have hold : ∀ l k, (l, k) ∈ cfg.held → ¬ (e = .rel l ∧ j = k) → Owes all cfg' l k := by
    intro l k hk hne
    by_cases hjk : j = k
    · subst hjk
      have hel : ¬ LEv.rel l = e := fun he => hne ⟨he.symm, rfl⟩
      obtain ⟨t, ht, hr⟩ := (hI.owes l j hk).willRel
      cases hj.symm.trans ht
      refine ⟨fun hn => ?_, rest, by rw [hget, if_pos rfl], (List.mem_cons.mp hr).resolve_left hel⟩
      obtain ⟨r, hr'⟩ := (hI.owes l j hk).next hn
      cases hj.symm.trans hr'
      exact absurd rfl hel
    · have := hI.owes l k hk
      exact ⟨fun hn => by rw [hget, if_neg hjk]; exact this.next hn,
        by rw [hget, if_neg hjk]; exact this.willRel⟩
  rcases hcase with ⟨l, he, hheld⟩ | ⟨l, rfl, hheld⟩
  · -- `try_lock` or `lock`: the new holder `(l, j)` owes what its trace promises
    have hacq : acqLocks (e :: rest) = l :: acqLocks rest ∧ LEv.rel l ∈ rest ∧
        (all.count l = 1 ∨ ∃ t', rest = .rel l :: t') := by
      rcases he with rfl | rfl
      · exact ⟨rfl, (hI.relOK _ hmem).1, Or.inl (hI.wide _ hmem).1⟩
      · exact ⟨rfl, (hI.relOK _ hmem).1, (hI.wide _ hmem).1⟩
    refine ⟨fun l' => ?_, hwide, fun l' k hk => ?_, hrelOK⟩
    · have hc := hI.cnt l'
      rw [hX, hacq.1] at hc
      rw [hX', hheld]
      simp only [List.count_append, List.count_cons, List.map_cons] at hc ⊢
      omega
    · rw [hheld] at hk
      rcases List.mem_cons.mp hk with hk | hk
      · cases hk
        refine ⟨fun hn => ?_, rest, by rw [hget, if_pos rfl], hacq.2.1⟩
        obtain ⟨t', rfl⟩ := hacq.2.2.resolve_left hn
        exact ⟨t', by rw [hget, if_pos rfl]⟩
      · exact hold l' k hk fun hr => by rcases he with rfl | rfl <;> cases hr.1
  · -- the guard is dropped: the holders that remain are not released by this step
    refine ⟨fun l' => ?_, hwide, fun l' k hk => ?_, hrelOK⟩
    · have hc := hI.cnt l'
      rw [hX] at hc
      rw [hX', hheld]
      have hle := (List.filter_sublist (p := fun h => !(h.1 == l && h.2 == j))
        (l := cfg.held) |>.map Prod.fst).count_le l'
      simp only [List.count_append] at hc ⊢
      exact Nat.le_trans (Nat.add_le_add_left hle _) hc
    · rw [hheld, List.mem_filter] at hk
      refine hold l' k hk.1 fun ⟨h1, h2⟩ => ?_
      cases h1; subst h2
      simp at hk

theorem Inv.reach {all : List LockId} {a cfg : LCfg} {n : Nat} (ha : Inv all a)
    (hr : LReach a n cfg) : Inv all cfg := by
  induction hr with
  | refl => exact ha
  | step j _ hs ih => exact ih.step hs

/-- a mutex that is held while an acquisition of it is still to come is acquired more than once -/
theorem Inv.contended {all : List LockId} {cfg : LCfg} (hI : Inv all cfg) {l : LockId} {k : Nat}
    (hk : (l, k) ∈ cfg.held) (hl : l ∈ cfg.tasks.flatMap acqLocks) : all.count l ≠ 1 := by
  have h1 : 0 < (cfg.tasks.flatMap acqLocks).count l := List.count_pos_iff.mpr hl
  have h2 : 0 < (cfg.held.map Prod.fst).count l :=
    List.count_pos_iff.mpr (List.mem_map.mpr ⟨(l, k), hk, rfl⟩)
  have := hI.cnt l
  omega

theorem Inv.no_panic {all : List LockId} {cfg : LCfg} (hI : Inv all cfg) (j : Nat) :
    lstep cfg j ≠ LOut.panic := by
  intro hp
  obtain ⟨l, rest, hj, hh⟩ := lstep_panic hp
  obtain ⟨k, hk⟩ := (isHeld_eq_true_iff cfg l).mp hh
  have hmem := List.mem_of_getElem? hj
  exact hI.contended hk (List.mem_flatMap.mpr ⟨_, hmem, List.mem_cons_self⟩) (hI.wide _ hmem).1

theorem Inv.no_deadlock {all : List LockId} {cfg : LCfg} (hI : Inv all cfg) :
    cfg.finished = true ∨ ∃ j cfg', lstep cfg j = LOut.ok cfg' := by
  refine Classical.or_iff_not_imp_left.mpr fun hf => ?_
  obtain ⟨j, e, rest, hj⟩ := exists_event_of_not_finished hf
  cases e with
  | rel l => exact ⟨j, _, lstep_rel hj⟩
  | tryAcq l =>
    by_cases hh : cfg.isHeld l = true
    · exact absurd (by rw [lstep_tryAcq hj, if_pos hh]) (hI.no_panic j)
    · exact ⟨j, _, by rw [lstep_tryAcq hj, if_neg hh]⟩
  | acq l =>
    by_cases hh : cfg.isHeld l = true
    · -- whoever holds `l` is not waiting: its next step drops the guard
      obtain ⟨k, hk⟩ := (isHeld_eq_true_iff cfg l).mp hh
      have hn := hI.contended hk
        (List.mem_flatMap.mpr ⟨_, List.mem_of_getElem? hj, List.mem_cons_self⟩)
      obtain ⟨r, hr⟩ := (hI.owes l k hk).next hn
      exact ⟨k, _, lstep_rel hr⟩
    · exact ⟨j, _, by rw [lstep_acq hj, if_neg hh]⟩

theorem Inv.finished_all_free {all : List LockId} {cfg : LCfg} (hI : Inv all cfg)
    (hf : cfg.finished = true) : cfg.held = [] := by
  cases hh : cfg.held with
  | nil => rfl
  | cons x xs =>
    obtain ⟨t, ht, hr⟩ := (hI.owes x.1 x.2 (hh ▸ List.mem_cons_self)).willRel
    have := List.all_eq_true.mp hf t (List.mem_of_getElem? ht)
    cases t with
    | nil => cases hr
    | cons _ _ => cases this

theorem Inv.lrun_isSome {all : List LockId} :
    ∀ (sch : List Nat) {cfg : LCfg}, Inv all cfg → (lrun cfg sch).isSome = true
  | [], cfg, _ => rfl
  | j :: js, cfg, hI => by
    unfold lrun
    split
    · rename_i cfg' hs
      exact Inv.lrun_isSome js (hI.step hs)
    · rename_i hs
      exact absurd hs (hI.no_panic j)
    · exact Inv.lrun_isSome js hI
    · exact Inv.lrun_isSome js hI

/-! ## the interleaving theorems under the wider hypotheses -/

theorem no_panic2 {ts : List (List LEv)} (h : PoolOK2 ts) {n : Nat} {cfg : LCfg}
    (hr : LReach (LCfg.init ts) n cfg) (j : Nat) : lstep cfg j ≠ LOut.panic :=
  ((Inv.init h).reach hr).no_panic j

theorem no_deadlock2 {ts : List (List LEv)} (h : PoolOK2 ts) {n : Nat} {cfg : LCfg}
    (hr : LReach (LCfg.init ts) n cfg) :
    cfg.finished = true ∨ ∃ j cfg', lstep cfg j = LOut.ok cfg' :=
  ((Inv.init h).reach hr).no_deadlock

theorem finished_all_free2 {ts : List (List LEv)} (h : PoolOK2 ts) {n : Nat} {cfg : LCfg}
    (hr : LReach (LCfg.init ts) n cfg) (hf : cfg.finished = true) : cfg.held = [] :=
  ((Inv.init h).reach hr).finished_all_free hf

/-! ## every step executes one event -/

theorem step_remaining {cfg cfg' : LCfg} {j : Nat} (h : lstep cfg j = .ok cfg') :
    cfg'.remaining + 1 = cfg.remaining := by
  obtain ⟨e, rest, hj, htasks, _⟩ := lstep_ok h
  obtain ⟨X, Y, hX, hX'⟩ := flatMap_set id cfg.tasks j _ rest hj
  unfold LCfg.remaining
  rw [htasks, ← List.length_flatten, ← List.length_flatten, List.flatten_eq_flatMap,
    List.flatten_eq_flatMap, hX, hX']
  simp only [List.length_append, id, List.length_cons]
  omega

theorem reach_remaining {a cfg : LCfg} {n : Nat} (hr : LReach a n cfg) :
    n + cfg.remaining = a.remaining := by
  induction hr with
  | refl => exact Nat.zero_add _
  | step j _ hs ih =>
    have := step_remaining hs
    omega

end Lk
end Cfr
