import CfrVerif.Proofs.TreeInd
import CfrVerif.Proofs.TablesOK
import CfrVerif.Proofs.Trajectory
import CfrVerif.Props.C01
import CfrVerif.Props.C09
/-!
# Helper lemmas for C12, part 3 (payoff shift, exchange of the players)

Over an ordered field.  Exchanged players (`Game.swap`): expected payoffs change sign, the
best-response values change sides, one unsampled traversal, one iteration and the solver loop on
the mirrored state give the mirror image (`vrec_swap`, `vanillaIter_swap`, `solveLoop_swap`).
Payoffs shifted by `k` (`Game.mapPay (· + k)`): the game stays well formed, expected payoffs and
best-response values move by `k`, and one unsampled traversal returns a value moved by `k` while
adding the same total to every accumulator cell (`vrec_shift`).  Effect lists with equal totals
at every cell give equal states (`applyEffs_congr`); step functions that agree on an invariant
give equal loops (`solveLoop_congr`).

Over `ℝ` only, where the state invariant `StOK` lives: one iteration on the shifted game is one on
the original (`vanillaIter_shift`), and a negative average-strategy exponent may be replaced by
`0` (`RegretParams.clampStrat`, `vanillaIter_clamp`).
-/
set_option linter.unusedSectionVars false
set_option linter.unusedSimpArgs false
set_option linter.unusedVariables false
namespace Cfr

section Swap
variable {α : Type} [Field α] [LinearOrder α] [IsStrictOrderedRing α]

/-! ## evaluation of the mirrored game -/

theorem expected_swap (ch : List (List α)) (σ : Bool → Strat α) (n : Node α) :
    expected ch (fun one => σ (!one)) n.swap = - expected ch σ n := by
  rw [← neg_one_mul]
  induction n using Node.induct with
  | term p => simp only [Node.swap, expected, neg_one_mul]
  | chance i ks ih =>
    simp only [Node.swap_chance, expected]; exact expectedL_map_smul (-1) _ false ih _
  | player one i ks ih =>
    simp only [Node.swap_player, expected, Bool.not_not]; exact expectedL_map_smul (-1) _ true ih _

theorem expectedL_swap (ch : List (List α)) (σ : Bool → Strat α) (skip : Bool) :
    ∀ (ps : List α) (ks : List (Node α)),
      expectedL ch (fun one => σ (!one)) skip ps (Node.swapL ks) = - expectedL ch σ skip ps ks := by
  intro ps ks
  rw [Node.swapL_eq_map, ← neg_one_mul]
  exact expectedL_map_smul (-1) _ skip (fun k _ => by rw [neg_one_mul]; exact expected_swap ch σ k) ps

mutual
theorem view_swap (ch : List (List α)) (σo : Strat α) (me : Bool) :
    ∀ n : Node α, view ch σo me n.swap = view ch σo (!me) n
  | .term p => by cases me <;> simp [Node.swap, view]
  | .chance i ks => by
    simp only [Node.swap, view, viewL_swap ch σo me ks]
  | .player one i ks => by
    cases one <;> cases me <;> simp [Node.swap, view, viewL_swap ch σo _ ks]
theorem viewL_swap (ch : List (List α)) (σo : Strat α) (me : Bool) :
    ∀ ks : List (Node α), viewL ch σo me (Node.swapL ks) = viewL ch σo (!me) ks
  | [] => rfl
  | k :: ks => by simp only [Node.swapL, viewL, view_swap ch σo me k, viewL_swap ch σo me ks]
end

theorem infos_swap (g : Game α) (me : Bool) : g.swap.infos me = g.infos (!me) := by
  cases me <;> rfl

theorem optimalDeviations_swap (g : Game α) (me : Bool) (σo : Strat α) :
    optimalDeviations g.swap me σo = optimalDeviations g (!me) σo := by
  unfold optimalDeviations
  rw [infos_swap]
  show bestResponse _ _ (view g.chance σo me g.root.swap) = _
  rw [view_swap]

/-! ## the traversal of the mirrored game -/

def Eff.flip (e : Eff α) : Eff α := { e with one := !e.one }

def SolveSt.mirror (s : SolveSt α) : SolveSt α := ⟨s.two, s.one⟩

def VCtx.mirror (c : VCtx α) : VCtx α := { c with strat := fun one => c.strat (!one) }

theorem stratEffs_flip (one : Bool) (i : Nat) (own : α) :
    ∀ (σ : List α) (a : Nat),
      stratEffs (!one) i own σ a = (stratEffs one i own σ a).map Eff.flip
  | [], _ => rfl
  | s :: σ, a => by
    simp only [stratEffs, List.map_cons, stratEffs_flip one i own σ (a + 1), Eff.flip]

theorem subEffs_flip (one : Bool) (i : Nat) (sub : α) (n : Nat) :
    subEffs (!one) i sub n = (subEffs one i sub n).map Eff.flip := by
  simp only [subEffs, List.map_map, Function.comp_def, Eff.flip]

section loops
variable (c : VCtx α) {ks : List (Node α)}
  (h : ∀ k ∈ ks, ∀ pc p1 p2 d, vrec c.mirror k.swap pc p2 p1 d
    = (-(vrec c k pc p1 p2 d).1, (vrec c k pc p1 p2 d).2.1.map Eff.flip, (vrec c k pc p1 p2 d).2.2))
include h

theorem vrecChance_map_swap (ps : List α) (pc p1 p2 : α) (d : DrawSt α) (acc : α) :
    vrecChance c.mirror ps (ks.map Node.swap) pc p2 p1 d (-acc)
      = (-(vrecChance c ps ks pc p1 p2 d acc).1,
          (vrecChance c ps ks pc p1 p2 d acc).2.1.map Eff.flip,
          (vrecChance c ps ks pc p1 p2 d acc).2.2) := by
  induction ks generalizing ps d acc with
  | nil => simp only [List.map_nil, vrecChance_nil_right]
  | cons k ks ih =>
    rw [List.forall_mem_cons] at h
    cases ps with
    | nil => simp only [vrecChance, List.map_nil]
    | cons p ps =>
      simp only [List.map_cons, vrecChance_cons, h.1, mul_neg, ← neg_add, ih h.2, List.map_append]

theorem vrecActs_map_swap (one : Bool) (i : Nat) (mult : α) (ss : List α) (pc p1 p2 : α)
    (d : DrawSt α) (a : Nat) (eo ex : α) :
    vrecActs c.mirror (!one) i (-mult) ss (ks.map Node.swap) pc p2 p1 d a (-eo) ex
      = (-(vrecActs c one i mult ss ks pc p1 p2 d a eo ex).1,
          (vrecActs c one i mult ss ks pc p1 p2 d a eo ex).2.1,
          (vrecActs c one i mult ss ks pc p1 p2 d a eo ex).2.2.1.map Eff.flip,
          (vrecActs c one i mult ss ks pc p1 p2 d a eo ex).2.2.2) := by
  induction ks generalizing ss d a eo ex with
  | nil => simp only [List.map_nil, vrecActs_nil_right]
  | cons k ks ih =>
    rw [List.forall_mem_cons] at h
    cases ss with
    | nil => simp only [vrecActs_nil_left, List.map_nil]
    | cons s ss =>
      have e1 : (if (!one) = true then p2 * s else p2) = if one = true then p2 else p2 * s := by
        cases one <;> rfl
      have e2 : (if (!one) = true then p1 else p1 * s) = if one = true then p1 * s else p1 := by
        cases one <;> rfl
      simp only [List.map_cons, vrecActs_cons', e1, e2, h.1, mul_neg, neg_mul, neg_neg, ← neg_add,
        ih h.2, List.map_append, List.map_cons, Eff.flip]
end loops

theorem vrec_swap (c : VCtx α) (hs : c.sampled = false) (n : Node α) :
    ∀ (pc p1 p2 : α) (d : DrawSt α),
      vrec c.mirror n.swap pc p2 p1 d
        = (-(vrec c n pc p1 p2 d).1, (vrec c n pc p1 p2 d).2.1.map Eff.flip, (vrec c n pc p1 p2 d).2.2) := by
  induction n using Node.induct with
  | term p => intro pc p1 p2 d; simp only [Node.swap, vrec_term, List.map_nil]
  | chance i ks ih =>
    intro pc p1 p2 d
    have := vrecChance_map_swap c ih (c.ch.getD i []) pc p1 p2 d 0
    rw [neg_zero] at this
    rw [Node.swap_chance, vrec_chance c hs, vrec_chance c.mirror hs]
    exact this
  | player one i ks ih =>
    intro pc p1 p2 d
    have := vrecActs_map_swap c ih one i (if one = true then pc * p2 else -p1 * pc) (c.strat one i)
      pc p1 p2 d 0 0 0
    rw [neg_zero] at this
    have hm : (if (!one) = true then pc * p1 else -p2 * pc)
        = -(if one = true then pc * p2 else -p1 * pc) := by
      cases one <;>
      simp only [Bool.not_false, Bool.not_true, if_true, Bool.false_eq_true, if_false, neg_mul,
        neg_neg, mul_comm pc]
    have ho : (if (!one) = true then p2 else p1) = (if one = true then p1 else p2) := by
      cases one <;> rfl
    have hσ : c.mirror.strat (!one) i = c.strat one i := by
      simp only [VCtx.mirror, Bool.not_not]
    simp only [Node.swap_player, vrec_player, hσ, hm, ho, this, stratEffs_flip, subEffs_flip,
      List.map_append]

theorem vrecChance_swap (c : VCtx α) (hs : c.sampled = false) :
    ∀ (ps : List α) (ks : List (Node α)) (pc p1 p2 : α) (d : DrawSt α) (acc : α),
      vrecChance c.mirror ps (Node.swapL ks) pc p2 p1 d (-acc)
        = (-(vrecChance c ps ks pc p1 p2 d acc).1,
            (vrecChance c ps ks pc p1 p2 d acc).2.1.map Eff.flip,
            (vrecChance c ps ks pc p1 p2 d acc).2.2) := by
  intro ps ks
  rw [Node.swapL_eq_map]
  exact vrecChance_map_swap c (fun k _ => vrec_swap c hs k) ps
theorem vrecActs_swap (c : VCtx α) (hs : c.sampled = false) (one : Bool) (i : Nat) (mult : α) :
    ∀ (ss : List α) (ks : List (Node α)) (pc p1 p2 : α) (d : DrawSt α) (a : Nat) (eo ex : α),
      vrecActs c.mirror (!one) i (-mult) ss (Node.swapL ks) pc p2 p1 d a (-eo) ex
        = (-(vrecActs c one i mult ss ks pc p1 p2 d a eo ex).1,
            (vrecActs c one i mult ss ks pc p1 p2 d a eo ex).2.1,
            (vrecActs c one i mult ss ks pc p1 p2 d a eo ex).2.2.1.map Eff.flip,
            (vrecActs c one i mult ss ks pc p1 p2 d a eo ex).2.2.2) := by
  intro ss ks
  rw [Node.swapL_eq_map]
  exact vrecActs_map_swap c (fun k _ => vrec_swap c hs k) one i mult ss
/-! ## states -/

theorem applyEff_mirror (s : SolveSt α) (e : Eff α) :
    s.mirror.applyEff e.flip = (s.applyEff e).mirror := by
  obtain ⟨o, i, sl, a, d⟩ := e
  cases o <;> simp [SolveSt.applyEff, SolveSt.set, SolveSt.get, SolveSt.mirror, Eff.flip]

theorem applyEffs_mirror : ∀ (es : List (Eff α)) (s : SolveSt α),
    s.mirror.applyEffs (es.map Eff.flip) = (s.applyEffs es).mirror
  | [], s => rfl
  | e :: es, s => by
    have h1 : s.mirror.applyEffs ((e :: es).map Eff.flip)
        = (s.mirror.applyEff e.flip).applyEffs (es.map Eff.flip) := rfl
    have h2 : s.applyEffs (e :: es) = (s.applyEff e).applyEffs es := rfl
    rw [h1, h2, applyEff_mirror, applyEffs_mirror es]

theorem strat_mirror (s : SolveSt α) : s.mirror.strat = fun one => s.strat (!one) := by
  funext one i
  cases one <;> rfl

theorem vanillaIter_swap [Transc α] (g : Game α) (p : RegretParams α) (draw : DrawFn α) (it : Nat)
    (s : SolveSt α) (log : List (DrawRec α)) :
    vanillaIter g.swap false p draw it s.mirror log
      = ((vanillaIter g false p draw it s log).1.mirror, (vanillaIter g false p draw it s log).2.2.1,
          (vanillaIter g false p draw it s log).2.1, (vanillaIter g false p draw it s log).2.2.2) := by
  have hc : (⟨g.swap.chance, false, s.mirror.strat, draw, it - 1⟩ : VCtx α)
      = (⟨g.chance, false, s.strat, draw, it - 1⟩ : VCtx α).mirror := by
    rw [strat_mirror]; rfl
  have hr : g.swap.root = g.root.swap := rfl
  simp only [vanillaIter]
  rw [hc, hr, vrec_swap _ rfl]
  simp only [applyEffs_mirror]
  rfl

theorem belowThreshold_comm (r1 r2 : α) (thr : Option (Ext α)) :
    belowThreshold r2 r1 thr = belowThreshold r1 r2 thr := by
  unfold belowThreshold
  rw [fmax_eq_max, fmax_eq_max, max_comm]

theorem solveLoop_swap [Transc α] (step step' : IterFn α) (thr : Option (Ext α))
    (h : ∀ it s log, step' it s.mirror log
      = ((step it s log).1.mirror, (step it s log).2.2.1, (step it s log).2.1, (step it s log).2.2.2)) :
    ∀ (n it : Nat) (s : SolveSt α) (r1 r2 : Ext α) (log : List (DrawRec α)),
      solveLoop step' thr n it s.mirror r2 r1 log = (solveLoop step thr n it s r1 r2 log).swap
  | 0, it, s, r1, r2, log => by
    simp only [solveLoop]
    rfl
  | n + 1, it, s, r1, r2, log => by
    rw [solveLoop_succ, solveLoop_succ, h]
    simp only []
    rw [belowThreshold_comm]
    split_ifs
    · rfl
    · exact solveLoop_swap step step' thr h n (it + 1) _ _ _ _

end Swap

section Shift
variable {α : Type} [Field α] [LinearOrder α] [IsStrictOrderedRing α]

/-! ## the shifted game is as well formed as the original one -/

theorem chance_mapPay (f : α → α) (g : Game α) : (g.mapPay f).chance = g.chance := rfl
theorem infos_mapPay (f : α → α) (g : Game α) (one : Bool) : (g.mapPay f).infos one = g.infos one := rfl
theorem root_mapPay (f : α → α) (g : Game α) : (g.mapPay f).root = g.root.mapPay f := rfl

theorem nodeOK_mapPay (f : α → α) (g : Game α) (n : Node α) :
    NodeOK g n → NodeOK (g.mapPay f) (n.mapPay f) := by
  induction n using Node.induct with
  | term p => intro _; simp only [Node.mapPay, NodeOK]
  | chance i ks ih =>
    intro h
    simp only [NodeOK, nodeOKL_iff] at h
    simp only [Node.mapPay_chance, NodeOK, nodeOKL_iff, List.length_map, List.forall_mem_map]
    exact ⟨h.1, h.2.1, fun n hn => ih n hn (h.2.2 n hn)⟩
  | player one i ks ih =>
    intro h
    simp only [NodeOK, nodeOKL_iff] at h
    simp only [Node.mapPay_player, NodeOK, nodeOKL_iff, List.length_map, List.forall_mem_map]
    exact ⟨h.1, h.2.1, fun n hn => ih n hn (h.2.2 n hn)⟩

theorem nodeOKL_mapPay (f : α → α) (g : Game α) :
    ∀ ks : List (Node α), NodeOKL g ks → NodeOKL (g.mapPay f) (Node.mapPayL f ks) := by
  intro ks h
  rw [nodeOKL_iff] at h
  simp only [Node.mapPayL_eq_map, nodeOKL_iff, List.forall_mem_map]
  exact fun n hn => nodeOK_mapPay f g n (h n hn)

mutual
theorem pr_mapPay (f : α → α) (me : Bool) (hist : Nat → Hist) :
    ∀ (n : Node α) (H : Hist), PR me hist H n → PR me hist H (n.mapPay f)
  | .term p, H, _ => by simp [Node.mapPay, PR]
  | .chance i ks, H, h => by
    simp only [Node.mapPay, PR] at h ⊢
    exact prl_mapPay f me hist ks H h
  | .player one i ks, H, h => by
    simp only [Node.mapPay, PR] at h ⊢
    by_cases hm : one = me
    · rw [if_pos hm] at h ⊢
      exact ⟨h.1, prd_mapPay f me hist ks H i 0 h.2⟩
    · rw [if_neg hm] at h ⊢
      exact prl_mapPay f me hist ks H h
theorem prl_mapPay (f : α → α) (me : Bool) (hist : Nat → Hist) :
    ∀ (ks : List (Node α)) (H : Hist), PRL me hist H ks → PRL me hist H (Node.mapPayL f ks)
  | [], H, _ => by simp [Node.mapPayL, PRL]
  | k :: ks, H, h => by
    simp only [Node.mapPayL, PRL] at h ⊢
    exact ⟨pr_mapPay f me hist k H h.1, prl_mapPay f me hist ks H h.2⟩
theorem prd_mapPay (f : α → α) (me : Bool) (hist : Nat → Hist) :
    ∀ (ks : List (Node α)) (H : Hist) (i a : Nat), PRD me hist H i a ks →
      PRD me hist H i a (Node.mapPayL f ks)
  | [], H, i, a, _ => by simp [Node.mapPayL, PRD]
  | k :: ks, H, i, a, h => by
    simp only [Node.mapPayL, PRD] at h ⊢
    exact ⟨pr_mapPay f me hist k _ h.1, prd_mapPay f me hist ks H i (a + 1) h.2⟩
end

theorem gameWF_mapPay (f : α → α) (g : Game α) (hg : GameWF g) : GameWF (g.mapPay f) where
  chancePos := hg.chancePos
  nodes := nodeOK_mapPay f g g.root hg.nodes
  recall := fun me => by
    obtain ⟨hist, h1, h2⟩ := hg.recall me
    exact ⟨hist, pr_mapPay f me hist g.root [] h1, h2⟩
  tables1 := hg.tables1
  tables2 := hg.tables2
  actsTwo := hg.actsTwo

/-! ## expected payoff of the shifted game -/

/-- the child loop of `expected` over shifted trees: the skipped children have probability zero -/
theorem expectedL_map_shift (k : α) {ch : List (List α)} {σ : Bool → Strat α} (skip : Bool)
    {ks : List (Node α)}
    (h : ∀ n ∈ ks, expected ch σ (n.mapPay (fun x => x + k)) = expected ch σ n + k)
    (ps : List α) (hl : ps.length = ks.length) (hp : skip = true → ∀ p ∈ ps, 0 ≤ p) :
    expectedL ch σ skip ps (ks.map (Node.mapPay (fun x => x + k)))
      = expectedL ch σ skip ps ks + k * ps.sum := by
  induction ks generalizing ps with
  | nil =>
    obtain rfl := List.length_eq_zero_iff.mp hl
    simp only [List.map_nil, expectedL, List.sum_nil, mul_zero, add_zero]
  | cons n ks ih =>
    rw [List.forall_mem_cons] at h
    cases ps with
    | nil => cases hl
    | cons p ps =>
      simp only [List.map_cons, expectedL, h.1, List.sum_cons,
        ih h.2 ps (Nat.succ.inj hl) (fun hs w hw => hp hs w (List.mem_cons_of_mem _ hw))]
      by_cases hs : (skip && !(decide (0 < p))) = true
      · rw [if_pos hs, if_pos hs]
        simp only [Bool.and_eq_true, Bool.not_eq_true', decide_eq_false_iff_not, not_lt] at hs
        obtain rfl : p = 0 := le_antisymm hs.2 (hp hs.1 p List.mem_cons_self)
        rw [zero_add, zero_add, zero_add]
      · rw [if_neg hs, if_neg hs, mul_add, mul_add, mul_comm p k, add_add_add_comm]

theorem expected_shift (k : α) (g : Game α) (hch : ∀ ps ∈ g.chance, ps.sum = 1)
    (σ : Bool → Strat α) (hσ : ∀ me, IsStrat (σ me) ∧ FitsGame g me (σ me)) (n : Node α) :
    NodeOK g n → expected g.chance σ (n.mapPay (fun x => x + k)) = expected g.chance σ n + k := by
  induction n using Node.induct with
  | term p => intro _; simp only [Node.mapPay, expected]
  | chance i ks ih =>
    intro h
    simp only [NodeOK, nodeOKL_iff] at h
    obtain ⟨⟨ps, hps, hl⟩, _, hk⟩ := h
    have e : g.chance.getD i [] = ps := by rw [List.getD_eq_getElem?_getD, hps, Option.getD_some]
    simp only [Node.mapPay_chance, expected, e]
    rw [expectedL_map_shift k false (fun n hn => ih n hn (hk n hn)) ps hl (fun h => nomatch h),
      hch ps (List.mem_of_getElem? hps), mul_one]
  | player one i ks ih =>
    intro h
    simp only [NodeOK, nodeOKL_iff] at h
    obtain ⟨⟨e, he, hl⟩, _, hk⟩ := h
    obtain ⟨v, hv, hvl⟩ := fits_at g one (σ one) (hσ one).2 i e he
    have e' : (σ one).at i = v := by rw [Strat.at, List.getD_eq_getElem?_getD, hv, Option.getD_some]
    have hd := (hσ one).1 v (List.mem_of_getElem? hv)
    simp only [Node.mapPay_player, expected, e']
    rw [expectedL_map_shift k true (fun n hn => ih n hn (hk n hn)) v (hvl.trans hl) (fun _ => hd.1),
      hd.2, mul_one]

theorem expectedL_shift (k : α) (g : Game α) (hch : ∀ ps ∈ g.chance, ps.sum = 1)
    (σ : Bool → Strat α) (hσ : ∀ me, IsStrat (σ me) ∧ FitsGame g me (σ me)) (skip : Bool) :
    ∀ (ps : List α) (ks : List (Node α)), ps.length = ks.length →
      (skip = true → ∀ p ∈ ps, 0 ≤ p) → NodeOKL g ks →
      expectedL g.chance σ skip ps (Node.mapPayL (fun x => x + k) ks)
        = expectedL g.chance σ skip ps ks + k * ps.sum := by
  intro ps ks hl hp hk
  rw [Node.mapPayL_eq_map]
  exact expectedL_map_shift k skip
    (fun n hn => expected_shift k g hch σ hσ n ((nodeOKL_iff g ks).mp hk n hn)) ps hl hp
theorem utility_shift (k : α) (g : Game α) (hg : GameWF g) (σ : Profile α) (hσ : ProfileOK g σ)
    (me : Bool) :
    utility (g.mapPay (fun x => x + k)) σ me = utility g σ me + sg me k := by
  have h := expected_shift k g (fun ps hps => (hg.chancePos ps hps).2) σ hσ g.root hg.nodes
  unfold utility
  rw [chance_mapPay, root_mapPay, h]
  cases me
  · simp only [sg, Bool.false_eq_true, if_false, neg_add]
  · simp only [sg, if_true]

theorem profileOK_mapPay (f : α → α) (g : Game α) (σ : Profile α) (hσ : ProfileOK g σ) :
    ProfileOK (g.mapPay f) σ := fun me => hσ me

/-- the best-response value moves with the payoffs (through C01: it is the greatest utility over
the deviations, and every one of these moves by the same constant) -/
theorem optimalDeviations_shift (k : α) (g : Game α) (hg : GameWF g) (σ : Profile α)
    (hσ : ProfileOK g σ) (me : Bool) :
    optimalDeviations (g.mapPay (fun x => x + k)) me (σ (!me))
      = optimalDeviations g me (σ (!me)) + sg me k := by
  have h1 := eval_best_response (g.mapPay (fun x => x + k)) (gameWF_mapPay _ g hg) σ
    (profileOK_mapPay _ g σ hσ) me
  have h2 := eval_best_response g hg σ hσ me
  refine h1.unique ⟨?_, ?_⟩
  · obtain ⟨τ, a, b, e⟩ := h2.1
    refine ⟨τ, a, b, ?_⟩
    rw [utility_shift k g hg _ (profileOK_deviate hσ me τ a b) me, ← e]
  · rintro u ⟨τ, a, b, rfl⟩
    have hb : FitsGame g me τ := b
    rw [utility_shift k g hg _ (profileOK_deviate hσ me τ a hb) me]
    exact add_le_add_left (h2.2 ⟨τ, a, hb, rfl⟩) _

/-! ## one unsampled traversal of the shifted game -/

mutual
theorem vrec_draw (c : VCtx α) (hs : c.sampled = false) :
    ∀ (n : Node α) (pc p1 p2 : α) (d : DrawSt α), (vrec c n pc p1 p2 d).2.2 = d
  | .term p, pc, p1, p2, d => by rw [vrec_term]
  | .chance i ks, pc, p1, p2, d => by
    rw [vrec_chance c hs]
    exact vrecChance_draw c hs _ ks pc p1 p2 d 0
  | .player one i ks, pc, p1, p2, d => by
    rw [vrec_player]
    exact vrecActs_draw c hs one i _ _ ks pc p1 p2 d 0 0 0
theorem vrecChance_draw (c : VCtx α) (hs : c.sampled = false) :
    ∀ (ps : List α) (ks : List (Node α)) (pc p1 p2 : α) (d : DrawSt α) (acc : α),
      (vrecChance c ps ks pc p1 p2 d acc).2.2 = d
  | ps, [], pc, p1, p2, d, acc => by rw [vrecChance_nil_right]
  | [], _ :: _, pc, p1, p2, d, acc => by simp only [vrecChance]
  | p :: ps, k :: ks, pc, p1, p2, d, acc => by
    simp only [vrecChance_cons, vrecChance_draw c hs ps ks, vrec_draw c hs k]
theorem vrecActs_draw (c : VCtx α) (hs : c.sampled = false) (one : Bool) (i : Nat) (mult : α) :
    ∀ (ss : List α) (ks : List (Node α)) (pc p1 p2 : α) (d : DrawSt α) (a : Nat) (eo ex : α),
      (vrecActs c one i mult ss ks pc p1 p2 d a eo ex).2.2.2 = d
  | ss, [], pc, p1, p2, d, a, eo, ex => by rw [vrecActs_nil_right]
  | [], _ :: _, pc, p1, p2, d, a, eo, ex => by rw [vrecActs_nil_left]
  | s :: ss, k :: ks, pc, p1, p2, d, a, eo, ex => by
    simp only [vrecActs_cons', vrecActs_draw c hs one i mult ss ks, vrec_draw c hs k]
end

theorem shift_extra_succ (one me : Bool) (i I : Nat) (slot : Slot) (a0 a n : Nat) (x : α) :
    (if one = me ∧ i = I ∧ Slot.regret = slot ∧ a0 = a then x else 0)
      + (if one = me ∧ i = I ∧ slot = Slot.regret ∧ a0 + 1 ≤ a ∧ a < a0 + 1 + n then x else 0)
      = if one = me ∧ i = I ∧ slot = Slot.regret ∧ a0 ≤ a ∧ a < a0 + (n + 1) then x else 0 := by
  by_cases hP : one = me ∧ i = I ∧ slot = Slot.regret
  · obtain ⟨rfl, rfl, rfl⟩ := hP
    simp only [true_and, eq_self]
    rcases Nat.lt_trichotomy a0 a with h | rfl | h
    · rw [if_neg (by omega), zero_add]
      exact if_congr (by omega) rfl rfl
    · rw [if_pos rfl, if_neg (by omega), if_pos (by omega), add_zero]
    · rw [if_neg (by omega), if_neg (by omega), if_neg (by omega), add_zero]
  · rw [if_neg (fun h => hP ⟨h.1, h.2.1, h.2.2.1.symm⟩), if_neg (fun h => hP ⟨h.1, h.2.1, h.2.2.1⟩),
      if_neg (fun h => hP ⟨h.1, h.2.1, h.2.2.1⟩), add_zero]

/-- what the traversal of a well-formed game needs of its context: full mode, the game's chance
table, and at every infoset a strategy vector of the right length that sums to one -/
structure CtxFits (g : Game α) (c : VCtx α) : Prop where
  sampled : c.sampled = false
  ch : c.ch = g.chance
  strat : ∀ one i e, (g.infos one)[i]? = some e →
    (c.strat one i).length = e.actions.length ∧ (c.strat one i).sum = 1

section shiftLoops
variable (k : α) (c : VCtx α) (hs : c.sampled = false) (me : Bool) (I : Nat) (slot : Slot) (a : Nat)
  {ks : List (Node α)}
  (h : ∀ n ∈ ks, ∀ pc p1 p2 d,
    (vrec c (n.mapPay (fun x => x + k)) pc p1 p2 d).1 = (vrec c n pc p1 p2 d).1 + k ∧
    effSum (vrec c (n.mapPay (fun x => x + k)) pc p1 p2 d).2.1 me I slot a
      = effSum (vrec c n pc p1 p2 d).2.1 me I slot a)
include hs h

theorem vrecChance_map_shift (ps : List α) (pc p1 p2 : α) (d : DrawSt α) (acc acc' : α)
    (hl : ps.length = ks.length) :
    (vrecChance c ps (ks.map (Node.mapPay (fun x => x + k))) pc p1 p2 d acc').1
        = (vrecChance c ps ks pc p1 p2 d acc).1 + (acc' - acc) + k * ps.sum ∧
    effSum (vrecChance c ps (ks.map (Node.mapPay (fun x => x + k))) pc p1 p2 d acc').2.1 me I slot a
        = effSum (vrecChance c ps ks pc p1 p2 d acc).2.1 me I slot a := by
  induction ks generalizing ps acc acc' with
  | nil =>
    obtain rfl := List.length_eq_zero_iff.mp hl
    simp only [List.map_nil, vrecChance_nil_right, List.sum_nil, mul_zero, add_zero,
      add_sub_cancel, and_self]
  | cons n ks ih =>
    rw [List.forall_mem_cons] at h
    cases ps with
    | nil => cases hl
    | cons p ps =>
      obtain ⟨hv, he⟩ := h.1 (pc * p) p1 p2 d
      obtain ⟨hv', he'⟩ := ih h.2 ps (acc + p * (vrec c n (pc * p) p1 p2 d).1)
        (acc' + p * ((vrec c n (pc * p) p1 p2 d).1 + k)) (Nat.succ.inj hl)
      simp only [List.map_cons, vrecChance_cons, vrec_draw c hs, effSum_append, hv, he, hv', he',
        List.sum_cons, and_true]
      ring

theorem vrecActs_map_shift (one : Bool) (i : Nat) (mult : α) (ss : List α) (pc p1 p2 : α)
    (d : DrawSt α) (a0 : Nat) (eo ex eo' ex' : α) (hl : ss.length = ks.length) :
    (vrecActs c one i mult ss (ks.map (Node.mapPay (fun x => x + k))) pc p1 p2 d a0 eo' ex').1
        = (vrecActs c one i mult ss ks pc p1 p2 d a0 eo ex).1 + (eo' - eo) + k * ss.sum ∧
    (vrecActs c one i mult ss (ks.map (Node.mapPay (fun x => x + k))) pc p1 p2 d a0 eo' ex').2.1
        = (vrecActs c one i mult ss ks pc p1 p2 d a0 eo ex).2.1 + (ex' - ex) + k * mult * ss.sum ∧
    effSum (vrecActs c one i mult ss (ks.map (Node.mapPay (fun x => x + k))) pc p1 p2 d a0 eo' ex').2.2.1
        me I slot a
      = effSum (vrecActs c one i mult ss ks pc p1 p2 d a0 eo ex).2.2.1 me I slot a
        + (if one = me ∧ i = I ∧ slot = Slot.regret ∧ a0 ≤ a ∧ a < a0 + ks.length then k * mult
           else 0) := by
  induction ks generalizing ss a0 eo ex eo' ex' with
  | nil =>
    obtain rfl := List.length_eq_zero_iff.mp hl
    have : ¬ (one = me ∧ i = I ∧ slot = Slot.regret ∧ a0 ≤ a ∧ a < a0 + ([] : List (Node α)).length) :=
      fun hh => absurd hh.2.2.2.2 (Nat.not_lt.mpr hh.2.2.2.1)
    simp only [List.map_nil, vrecActs_nil_right, List.sum_nil, mul_zero, add_zero, add_sub_cancel,
      effSum_nil, if_neg this, and_self]
  | cons n ks ih =>
    rw [List.forall_mem_cons] at h
    cases ss with
    | nil => cases hl
    | cons s ss =>
      obtain ⟨hv, he⟩ := h.1 pc (if one then p1 * s else p1) (if one then p2 else p2 * s) d
      generalize hr : vrec c n pc (if one then p1 * s else p1) (if one then p2 else p2 * s) d = r
        at hv he
      obtain ⟨q1, q2, q3⟩ := ih h.2 ss (a0 + 1) (eo + s * r.1) (ex + r.1 * mult * s)
        (eo' + s * (r.1 + k)) (ex' + (r.1 + k) * mult * s) (Nat.succ.inj hl)
      have hd : r.2.2 = d := hr ▸ vrec_draw c hs n _ _ _ _
      simp only [List.map_cons, vrecActs_cons', vrec_draw c hs, hr, hd, effSum_append, effSum_cons,
        hv, he, q1, q2, q3, List.sum_cons, List.length_cons,
        ← shift_extra_succ one me i I slot a0 a ks.length (k * mult)]
      refine ⟨by ring, by ring, ?_⟩
      rw [add_mul, ite_add_zero]
      ring
end shiftLoops

theorem vrec_shift (k : α) (g : Game α) (hch : ∀ ps ∈ g.chance, ps.sum = 1) (c : VCtx α)
    (hc : CtxFits g c) (me : Bool) (I : Nat) (slot : Slot) (a : Nat)
    (ha : slot = Slot.regret → a < (c.strat me I).length) (n : Node α) :
    ∀ (pc p1 p2 : α) (d : DrawSt α), NodeOK g n →
      (vrec c (n.mapPay (fun x => x + k)) pc p1 p2 d).1 = (vrec c n pc p1 p2 d).1 + k ∧
      effSum (vrec c (n.mapPay (fun x => x + k)) pc p1 p2 d).2.1 me I slot a
        = effSum (vrec c n pc p1 p2 d).2.1 me I slot a := by
  induction n using Node.induct with
  | term p => intro pc p1 p2 d _; simp only [Node.mapPay, vrec_term, and_self]
  | chance i ks ih =>
    intro pc p1 p2 d h
    simp only [NodeOK, nodeOKL_iff] at h
    obtain ⟨⟨ps, hps, hl⟩, _, hk⟩ := h
    have e : c.ch.getD i [] = ps := by
      rw [hc.ch, List.getD_eq_getElem?_getD, hps, Option.getD_some]
    obtain ⟨hv, he⟩ := vrecChance_map_shift k c hc.sampled me I slot a
      (fun n hn pc p1 p2 d => ih n hn pc p1 p2 d (hk n hn)) ps pc p1 p2 d 0 0 hl
    rw [Node.mapPay_chance, vrec_chance c hc.sampled, vrec_chance c hc.sampled, e, hv, he,
      hch ps (List.mem_of_getElem? hps), sub_self, add_zero, mul_one]
    exact ⟨rfl, rfl⟩
  | player one i ks ih =>
    intro pc p1 p2 d h
    simp only [NodeOK, nodeOKL_iff] at h
    obtain ⟨⟨e, he, hl⟩, _, hk⟩ := h
    obtain ⟨hσl, hσs⟩ := hc.strat one i e he
    obtain ⟨hv, hx, hE⟩ := vrecActs_map_shift k c hc.sampled me I slot a
      (fun n hn pc p1 p2 d => ih n hn pc p1 p2 d (hk n hn)) one i
      (if one = true then pc * p2 else -p1 * pc) (c.strat one i) pc p1 p2 d 0 0 0 0 0
      (hσl.trans hl)
    simp only [Node.mapPay_player, vrec_player, effSum_append, hv, hx, hE, hσs, sub_self, add_zero,
      mul_one, true_and]
    -- the regret every action gains by the shift is taken off again by the node's own value
    cases slot with
    | strat => simp only [effSum_subEffs_strat, reduceCtorEq, false_and, and_false, if_false, add_zero]
    | regret =>
      simp only [effSum_subEffs_regret, true_and, Nat.zero_le, Nat.zero_add]
      by_cases h1 : one = me ∧ i = I
      · obtain ⟨rfl, rfl⟩ := h1
        have ha' : a < ks.length := (ha rfl).trans_eq (hσl.trans hl)
        simp only [true_and, ha', ha rfl, if_true]
        ring
      · have h2 : ¬ (one = me ∧ i = I ∧ a < ks.length) := fun hh => h1 ⟨hh.1, hh.2.1⟩
        have h3 : ¬ (one = me ∧ i = I ∧ a < (c.strat one i).length) := fun hh => h1 ⟨hh.1, hh.2.1⟩
        simp only [h2, h3, if_false, add_zero]

theorem vrecChance_shift (k : α) (g : Game α) (hch : ∀ ps ∈ g.chance, ps.sum = 1) (c : VCtx α)
    (hc : CtxFits g c) (me : Bool) (I : Nat) (slot : Slot) (a : Nat)
    (ha : slot = Slot.regret → a < (c.strat me I).length) :
    ∀ (ps : List α) (ks : List (Node α)) (pc p1 p2 : α) (d : DrawSt α) (acc acc' : α),
      ps.length = ks.length → NodeOKL g ks →
      (vrecChance c ps (Node.mapPayL (fun x => x + k) ks) pc p1 p2 d acc').1
        = (vrecChance c ps ks pc p1 p2 d acc).1 + (acc' - acc) + k * ps.sum ∧
      effSum (vrecChance c ps (Node.mapPayL (fun x => x + k) ks) pc p1 p2 d acc').2.1 me I slot a
        = effSum (vrecChance c ps ks pc p1 p2 d acc).2.1 me I slot a := by
  intro ps ks pc p1 p2 d acc acc' hl hk
  rw [Node.mapPayL_eq_map]
  exact vrecChance_map_shift k c hc.sampled me I slot a (fun n hn pc p1 p2 d =>
    vrec_shift k g hch c hc me I slot a ha n pc p1 p2 d ((nodeOKL_iff g ks).mp hk n hn))
    ps pc p1 p2 d acc acc' hl

theorem vrecActs_shift (k : α) (g : Game α) (hch : ∀ ps ∈ g.chance, ps.sum = 1) (c : VCtx α)
    (hc : CtxFits g c) (me : Bool) (I : Nat) (slot : Slot) (a : Nat)
    (ha : slot = Slot.regret → a < (c.strat me I).length) (one : Bool) (i : Nat) (mult : α) :
    ∀ (ss : List α) (ks : List (Node α)) (pc p1 p2 : α) (d : DrawSt α) (a0 : Nat) (eo ex eo' ex' : α),
      ss.length = ks.length → NodeOKL g ks →
      (vrecActs c one i mult ss (Node.mapPayL (fun x => x + k) ks) pc p1 p2 d a0 eo' ex').1
        = (vrecActs c one i mult ss ks pc p1 p2 d a0 eo ex).1 + (eo' - eo) + k * ss.sum ∧
      (vrecActs c one i mult ss (Node.mapPayL (fun x => x + k) ks) pc p1 p2 d a0 eo' ex').2.1
        = (vrecActs c one i mult ss ks pc p1 p2 d a0 eo ex).2.1 + (ex' - ex) + k * mult * ss.sum ∧
      effSum (vrecActs c one i mult ss (Node.mapPayL (fun x => x + k) ks) pc p1 p2 d a0 eo' ex').2.2.1
          me I slot a
        = effSum (vrecActs c one i mult ss ks pc p1 p2 d a0 eo ex).2.2.1 me I slot a
          + (if one = me ∧ i = I ∧ slot = Slot.regret ∧ a0 ≤ a ∧ a < a0 + ks.length then k * mult
             else 0) := by
  intro ss ks pc p1 p2 d a0 eo ex eo' ex' hl hk
  rw [Node.mapPayL_eq_map]
  exact vrecActs_map_shift k c hc.sampled me I slot a (fun n hn pc p1 p2 d =>
    vrec_shift k g hch c hc me I slot a ha n pc p1 p2 d ((nodeOKL_iff g ks).mp hk n hn))
    one i mult ss pc p1 p2 d a0 eo ex eo' ex' hl
/-! ## equal sums at every cell give equal states -/

theorem applyEffs_congr (s : SolveSt α) (es es' : List (Eff α))
    (hlen : ∀ (one : Bool) (I : Nat) (x : InfoSt α), (s.get one)[I]? = some x →
      x.cumRegret.length ≤ x.strat.length)
    (h : ∀ me I slot a, (slot = Slot.regret → a < (s.strat me I).length) →
      effSum es' me I slot a = effSum es me I slot a) :
    s.applyEffs es' = s.applyEffs es := by
  apply SolveSt.ext_get
  intro one
  obtain ⟨l1, c1⟩ := applyEffs_cell s es' one
  obtain ⟨l2, c2⟩ := applyEffs_cell s es one
  apply List.ext_getElem?
  intro I
  cases hx : (s.get one)[I]? with
  | none =>
    have hI : (s.get one).length ≤ I := List.getElem?_eq_none_iff.mp hx
    rw [List.getElem?_eq_none_iff.mpr (by omega), List.getElem?_eq_none_iff.mpr (by omega)]
  | some x =>
    obtain ⟨x1, g1, s1, r1, t1, cr1, cs1⟩ := c1 I x hx
    obtain ⟨x2, g2, s2, r2, t2, cr2, cs2⟩ := c2 I x hx
    rw [g1, g2]
    congr 1
    have hst := strat_of_get s one I x hx
    have e1 : x1.cumRegret = x2.cumRegret := by
      apply list_ext_getD _ _ (r1.trans r2.symm)
      intro a ha
      rw [r2] at ha
      rw [cr1 a ha, cr2 a ha, h one I Slot.regret a (fun _ => by
        rw [hst]; exact lt_of_lt_of_le ha (hlen one I x hx))]
    have e2 : x1.cumStrat = x2.cumStrat := by
      apply list_ext_getD _ _ (t1.trans t2.symm)
      intro a ha
      rw [t2] at ha
      rw [cs1 a ha, cs2 a ha, h one I Slot.strat a (fun hh => by cases hh)]
    cases x1; cases x2
    simp only at e1 e2 s1 s2
    subst e1; subst e2
    rw [s1, s2]

theorem solveLoop_congr [Transc α] (step step' : IterFn α) (thr : Option (Ext α))
    (P : SolveSt α → Prop)
    (h : ∀ it s log, P s → step' it s log = step it s log ∧ P (step it s log).1) :
    ∀ (n it : Nat) (s : SolveSt α) (r1 r2 : Ext α) (log : List (DrawRec α)), P s →
      solveLoop step' thr n it s r1 r2 log = solveLoop step thr n it s r1 r2 log
  | 0, it, s, r1, r2, log, _ => by simp only [solveLoop]
  | n + 1, it, s, r1, r2, log, hs => by
    rw [solveLoop_succ, solveLoop_succ, (h it s log hs).1]
    split_ifs
    · rfl
    · exact solveLoop_congr step step' thr P h n (it + 1) _ _ _ _ (h it s log hs).2

end Shift

/-! ## the solver over `ℝ` -/

theorem ctxFits_of_stOK (g : Game ℝ) (s : SolveSt ℝ) (hs : StOK g s) (draw : DrawFn ℝ) (pass : ℕ) :
    CtxFits g ⟨g.chance, false, s.strat, draw, pass⟩ where
  sampled := rfl
  ch := rfl
  strat := by
    intro one i e he
    obtain ⟨x, hx, hok⟩ := (tableOK_get (hs one)).1 i e he
    show (s.strat one i).length = _ ∧ (s.strat one i).sum = 1
    rw [strat_of_get s one i x hx]
    exact ⟨hok.lenσ, hok.dist.2⟩

theorem vanillaIter_shift (k : ℝ) (g : Game ℝ) (hg : GameWF g) (p : RegretParams ℝ)
    (draw : DrawFn ℝ) (it : ℕ) (s : SolveSt ℝ) (log : List (DrawRec ℝ)) (hs : StOK g s) :
    vanillaIter (g.mapPay (fun x => x + k)) false p draw it s log
      = vanillaIter g false p draw it s log := by
  have hc := ctxFits_of_stOK g s hs draw (it - 1)
  have hst : s.applyEffs (vrec ⟨g.chance, false, s.strat, draw, it - 1⟩
        (g.root.mapPay (fun x => x + k)) 1 1 1 { log := log }).2.1
      = s.applyEffs (vrec ⟨g.chance, false, s.strat, draw, it - 1⟩ g.root 1 1 1 { log := log }).2.1 := by
    apply applyEffs_congr
    · intro one I x hx
      obtain ⟨e, _, hok⟩ := (tableOK_get (hs one)).2 I x hx
      rw [hok.lenR, hok.lenσ]
    · intro me I slot a ha
      exact (vrec_shift k g (fun ps hps => (hg.chancePos ps hps).2) _ hc me I slot a ha g.root 1 1 1 _
        hg.nodes).2
  simp only [vanillaIter, chance_mapPay, root_mapPay]
  rw [hst, vrec_draw _ rfl, vrec_draw _ rfl]

/-- the same parameters with a negative average-strategy exponent replaced by `0` (the model
treats every non-positive exponent alike) -/
def RegretParams.clampStrat (p : RegretParams ℝ) : RegretParams ℝ := { p with strat := max p.strat 0 }

theorem discountAverageStrat_clamp (p : RegretParams ℝ) (t : ℕ) (v : List ℝ) :
    discountAverageStrat p.clampStrat t v = discountAverageStrat p t v := by
  unfold discountAverageStrat RegretParams.clampStrat
  by_cases h : 0 < p.strat
  · simp only [max_eq_left h.le]
  · have e : max p.strat 0 = 0 := max_eq_right (not_lt.mp h)
    simp only [e, lt_irrefl, if_false, h]

theorem advance_clamp (p : RegretParams ℝ) (it itAvg : ℕ) (x : InfoSt ℝ) :
    x.advance p.clampStrat it itAvg = x.advance p it itAvg := by
  simp only [InfoSt.advance, discountAverageStrat_clamp]
  rfl

theorem advanceAll_clamp (p : RegretParams ℝ) (it itAvg : ℕ) :
    ∀ (xs : List (InfoSt ℝ)) (acc : ℝ),
      advanceAll p.clampStrat it itAvg xs acc = advanceAll p it itAvg xs acc
  | [], acc => by simp only [advanceAll]
  | x :: xs, acc => by
    simp only [advanceAll, advance_clamp, advanceAll_clamp p it itAvg xs]

theorem vanillaIter_clamp (g : Game ℝ) (sampled : Bool) (p : RegretParams ℝ) (draw : DrawFn ℝ) :
    vanillaIter g sampled p.clampStrat draw = vanillaIter g sampled p draw := by
  funext it s log
  simp only [vanillaIter, advanceAll_clamp]

end Cfr
