import CfrVerif.Proofs.PresetSpec
import CfrVerif.Proofs.PresetScalarCore
/-!
# Scalar part of the discounted-preset analysis: one infoset, one action

For each discounted preset the `t^γ`-weighted regret of every action at an infoset is at most
`T^γ · D · √(n·T)` plus a preset constant times `D`: the instances of
`PS.trace_weighted_regret`.  What a preset has to supply are elementary inequalities between its
weights (`t` or `t²`) and its discount factors `c/(c+1)`, `c = t^α`.
-/
set_option linter.unusedSectionVars false
set_option linter.unusedVariables false
namespace Cfr

/-- the extra constant of a preset (multiplies `D`) -/
def presetConst : Nat → ℝ
  | 0 => 0      -- lcfr
  | 1 => 0      -- cfr+
  | 2 => 2      -- dcfr
  | _ => 250    -- dcfr-prune

namespace PS
open Finset

theorem le_mul_frac (a b c : ℝ) (hc : 0 ≤ c) (h : a * (c + 1) ≤ b * c) : a ≤ b * (c / (c + 1)) := by
  rwa [← mul_div_assoc, le_div_iff₀ (by linarith)]

theorem mul_frac_le (a b c : ℝ) (hc : 0 ≤ c) (h : b * c ≤ a * (c + 1)) : b * (c / (c + 1)) ≤ a := by
  rwa [← mul_div_assoc, div_le_iff₀ (by linarith)]

/-- LCFR: weight `t`, both discount factors `t/(t+1)`: `w_{t+1}·t/(t+1) = w_t` -/
theorem lcfr_weight (t : ℕ) (ht : 1 ≤ t) :
    ((t + 1 : ℕ) : ℝ) * genDiscount t (.fin (1 : ℝ)) = t := by
  have h0 : (0 : ℝ) ≤ t := Nat.cast_nonneg t
  rw [genDiscount_closed_form t ht, Real.rpow_one]
  push_cast
  exact le_antisymm (mul_frac_le _ _ _ h0 (mul_comm _ _).le)
    (le_mul_frac _ _ _ h0 (mul_comm _ _).le)

/-- CFR+: weight `t²`, no discount of the positive regrets -/
theorem cfrPlus_H1 (t : ℕ) :
    (t : ℝ) ^ 2 ≤ ((t + 1 : ℕ) : ℝ) ^ 2 * genDiscount t (.posInf : Ext ℝ) := by
  rw [genDiscount_posInf, mul_one]
  exact_mod_cast Nat.pow_le_pow_left t.le_succ 2

/-- CFR+: the negative regrets are forgotten, `κ_t = 0` -/
theorem cfrPlus_kap_zero (t : ℕ) :
    ((t + 1 : ℕ) : ℝ) ^ 2 * genDiscount t (.negInf : Ext ℝ) ≤ (t : ℝ) ^ 2 := by
  rw [genDiscount_negInf, mul_zero]
  exact sq_nonneg _

/-- (H1) for the positive exponent `3/2` of DCFR and DCFR-prune, weight `t²` -/
theorem H1_dcfr (t : ℕ) (ht : 1 ≤ t) :
    (t : ℝ) ^ 2 ≤ ((t + 1 : ℕ) : ℝ) ^ 2 * genDiscount t (.fin ((1 : ℝ) + half)) := by
  have h1 : (1 : ℝ) ≤ t := by exact_mod_cast ht
  have h0 : (0 : ℝ) ≤ t := Nat.cast_nonneg t
  have hc : (t : ℝ) ≤ (t : ℝ) ^ ((1 : ℝ) + half) :=
    calc (t : ℝ) = (t : ℝ) ^ (1 : ℝ) := (Real.rpow_one _).symm
      _ ≤ (t : ℝ) ^ ((1 : ℝ) + half) :=
        Real.rpow_le_rpow_of_exponent_le h1 (by rw [half_eq]; norm_num)
  have hc0 := h0.trans hc
  rw [genDiscount_closed_form t ht]
  push_cast
  apply le_mul_frac _ _ _ hc0
  linarith [mul_le_mul_of_nonneg_left hc h0, mul_nonneg h0 hc0]

/-- with weight `t²` and any discount factor, `κ_t ≤ 2t + 1` -/
theorem kap_sq_le (nn : ℕ → ℝ) (t : ℕ) (h : nn t ≤ 1) :
    kap (fun t => (t : ℝ) ^ 2) nn t ≤ 2 * (t : ℝ) + 1 := by
  have ht0 : (0 : ℝ) ≤ t := Nat.cast_nonneg t
  have := mul_le_of_le_one_right (sq_nonneg ((t : ℝ) + 1)) h
  refine max_le (by linarith) ?_
  push_cast
  linarith

/-- DCFR (negative factor `1/2`): `κ_t = 0` from `t = 3` on -/
theorem dcfr_kap_zero (t : ℕ) (ht : 2 < t) :
    ((t + 1 : ℕ) : ℝ) ^ 2 * genDiscount t (.fin (0 : ℝ)) ≤ (t : ℝ) ^ 2 := by
  have h3 : (2 : ℝ) ≤ (t : ℝ) - 1 := le_sub_iff_add_le.mpr (by exact_mod_cast ht)
  rw [genDiscount_zero]
  push_cast
  linarith [mul_self_le_mul_self (by norm_num) h3]

/-- DCFR: `κ₁·1 + κ₂·2 = 1·1 + ½·2` -/
theorem dcfr_kap_sum :
    ∑ t ∈ range 2, kap (fun t => (t : ℝ) ^ 2) (fun t => genDiscount t (.fin (0 : ℝ))) (t + 1)
      * ((t : ℝ) + 1) = 2 := by
  simp only [sum_range_succ, sum_range_zero, kap, genDiscount_zero]
  norm_num

/-- `(t+1)²·s ≤ t²·(s+1)` for `s = √t`, `t ≥ 5`: it comes to `1 ≤ s²·(s − 2)`, and `s ≥ 11/5` -/
theorem prune_ineq (s t : ℝ) (hs0 : 0 ≤ s) (hst : s ^ 2 = t) (ht : 5 ≤ t) :
    (t + 1) ^ 2 * s ≤ t ^ 2 * (s + 1) := by
  subst hst
  have h1 : (11 / 5 : ℝ) ≤ s :=
    le_of_sq_le_sq (le_trans (by norm_num) ht) hs0
  have h2 : 5 * (11 / 5 - 2 : ℝ) ≤ s ^ 2 * (s - 2) :=
    mul_le_mul ht (sub_le_sub_right h1 2) (by norm_num) (sq_nonneg s)
  linarith [mul_le_mul_of_nonneg_left h2 hs0]

/-- DCFR-prune (negative exponent `1/2`): `κ_t = 0` from `t = 5` on -/
theorem prune_kap_zero (t : ℕ) (ht : 4 < t) :
    ((t + 1 : ℕ) : ℝ) ^ 2 * genDiscount t (.fin (half : ℝ)) ≤ (t : ℝ) ^ 2 := by
  have h5 : (5 : ℝ) ≤ t := by exact_mod_cast ht
  rw [genDiscount_closed_form t (by omega), half_eq, ← Real.sqrt_eq_rpow]
  push_cast
  exact mul_frac_le _ _ _ (Real.sqrt_nonneg _)
    (prune_ineq _ _ (Real.sqrt_nonneg _) (Real.sq_sqrt (by linarith)) h5)

/-- DCFR-prune: `Σ_{1 ≤ t ≤ 4} κ_t·t ≤ Σ_{1 ≤ t ≤ 4} (2t+1)·t = 70`, which is below the `250` of
`presetConst 3` that the statement uses -/
theorem prune_kap_sum :
    ∑ t ∈ range 4, kap (fun t => (t : ℝ) ^ 2) (fun t => genDiscount t (.fin (half : ℝ))) (t + 1)
      * ((t : ℝ) + 1) ≤ 250 := by
  have h : ∀ t : ℕ, kap (fun t => (t : ℝ) ^ 2) (fun t => genDiscount t (.fin (half : ℝ))) (t + 1)
      * ((t : ℝ) + 1) ≤ (2 * ((t + 1 : ℕ) : ℝ) + 1) * ((t : ℝ) + 1) := fun t =>
    mul_le_mul_of_nonneg_right
      (kap_sq_le _ _ (genDiscount_mem_unit (t + 1) (by omega) _).2) (Nat.cast_add_one_pos t).le
  refine (Finset.sum_le_sum fun t _ => h t).trans ?_
  simp only [sum_range_succ, sum_range_zero]
  norm_num

/-- `(T+1)^{γ+1} ≤ T^{γ+1} + (γ+1)·(T+1)^γ`: Bernoulli's inequality
`1 − (γ+1)/(T+1) ≤ (T/(T+1))^{γ+1}` times `(T+1)^{γ+1}` -/
theorem bernoulli_step (γ : ℝ) (hγ : 0 ≤ γ) (T : ℕ) :
    ((T + 1 : ℕ) : ℝ) ^ (γ + 1) ≤ (T : ℝ) ^ (γ + 1) + ((T + 1 : ℕ) : ℝ) ^ γ * (γ + 1) := by
  push_cast
  have hT : (0 : ℝ) ≤ T := Nat.cast_nonneg T
  have hu : (0 : ℝ) < (T : ℝ) + 1 := Nat.cast_add_one_pos T
  have hui : ((T : ℝ) + 1)⁻¹ * ((T : ℝ) + 1) = 1 := inv_mul_cancel₀ hu.ne'
  have hB := one_add_mul_self_le_rpow_one_add (s := -((T : ℝ) + 1)⁻¹)
    (neg_le_neg (inv_le_one_of_one_le₀ (le_add_of_nonneg_left hT))) (p := γ + 1)
    (le_add_of_nonneg_left hγ)
  have e1 : 1 + -((T : ℝ) + 1)⁻¹ = T * ((T : ℝ) + 1)⁻¹ := by linear_combination -hui
  rw [e1, Real.mul_rpow hT (inv_nonneg.mpr hu.le), Real.inv_rpow hu.le, ← div_eq_mul_inv,
    le_div_iff₀ (Real.rpow_pos_of_pos hu _), Real.rpow_add_one hu.ne'] at hB
  rw [Real.rpow_add_one hu.ne']
  linear_combination hB + (γ + 1) * ((T : ℝ) + 1) ^ γ * hui

end PS
open PS

theorem lcfr_weighted_regret (n : Nat) (hn : 1 ≤ n) (D : ℝ) (hD : 0 ≤ D) (T : Nat)
    (tr : RMTrace RegretParams.lcfr n D T) (a : Nat) (ha : a < n) :
    tr.weightedRegret a ≤ (T : ℝ) ^ (1 : ℝ) * (D * Real.sqrt (n * T)) + presetConst 0 * D :=
  trace_weighted_regret hD tr a ha 1 rfl (fun t => (t : ℝ)) (fun t => Real.rpow_one _)
    (fun t ht => (lcfr_weight t ht).ge) 0 (fun t ht => (lcfr_weight t ht).le) _
    (Finset.sum_range_zero _).le

theorem cfrPlus_weighted_regret (n : Nat) (hn : 1 ≤ n) (D : ℝ) (hD : 0 ≤ D) (T : Nat)
    (tr : RMTrace RegretParams.cfrPlus n D T) (a : Nat) (ha : a < n) :
    tr.weightedRegret a ≤ (T : ℝ) ^ (2 : ℝ) * (D * Real.sqrt (n * T)) + presetConst 1 * D :=
  trace_weighted_regret hD tr a ha 2 two_eq (fun t => (t : ℝ) ^ 2) (fun t => Real.rpow_two _)
    (fun t _ => cfrPlus_H1 t) 0 (fun t _ => cfrPlus_kap_zero t) _ (Finset.sum_range_zero _).le

theorem dcfr_weighted_regret (n : Nat) (hn : 1 ≤ n) (D : ℝ) (hD : 0 ≤ D) (T : Nat)
    (tr : RMTrace RegretParams.dcfr n D T) (a : Nat) (ha : a < n) :
    tr.weightedRegret a ≤ (T : ℝ) ^ (2 : ℝ) * (D * Real.sqrt (n * T)) + presetConst 2 * D :=
  trace_weighted_regret hD tr a ha 2 two_eq (fun t => (t : ℝ) ^ 2) (fun t => Real.rpow_two _)
    H1_dcfr 2 dcfr_kap_zero _ dcfr_kap_sum.le

theorem dcfrPrune_weighted_regret (n : Nat) (hn : 1 ≤ n) (D : ℝ) (hD : 0 ≤ D) (T : Nat)
    (tr : RMTrace RegretParams.dcfrPrune n D T) (a : Nat) (ha : a < n) :
    tr.weightedRegret a ≤ (T : ℝ) ^ (2 : ℝ) * (D * Real.sqrt (n * T)) + presetConst 3 * D :=
  trace_weighted_regret hD tr a ha 2 two_eq (fun t => (t : ℝ) ^ 2) (fun t => Real.rpow_two _)
    H1_dcfr 4 prune_kap_zero _ prune_kap_sum

theorem weightTotal_ge (γ : ℝ) (hγ : 0 ≤ γ) (T : Nat) :
    (T : ℝ) ^ (γ + 1) / (γ + 1) ≤ weightTotal γ T := by
  unfold weightTotal
  rw [sum_list_range]
  have hγ1 : 0 < γ + 1 := by linarith
  induction T with
  | zero =>
    simp [Real.zero_rpow hγ1.ne']
  | succ T ih =>
    rw [Finset.sum_range_succ]
    refine le_trans ?_ (add_le_add ih le_rfl)
    rw [div_add' _ _ _ hγ1.ne', div_le_div_iff_of_pos_right hγ1]
    exact PS.bernoulli_step γ hγ T

end Cfr
