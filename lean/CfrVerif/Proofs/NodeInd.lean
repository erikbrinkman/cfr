import CfrVerif.Model.Tree
/-!
# Induction on a tree, with the children of a node as a list
-/
namespace Cfr

@[elab_as_elim]
theorem Node.induct {α : Type} {P : Node α → Prop} (term : ∀ p, P (.term p))
    (chance : ∀ i ks, (∀ k ∈ ks, P k) → P (.chance i ks))
    (player : ∀ one i ks, (∀ k ∈ ks, P k) → P (.player one i ks)) (n : Node α) : P n :=
  Node.rec (motive_1 := P) (motive_2 := fun ks => ∀ k ∈ ks, P k) term chance player
    (fun _ h => absurd h List.not_mem_nil)
    (fun _ _ hk hks _ hx => (List.mem_cons.mp hx).elim (fun e => e ▸ hk) (hks _)) n

end Cfr
