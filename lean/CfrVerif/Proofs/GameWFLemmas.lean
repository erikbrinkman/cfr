import CfrVerif.Proofs.GameWF
/-!
# The defining equations of the recursive predicates of `Proofs/GameWF.lean`
-/
namespace Cfr
variable {α : Type} {g : Game α} {me one : Bool} {hist : Nat → Hist} {H : Hist} {i a : Nat}
  {k : Node α} {ks : List (Node α)}

@[simp] theorem NodeOK_term {p : α} : NodeOK g (.term p) := by rw [NodeOK]; trivial
@[simp] theorem NodeOK_chance : NodeOK g (.chance i ks) ↔
    (∃ ps, g.chance[i]? = some ps ∧ ps.length = ks.length) ∧ 2 ≤ ks.length ∧ NodeOKL g ks := by
  rw [NodeOK]
@[simp] theorem NodeOK_player : NodeOK g (.player one i ks) ↔
    (∃ e, (g.infos one)[i]? = some e ∧ e.actions.length = ks.length) ∧ 2 ≤ ks.length ∧
      NodeOKL g ks := by
  rw [NodeOK]
@[simp] theorem NodeOKL_nil : NodeOKL g [] := by rw [NodeOKL]; trivial
@[simp] theorem NodeOKL_cons : NodeOKL g (k :: ks) ↔ NodeOK g k ∧ NodeOKL g ks := by rw [NodeOKL]

@[simp] theorem PR_term {p : α} : PR me hist H (.term p) := by rw [PR]; trivial
@[simp] theorem PR_chance : PR me hist H (.chance i ks) ↔ PRL me hist H ks := by rw [PR]
theorem PR_player : PR me hist H (.player one i ks) ↔
    if one = me then hist i = H ∧ PRD me hist H i 0 ks else PRL me hist H ks := by rw [PR]
@[simp] theorem PR_player_self :
    PR me hist H (.player me i ks) ↔ hist i = H ∧ PRD me hist H i 0 ks := by
  rw [PR, if_pos rfl]
theorem PR_player_other (h : one ≠ me) : PR me hist H (.player one i ks) ↔ PRL me hist H ks := by
  rw [PR, if_neg h]
@[simp] theorem PRL_nil : PRL me hist H ([] : List (Node α)) := by rw [PRL]; trivial
@[simp] theorem PRL_cons : PRL me hist H (k :: ks) ↔ PR me hist H k ∧ PRL me hist H ks := by
  rw [PRL]
@[simp] theorem PRD_nil : PRD me hist H i a ([] : List (Node α)) := by rw [PRD]; trivial
@[simp] theorem PRD_cons :
    PRD me hist H i a (k :: ks) ↔ PR me hist (H ++ [(i, a)]) k ∧ PRD me hist H i (a + 1) ks := by
  rw [PRD]

/-! ## the list halves, as statements about every child -/

theorem nodeOKL_iff (g : Game α) (ks : List (Node α)) : NodeOKL g ks ↔ ∀ k ∈ ks, NodeOK g k := by
  induction ks with
  | nil => exact iff_of_true trivial (fun _ h => absurd h List.not_mem_nil)
  | cons k ks ih => rw [NodeOKL, ih, List.forall_mem_cons]

theorem prl_iff (me : Bool) (hist : Nat → Hist) (H : Hist) (ks : List (Node α)) :
    PRL me hist H ks ↔ ∀ k ∈ ks, PR me hist H k := by
  induction ks with
  | nil => exact iff_of_true trivial (fun _ h => absurd h List.not_mem_nil)
  | cons k ks ih => rw [PRL, ih, List.forall_mem_cons]

theorem prd_child (me : Bool) (hist : Nat → Hist) (H : Hist) (i : Nat) (ks : List (Node α)) :
    ∀ a, PRD me hist H i a ks → ∀ k ∈ ks, ∃ H', H'.length = H.length + 1 ∧ PR me hist H' k := by
  induction ks with
  | nil => exact fun _ _ _ h => absurd h List.not_mem_nil
  | cons k ks ih =>
    intro a h
    rw [PRD] at h
    exact List.forall_mem_cons.mpr ⟨⟨_, List.length_append, h.1⟩, ih _ h.2⟩

end Cfr
