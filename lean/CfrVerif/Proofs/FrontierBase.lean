import CfrVerif.Proofs.Traversal
import CfrVerif.Model.Parallel
import CfrVerif.Props.C09
/-!
# What the frontier decompositions of the multi-threaded solvers share

Paths and the payoff cache keyed by them, rearranging appended lists,
the loop over the children of a node, what a `thread_threshold` loop keeps of the entries in its
two vectors and one turn of it, and the solve loop under two iteration functions that agree up to
the order of the draw log.
-/
set_option linter.unusedSectionVars false
namespace Cfr
variable {α : Type} [Field α] [LinearOrder α] [IsStrictOrderedRing α] [Transc α]

/-- a schedule only rearranges the atomic accumulations it is given -/
def Sched.Fair (sched : Sched α) : Prop := ∀ it es, (sched it es).Perm es

theorem Sched.seq_fair : (Sched.seq : Sched α).Fair := fun _ _ => List.Perm.refl _

/-- two solver results agree: bounds, strategies and iteration count are equal and the same
draws were made (in some order) -/
def SolveOut.Same (a b : SolveOut α) : Prop :=
  a.regOne = b.regOne ∧ a.regTwo = b.regTwo ∧ a.stratOne = b.stratOne ∧ a.stratTwo = b.stratTwo ∧
  a.iters = b.iters ∧ a.log.Perm b.log

/-! ## paths -/

theorem prefix_snoc_inj {β : Type} {H l : List β} {x y : β} (h1 : (H ++ [x]) <+: l)
    (h2 : (H ++ [y]) <+: l) : x = y := by
  rw [List.prefix_iff_eq_take] at h1 h2
  have hl : (H ++ [x]).length = (H ++ [y]).length := by simp
  rw [hl, ← h2] at h1
  simpa using h1

def ApartP (p q : Path) : Prop := ¬ p <+: q ∧ ¬ q <+: p

theorem ApartP.symm {p q : Path} (h : ApartP p q) : ApartP q p := ⟨h.2, h.1⟩

theorem apart_snoc (P : Path) {a b : Nat} (h : a ≠ b) : ApartP (P ++ [a]) (P ++ [b]) := by
  constructor
  · rw [List.prefix_append_right_inj, List.cons_prefix_cons]; exact fun h' => h h'.1
  · rw [List.prefix_append_right_inj, List.cons_prefix_cons]; exact fun h' => h h'.1.symm

theorem not_prefix_of_ne {path q : Path} {a b : Nat} (hab : a ≠ b) (hq : path ++ [a] <+: q) :
    ¬ path ++ [b] <+: q := fun h => hab (prefix_snoc_inj hq h)

/-! ## the payoff cache -/

theorem cacheGet_nil (p : Path) : cacheGet ([] : List (Path × α)) p = none := rfl

theorem cacheGet_cons (p : Path) (v : α) (C : List (Path × α)) (q : Path) :
    cacheGet ((p, v) :: C) q = if p = q then some v else cacheGet C q :=
  find?_fst_cons p v C q

theorem cacheGet_eq_none_iff (cache : List (Path × α)) (q : Path) :
    cacheGet cache q = none ↔ ∀ e ∈ cache, e.1 ≠ q :=
  find?_fst_eq_none_iff cache q

theorem cacheGet_snoc_ne (cache : List (Path × α)) (P q : Path) (v : α) (h : q ≠ P) :
    cacheGet (cache ++ [(P, v)]) q = cacheGet cache q := by
  unfold cacheGet
  rw [List.find?_append]
  cases List.find? (fun e => e.1 == q) cache with
  | some x => rfl
  | none => simp [h.symm]

theorem cacheGet_above (cache : List (Path × α)) {P p : Path} (v : α) {a : Nat} {rel : Path}
    (hP : P = p ++ a :: rel) (h1 : ∀ q, q <+: P → cacheGet cache q = none) :
    cacheGet cache p = none ∧ cacheGet (cache ++ [(P, v)]) p = none := by
  have hnone := h1 p (hP ▸ List.prefix_append _ _)
  refine ⟨hnone, (cacheGet_snoc_ne _ _ _ _ fun h => ?_).trans hnone⟩
  simpa using congrArg List.length (h.trans hP)

theorem cacheGet_snoc_self (cache : List (Path × α)) (P : Path) (v : α)
    (h : cacheGet cache P = none) : cacheGet (cache ++ [(P, v)]) P = some v := by
  unfold cacheGet at h ⊢
  rw [List.find?_append]
  cases hf : List.find? (fun e => e.1 == P) cache with
  | some x => simp [hf] at h
  | none => simp

/-! ## the cached traversal `vrecC`, one equation per case -/

theorem vrecC_hit (c : VCtx α) (cache : List (Path × α)) (n : Node α) (path : Path) (pc p1 p2 : α)
    (d : DrawSt α) (v : α) (h : cacheGet cache path = some v) :
    vrecC c cache n path pc p1 p2 d = (v, [], d) := by
  cases n <;> simp only [vrecC, h]

theorem vrecC_term (c : VCtx α) (cache : List (Path × α)) (p : α) (path : Path) (pc p1 p2 : α)
    (d : DrawSt α) (h : cacheGet cache path = none) :
    vrecC c cache (.term p) path pc p1 p2 d = (p, [], d) := by
  simp only [vrecC, h]

theorem vrecC_chance_s (c : VCtx α) (cache : List (Path × α)) (i : Nat) (ks : List (Node α))
    (path : Path) (pc p1 p2 : α) (d : DrawSt α) (h : cacheGet cache path = none)
    (hs : c.sampled = true) :
    vrecC c cache (.chance i ks) path pc p1 p2 d =
      vrecCNth c cache ks (sampleChance c.draw c.pass (c.ch.getD i []) i d).1
        (path ++ [(sampleChance c.draw c.pass (c.ch.getD i []) i d).1]) pc p1 p2
        (sampleChance c.draw c.pass (c.ch.getD i []) i d).2 := by
  simp only [vrecC, h, hs, if_true]

theorem vrecC_chance_f (c : VCtx α) (cache : List (Path × α)) (i : Nat) (ks : List (Node α))
    (path : Path) (pc p1 p2 : α) (d : DrawSt α) (h : cacheGet cache path = none)
    (hs : c.sampled = false) :
    vrecC c cache (.chance i ks) path pc p1 p2 d =
      vrecCChance c cache (c.ch.getD i []) ks path 0 pc p1 p2 d 0 := by
  simp only [vrecC, h, hs, Bool.false_eq_true, if_false]

theorem vrecC_player (c : VCtx α) (cache : List (Path × α)) (one : Bool) (i : Nat)
    (ks : List (Node α)) (path : Path) (pc p1 p2 : α) (d : DrawSt α)
    (h : cacheGet cache path = none) :
    vrecC c cache (.player one i ks) path pc p1 p2 d =
      (let r := vrecCActs c cache one i (if one then pc * p2 else -p1 * pc) (c.strat one i) ks path
        pc p1 p2 d 0 0 0
       (r.1, stratEffs one i (if one then p1 else p2) (c.strat one i) 0 ++ r.2.2.1
          ++ subEffs one i r.2.1 (c.strat one i).length, r.2.2.2)) := by
  simp only [vrecC, h]

/-! ## rearranging appended lists -/

theorem perm_mid {β : Type} {A' A X : List β} (S : List β) (h : (A' ++ X).Perm A) :
    ((A' ++ S) ++ X).Perm (A ++ S) := by
  rw [List.append_assoc]
  exact (List.perm_append_comm.append_left A').trans
    (by rw [← List.append_assoc]; exact h.append_right S)

theorem perm_tail {β : Type} {t' t E : List β} (h : List β) (hp : (t' ++ E).Perm t) :
    (h ++ t' ++ E).Perm (h ++ t) := by
  rw [List.append_assoc]; exact hp.append_left h

theorem perm_rot {β : Type} (A B C : List β) : (A ++ (B ++ C)).Perm ((A ++ C) ++ B) := by
  rw [List.append_assoc]
  exact List.Perm.append_left _ List.perm_append_comm

/-! ## the loop over the children of a node -/

/-- `r'` has the value of `r` and its events except `E` -/
def RelE {β ev : Type} (E : List ev) (r' r : β × List ev) : Prop :=
  r'.1 = r.1 ∧ (r'.2 ++ E).Perm r.2

theorem RelE.wrap {β γ ev : Type} {E : List ev} {r' r : β × List ev} (h : RelE E r' r) (f : β → γ)
    (pre post : β → List ev) :
    RelE E (f r'.1, pre r'.1 ++ r'.2 ++ post r'.1) (f r.1, pre r.1 ++ r.2 ++ post r.1) := by
  unfold RelE
  rw [h.1]
  exact ⟨rfl, perm_mid _ (perm_tail _ h.2)⟩

/-- The shape of the loops over the children `ks` of a node in the pure traversals (`Van.pvChance`,
`Van.pvActs`, `precCActs`): child number `a` with weight `w` is traversed (`run`), its events are
followed by the loop's own (`own`), and its value updates the loop state (`upd`). -/
def kidLoop {S ev : Type} (run : Nat → α → Node α → α × List ev) (upd : S → α → α → S)
    (own : Nat → α → List ev) : List α → List (Node α) → Nat → S → S × List ev
  | w :: ws, k :: ks, a, s =>
    ((kidLoop run upd own ws ks (a + 1) (upd s w (run a w k).1)).1,
      (run a w k).2 ++ (own a (run a w k).1 ++
        (kidLoop run upd own ws ks (a + 1) (upd s w (run a w k).1)).2))
  | _, _, _, s => (s, [])

theorem kidLoop_congr {S ev : Type} (run' run : Nat → α → Node α → α × List ev)
    (upd : S → α → α → S) (own : Nat → α → List ev) (ks : List (Node α)) :
    ∀ (ws : List α) (a0 : Nat) (s : S),
      (∀ a, a0 ≤ a → ∀ k ∈ ks, ∀ w, run' a w k = run a w k) →
      kidLoop run' upd own ws ks a0 s = kidLoop run upd own ws ks a0 s := by
  induction ks with
  | nil => intro ws; cases ws <;> exact fun _ _ _ => rfl
  | cons k ks ih =>
    intro ws a0 s h
    cases ws with
    | nil => rfl
    | cons w ws =>
      simp only [kidLoop]
      rw [h a0 (Nat.le_refl _) k List.mem_cons_self, ih ws (a0 + 1) _ fun a ha k' hk' =>
        h a (Nat.le_of_succ_le ha) k' (List.mem_cons_of_mem _ hk')]

/-- when the traversal of child `b` keeps its value and loses the events `E`, and the traversals
of the other children are unchanged, the loop keeps its final state and loses `E` -/
theorem kidLoop_step {S ev : Type} (run' run : Nat → α → Node α → α × List ev)
    (upd : S → α → α → S) (own : Nat → α → List ev) (E : List ev) (b : Nat)
    (hother : ∀ a, a ≠ b → ∀ w k, run' a w k = run a w k) :
    ∀ (ks : List (Node α)) (ws : List α) (a0 : Nat) (s : S) (w : α) (n : Node α), a0 ≤ b →
      ws[b - a0]? = some w → ks[b - a0]? = some n → RelE E (run' b w n) (run b w n) →
      RelE E (kidLoop run' upd own ws ks a0 s) (kidLoop run upd own ws ks a0 s) := by
  intro ks
  induction ks with
  | nil => intro _ _ _ _ _ _ _ hn; cases hn
  | cons k0 ks ih =>
    intro ws a0 s w n hle hw hn hr
    cases ws with
    | nil => cases hw
    | cons w0 ws =>
      simp only [kidLoop]
      by_cases ha : a0 = b
      · subst ha
        simp only [Nat.sub_self, List.getElem?_cons_zero, Option.some.injEq] at hw hn
        subst hw hn
        rw [hr.1, kidLoop_congr run' run upd own ks ws (a0 + 1) _
          fun a ha k _ w => hother a (Nat.ne_of_gt ha) w k]
        exact ⟨rfl, perm_mid _ hr.2⟩
      · rw [hother a0 ha w0 k0]
        rw [show b - a0 = (b - (a0 + 1)) + 1 by omega, List.getElem?_cons_succ] at hw hn
        obtain ⟨i1, i2⟩ := ih ws (a0 + 1) (upd s w0 (run a0 w0 k0).1) w n (by omega) hw hn hr
        exact ⟨i1, perm_tail _ (perm_tail _ i2)⟩

/-! ## frontiers -/

section
variable {ι : Type} {A : ι → Prop} {R : ι → ι → Prop} {l l' : List ι}

/-- What the `thread_threshold` loops maintain of the entries in their two vectors: every entry
satisfies `A` and any two are related by `R`. -/
def Cut (A : ι → Prop) (R : ι → ι → Prop) (l : List ι) : Prop :=
  (∀ x ∈ l, A x) ∧ l.Pairwise R

theorem Cut.sublist (h : Cut A R l) (hs : l'.Sublist l) : Cut A R l' :=
  ⟨fun x hx => h.1 x (hs.subset hx), h.2.sublist hs⟩

theorem Cut.tail {x : ι} (h : Cut A R (x :: l)) : Cut A R l := h.sublist (List.sublist_cons_self x l)

theorem Cut.left (h : Cut A R (l ++ l')) : Cut A R l := h.sublist (List.sublist_append_left l l')

theorem Cut.perm (hR : ∀ x y, R x y → R y x) (h : Cut A R l) (hp : l.Perm l') : Cut A R l' :=
  ⟨fun x hx => h.1 x (hp.symm.subset hx), h.2.perm hp fun h => hR _ _ h⟩

/-- in a list of pairwise apart paths an entry may give way to entries with distinct paths one
step below a path `P` at or below its own -/
theorem pairwise_apart_replace (path : ι → Path) {it : ι} {rest ch : List ι} {P : Path}
    (hP : path it <+: P) (hch : ∀ y ∈ ch, ∃ a, path y = P ++ [a])
    (hne : ch.Pairwise (fun y z => path y ≠ path z))
    (h : (it :: rest).Pairwise (fun x y => ApartP (path x) (path y))) :
    (ch ++ rest).Pairwise (fun x y => ApartP (path x) (path y)) := by
  obtain ⟨hit, hl⟩ := List.pairwise_cons.mp h
  refine List.pairwise_append.mpr ⟨hne.imp_of_mem fun {y z} hy hz hyz => ?_, hl, fun y hy z hz => ?_⟩
  · -- two of the new paths have the same length
    obtain ⟨a, ha⟩ := hch y hy
    obtain ⟨b, hb⟩ := hch z hz
    have hly : (path y).length = (path z).length := by
      rw [ha, hb, List.length_append, List.length_append]; rfl
    exact ⟨fun hp => hyz (hp.eq_of_length hly), fun hp => hyz (hp.eq_of_length hly.symm).symm⟩
  · -- a new path lies below that of `it`
    obtain ⟨a, ha⟩ := hch y hy
    have hPy : path it <+: path y := ha ▸ hP.trans (List.prefix_append _ _)
    obtain ⟨i1, i2⟩ := hit z hz
    exact ⟨fun hyz => i1 (hPy.trans hyz),
      fun hzy => (List.prefix_or_prefix_of_prefix hPy hzy).elim i1 i2⟩

end

/-! ## the `thread_threshold` loop -/

/-- the entry popped from `queue`, in front of what stays in the two vectors -/
theorem perm_pop {β : Type} {queue : List β} {it : β} (h : queue.getLast? = some it)
    (work : List β) : (queue ++ work).Perm (it :: (queue.dropLast ++ work)) := by
  conv_lhs => rw [← List.dropLast_append_getLast? it h, List.append_assoc]
  exact List.perm_middle

/-- the entries pushed on `work`, in front of what stayed -/
theorem perm_push {β : Type} (queue work ch : List β) :
    (ch ++ (queue ++ work)).Perm (queue ++ (work ++ ch)) := by
  rw [← List.append_assoc queue]; exact List.perm_append_comm

/-- The `while` loop of `thread_threshold` in `vanilla.rs` and `external.rs`, over what popping an
entry pushes on `work` (`expand`, which may also draw samples): `vThreshold` and `eThreshold` are
instances (`vThreshold_eq_loop`, `eThreshold_eq_loop`). -/
def thresholdLoop {β σ : Type} (expand : β → σ → List β × σ) (target : Nat) :
    Nat → List β → List β → σ → List β × List β × σ
  | 0, queue, work, d => (queue, work, d)
  | fuel + 1, queue, work, d =>
    if !(queue.isEmpty && work.isEmpty) && queue.length + work.length < target then
      match queue.getLast? with
      | none => thresholdLoop expand target fuel work queue d
      | some it =>
        thresholdLoop expand target fuel queue.dropLast (work ++ (expand it d).1) (expand it d).2
    else (queue, work, d)

/-- a property of the entries of both vectors (in any order) and the sample state that expanding
one entry preserves holds when the loop stops -/
theorem thresholdLoop_inv {β σ : Type} (expand : β → σ → List β × σ) (target : Nat)
    (P : List β → σ → Prop) (hperm : ∀ l l' d, l.Perm l' → P l d → P l' d)
    (hexp : ∀ it rest d, P (it :: rest) d → P ((expand it d).1 ++ rest) (expand it d).2) :
    ∀ (fuel : Nat) (queue work : List β) (d : σ), P (queue ++ work) d →
      P ((thresholdLoop expand target fuel queue work d).1 ++
          (thresholdLoop expand target fuel queue work d).2.1)
        (thresholdLoop expand target fuel queue work d).2.2 := by
  intro fuel
  induction fuel with
  | zero => exact fun _ _ _ h => h
  | succ fuel ih =>
    intro queue work d h
    rw [thresholdLoop]
    split_ifs
    · cases hq : queue.getLast? with
      | none => exact ih work queue d (hperm _ _ _ List.perm_append_comm h)
      | some it =>
        exact ih _ _ _
          (hperm _ _ _ (perm_push _ _ _) (hexp it _ d (hperm _ _ _ (perm_pop hq work) h)))
    · exact h

/-! ## the solve loop -/

/-- two iteration functions that agree up to the order of the draw log (on states satisfying an
invariant the second one preserves) give the same solve -/
theorem solveLoop_same (stepM stepS : IterFn α) (thr : Option (Ext α)) (Inv : SolveSt α → Prop)
    (hstep : ∀ it s log log', Inv s → log.Perm log' →
      (stepM it s log).1 = (stepS it s log').1 ∧ (stepM it s log).2.1 = (stepS it s log').2.1 ∧
      (stepM it s log).2.2.1 = (stepS it s log').2.2.1 ∧
      (stepM it s log).2.2.2.Perm (stepS it s log').2.2.2 ∧ Inv (stepS it s log').1) :
    ∀ (n it : Nat) (s : SolveSt α) (r1 r2 : Ext α) (log log' : List (DrawRec α)), Inv s →
      log.Perm log' →
      (solveLoop stepM thr n it s r1 r2 log).Same (solveLoop stepS thr n it s r1 r2 log') := by
  intro n
  induction n with
  | zero => exact fun it s r1 r2 log log' _ hl => ⟨rfl, rfl, rfl, rfl, rfl, hl⟩
  | succ n ih =>
    intro it s r1 r2 log log' hi hl
    obtain ⟨h1, h2, h3, h4, h5⟩ := hstep it s log log' hi hl
    rw [solveLoop_succ, solveLoop_succ, h1, h2, h3]
    split_ifs with hb
    · exact ⟨rfl, rfl, rfl, rfl, rfl, h4⟩
    · exact ih (it + 1) _ _ _ _ _ h5 h4

end Cfr
