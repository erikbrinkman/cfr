import CfrVerif.Proofs.Trajectory
/-!
# The sampled regret increments are unbiased estimators of the counterfactual regrets

One chance-sampled pass draws one outcome per chance infoset (`Draws`), independently, outcome
`j` of infoset `i` with its declared probability.  `expectDraws` is the expectation over that
product distribution, as an explicit finite sum.  Provided no chance infoset occurs twice on a
root-to-leaf path (otherwise the two occurrences are perfectly correlated in the sampled pass but
independent in the game — known finding F16), the expected regret accumulation of the sampled
traversal at every `(infoset, action)` equals the accumulation of the unsampled traversal, i.e.
the exact instantaneous counterfactual regret.

Proof outline (`Cfr.Unb`): `expectDraws` is linear and the draw of one infoset can be integrated
first (`expectDraws_pull`, Fubini for the finite product), so that it is independent of whatever
does not read it (`expectDraws_draw`); `pm` is a pure mirror of `vrec` (draws as a function, no
cache, no accumulators) that `vrec` agrees with from any cache consistent with the draws
(`vrec_pm`); a subtree only reads the draws of its own chance infosets (`pm_congr`); the value
ignores the chance reach and the regret deltas are linear in it (`pm_scale`); induction on the tree
(`unb_pm`).  No validity of the profile is needed.  Closed examples over `ℚ` at the end: a game
where both sides are `23/10`, and a well-formed game repeating a chance infoset on a path where the
expectation is `1/4` against the exact `1/8`.
-/
set_option linter.unusedSectionVars false
namespace Cfr
variable {α : Type} [Field α] [LinearOrder α] [IsStrictOrderedRing α]

/-- the draws of one pass: the outcome index of every chance infoset -/
abbrev Draws := Nat → Nat

def expectOne (ps : List α) (f : Nat → α) : α :=
  ((List.range ps.length).map (fun j => ps.getD j 0 * f j)).sum

/-- expectation of `f` over independent draws: infoset `i + t` is drawn from the `t`-th list -/
def expectDraws : List (List α) → Nat → Draws → (Draws → α) → α
  | [], _, k, f => f k
  | ps :: rest, i, k, f =>
    expectOne ps (fun j => expectDraws rest (i + 1) (fun x => if x = i then j else k x) f)

mutual
/-- no chance infoset occurs twice on a root-to-leaf path -/
def NoChanceRepeat : List Nat → Node α → Prop
  | _, .term _ => True
  | seen, .chance i ks => i ∉ seen ∧ NoChanceRepeatL (i :: seen) ks
  | seen, .player _ _ ks => NoChanceRepeatL seen ks
def NoChanceRepeatL : List Nat → List (Node α) → Prop
  | _, [] => True
  | seen, k :: ks => NoChanceRepeat seen k ∧ NoChanceRepeatL seen ks
end

/-- the context of a chance-sampled pass whose draws are `k` -/
def sampledCtx (g : Game α) (strat : Bool → Nat → List α) (pass : Nat) (k : Draws) : VCtx α :=
  ⟨g.chance, true, strat, fun _ i _ _ => k i, pass⟩

/-- the context of the unsampled traversal with the same strategies -/
def fullCtx (g : Game α) (strat : Bool → Nat → List α) (pass : Nat) : VCtx α :=
  ⟨g.chance, false, strat, fun _ _ _ _ => 0, pass⟩


/-! Everything up to `sampled_subtree_unbiased` is internal to the proofs and lives in `Cfr.Unb`. -/
namespace Unb

def upd (k : Draws) (x j : Nat) : Draws := fun y => if y = x then j else k y

theorem upd_eq_update (k : Draws) (x j : Nat) : upd k x j = Function.update k x j :=
  funext fun _ => (Function.update_apply k x j _).symm

theorem upd_same (k : Draws) (x j : Nat) : upd k x j x = j := if_pos rfl
theorem upd_of_not_mem (k : Draws) (i j : Nat) (seen : List Nat) :
    ∀ x, x ∉ i :: seen → upd k i j x = k x :=
  fun _ hx => if_neg fun h => hx (List.mem_cons.mpr (Or.inl h))
theorem upd_upd (k : Draws) (x j j' : Nat) : upd (upd k x j') x j = upd k x j := by
  simp only [upd_eq_update, Function.update_idem]
theorem upd_comm (k : Draws) (x y j j' : Nat) (h : x ≠ y) :
    upd (upd k x j) y j' = upd (upd k y j') x j := by
  simp only [upd_eq_update, Function.update_comm h.symm]

theorem expectOne_nil (f : Nat → α) : expectOne ([] : List α) f = 0 := rfl

theorem expectOne_cons (p : α) (ps : List α) (f : Nat → α) :
    expectOne (p :: ps) f = p * f 0 + expectOne ps (fun j => f (j + 1)) := by
  simp only [expectOne, List.length_cons, List.range_succ_eq_map, List.map_cons, List.sum_cons,
    List.map_map, List.getD_cons_zero]
  rfl

theorem expectOne_add (ps : List α) (f g : Nat → α) :
    expectOne ps (fun j => f j + g j) = expectOne ps f + expectOne ps g := by
  simp only [expectOne, mul_add, List.sum_map_add]

theorem expectOne_mul_left (ps : List α) (c : α) (f : Nat → α) :
    expectOne ps (fun j => c * f j) = c * expectOne ps f := by
  simp only [expectOne, mul_left_comm _ c, List.sum_map_mul_left]

theorem expectOne_const (ps : List α) (c : α) : expectOne ps (fun _ => c) = ps.sum * c := by
  induction ps with
  | nil => simp only [expectOne_nil, List.sum_nil, zero_mul]
  | cons p ps ih => simp only [expectOne_cons, ih, List.sum_cons, add_mul]

theorem expectOne_comm (ps qs : List α) (g : Nat → Nat → α) :
    expectOne ps (fun a => expectOne qs (fun b => g a b))
      = expectOne qs (fun b => expectOne ps (fun a => g a b)) := by
  induction ps generalizing g with
  | nil => simp only [expectOne_nil, expectOne_const, mul_zero]
  | cons p ps ih =>
    simp only [expectOne_cons, ih, expectOne_add, expectOne_mul_left]

theorem expectDraws_cons (ps : List α) (ch : List (List α)) (i : Nat) (k : Draws) (f : Draws → α) :
    expectDraws (ps :: ch) i k f = expectOne ps (fun j => expectDraws ch (i + 1) (upd k i j) f) := rfl

theorem expectDraws_add (ch : List (List α)) (i : Nat) (k : Draws) (f g : Draws → α) :
    expectDraws ch i k (fun x => f x + g x) = expectDraws ch i k f + expectDraws ch i k g := by
  induction ch generalizing i k with
  | nil => rfl
  | cons ps ch ih => simp only [expectDraws_cons, ih, expectOne_add]

theorem expectDraws_mul_left (ch : List (List α)) (i : Nat) (k : Draws) (c : α) (f : Draws → α) :
    expectDraws ch i k (fun x => c * f x) = c * expectDraws ch i k f := by
  induction ch generalizing i k with
  | nil => rfl
  | cons ps ch ih => simp only [expectDraws_cons, ih, expectOne_mul_left]

theorem expectDraws_mul_right (ch : List (List α)) (i : Nat) (k : Draws) (c : α) (f : Draws → α) :
    expectDraws ch i k (fun x => f x * c) = expectDraws ch i k f * c := by
  simp only [mul_comm _ c, expectDraws_mul_left]

theorem expectDraws_zero (ch : List (List α)) (i : Nat) (k : Draws) :
    expectDraws ch i k (fun _ => (0 : α)) = 0 := by
  simpa only [zero_mul] using expectDraws_mul_left ch i k 0 (fun _ => (0 : α))

theorem expectDraws_neg (ch : List (List α)) (i : Nat) (k : Draws) (f : Draws → α) :
    expectDraws ch i k (fun x => - f x) = - expectDraws ch i k f := by
  simpa only [neg_one_mul] using expectDraws_mul_left ch i k (-1) f

theorem expectDraws_const (ch : List (List α)) (h : ∀ ps ∈ ch, ps.sum = 1) (i : Nat) (k : Draws)
    (c : α) : expectDraws ch i k (fun _ => c) = c := by
  induction ch generalizing i k with
  | nil => rfl
  | cons ps ch ih =>
    simp only [expectDraws_cons, ih (fun q hq => h q (List.mem_cons_of_mem _ hq)), expectOne_const,
      h ps List.mem_cons_self, one_mul]

/-- a draw outside the range being integrated can be fixed before or after -/
theorem expectDraws_upd_lt (ch : List (List α)) (s : Nat) (k : Draws) (x j : Nat) (hx : x < s)
    (f : Draws → α) :
    expectDraws ch s k (fun k' => f (upd k' x j)) = expectDraws ch s (upd k x j) f := by
  induction ch generalizing s k with
  | nil => rfl
  | cons ps ch ih =>
    simp only [expectDraws_cons, ih (s + 1) _ (Nat.lt_succ_of_lt hx), upd_comm k x s j _ hx.ne]

/-- Fubini: the draw of one infoset can be integrated first -/
theorem expectDraws_pull (ch : List (List α)) (s : Nat) (k : Draws) (t : Nat) (ps : List α)
    (ht : ch[t]? = some ps) (h1 : ps.sum = 1) (f : Draws → α) :
    expectDraws ch s k f
      = expectOne ps (fun j => expectDraws ch s k (fun k' => f (upd k' (s + t) j))) := by
  induction ch generalizing s k t with
  | nil => rw [List.getElem?_nil] at ht; cases ht
  | cons q ch ih =>
    cases t with
    | zero =>
      obtain rfl : q = ps := Option.some.inj ht
      simp only [expectDraws_cons, Nat.add_zero, expectDraws_upd_lt ch (s + 1) _ s _ s.lt_succ_self,
        upd_upd, expectOne_const, h1, one_mul]
    | succ t =>
      simp only [expectDraws_cons]
      rw [expectOne_comm]
      simp only [ih (s + 1) _ t ht, Nat.succ_add_eq_add_succ]

/-- the draw of infoset `i` is independent of whatever does not read it -/
theorem expectDraws_draw {β : Type} (ch : List (List α)) (k0 : Draws) (i : Nat) (ps : List α)
    (hi : ch[i]? = some ps) (h1 : ps.sum = 1) (φ : β → α) (F : Draws → Nat → β)
    (hF : ∀ k j, F (upd k i j) j = F k j) :
    expectDraws ch 0 k0 (fun k => φ (F k (k i)))
      = expectOne ps (fun j => expectDraws ch 0 k0 (fun k => φ (F k j))) := by
  rw [expectDraws_pull ch 0 k0 i ps hi h1]
  simp only [Nat.zero_add, upd_same, hF]

/-! ## a pure mirror of the traversal: draws given as a function, no cache, no accumulators -/

mutual
def pm (ch : List (List α)) (smp : Bool) (strat : Bool → Nat → List α) (k : Draws) :
    Node α → α → α → α → α × List (Eff α)
  | .term p, _, _, _ => (p, [])
  | .chance i ks, pc, p1, p2 =>
    if smp then pmNth ch smp strat k ks (k i) pc p1 p2
    else pmCh ch smp strat k (ch.getD i []) ks pc p1 p2
  | .player one i ks, pc, p1, p2 =>
    let r := pmActs ch smp strat k one i (if one then pc * p2 else -p1 * pc) (strat one i) ks pc p1 p2 0
    (r.1, stratEffs one i (if one then p1 else p2) (strat one i) 0 ++ r.2.2
      ++ subEffs one i r.2.1 (strat one i).length)
def pmNth (ch : List (List α)) (smp : Bool) (strat : Bool → Nat → List α) (k : Draws) :
    List (Node α) → Nat → α → α → α → α × List (Eff α)
  | [], _, _, _, _ => (0, [])
  | n :: _, 0, pc, p1, p2 => pm ch smp strat k n pc p1 p2
  | _ :: ks, j + 1, pc, p1, p2 => pmNth ch smp strat k ks j pc p1 p2
def pmCh (ch : List (List α)) (smp : Bool) (strat : Bool → Nat → List α) (k : Draws) :
    List α → List (Node α) → α → α → α → α × List (Eff α)
  | p :: ps, n :: ks, pc, p1, p2 =>
    let r := pm ch smp strat k n (pc * p) p1 p2
    let r' := pmCh ch smp strat k ps ks pc p1 p2
    (p * r.1 + r'.1, r.2 ++ r'.2)
  | _, _, _, _, _ => (0, [])
def pmActs (ch : List (List α)) (smp : Bool) (strat : Bool → Nat → List α) (k : Draws)
    (one : Bool) (i : Nat) (mult : α) :
    List α → List (Node α) → α → α → α → Nat → α × α × List (Eff α)
  | s :: σ, n :: ks, pc, p1, p2, a =>
    let r := if one then pm ch smp strat k n pc (p1 * s) p2 else pm ch smp strat k n pc p1 (p2 * s)
    let r' := pmActs ch smp strat k one i mult σ ks pc p1 p2 (a + 1)
    (s * r.1 + r'.1, r.1 * mult * s + r'.2.1, r.2 ++ ⟨one, i, .regret, a, r.1 * mult⟩ :: r'.2.2)
  | _, _, _, _, _, _ => (0, 0, [])
end

section
variable (ch : List (List α)) (smp : Bool) (strat : Bool → Nat → List α) (k : Draws)

theorem pm_term (p pc p1 p2 : α) : pm ch smp strat k (.term p) pc p1 p2 = (p, []) := rfl
theorem pm_chance_s (hs : smp = true) (i : Nat) (ks : List (Node α)) (pc p1 p2 : α) :
    pm ch smp strat k (.chance i ks) pc p1 p2 = pmNth ch smp strat k ks (k i) pc p1 p2 := by
  subst hs; rfl
theorem pm_chance (hs : smp = false) (i : Nat) (ks : List (Node α)) (pc p1 p2 : α) :
    pm ch smp strat k (.chance i ks) pc p1 p2 = pmCh ch smp strat k (ch.getD i []) ks pc p1 p2 := by
  subst hs; rfl
theorem pm_player (one : Bool) (i : Nat) (ks : List (Node α)) (pc p1 p2 : α) :
    pm ch smp strat k (.player one i ks) pc p1 p2 =
      (let r := pmActs ch smp strat k one i (if one then pc * p2 else -p1 * pc) (strat one i) ks
        pc p1 p2 0
       (r.1, stratEffs one i (if one then p1 else p2) (strat one i) 0 ++ r.2.2
        ++ subEffs one i r.2.1 (strat one i).length)) := rfl
theorem pmNth_nil (j : Nat) (pc p1 p2 : α) : pmNth ch smp strat k [] j pc p1 p2 = (0, []) := rfl
theorem pmNth_zero (n : Node α) (ks : List (Node α)) (pc p1 p2 : α) :
    pmNth ch smp strat k (n :: ks) 0 pc p1 p2 = pm ch smp strat k n pc p1 p2 := rfl
theorem pmNth_succ (n : Node α) (ks : List (Node α)) (j : Nat) (pc p1 p2 : α) :
    pmNth ch smp strat k (n :: ks) (j + 1) pc p1 p2 = pmNth ch smp strat k ks j pc p1 p2 := rfl
theorem pmCh_cons (p : α) (ps : List α) (n : Node α) (ks : List (Node α)) (pc p1 p2 : α) :
    pmCh ch smp strat k (p :: ps) (n :: ks) pc p1 p2 =
      (let r := pm ch smp strat k n (pc * p) p1 p2
       let r' := pmCh ch smp strat k ps ks pc p1 p2
       (p * r.1 + r'.1, r.2 ++ r'.2)) := rfl
theorem pmCh_nil_left (ks : List (Node α)) (pc p1 p2 : α) :
    pmCh ch smp strat k [] ks pc p1 p2 = (0, []) := by cases ks <;> rfl
theorem pmCh_nil_right (ch : List (List α)) (smp : Bool) (strat : Bool → Nat → List α) (k : Draws)
    (ps : List α) (pc p1 p2 : α) : pmCh ch smp strat k ps [] pc p1 p2 = (0, []) := by
  cases ps <;> rfl
theorem pmActs_cons (one : Bool) (i : Nat) (mult s : α) (σ : List α) (n : Node α)
    (ks : List (Node α)) (pc p1 p2 : α) (a : Nat) :
    pmActs ch smp strat k one i mult (s :: σ) (n :: ks) pc p1 p2 a =
      (let r := pm ch smp strat k n pc (if one then p1 * s else p1) (if one then p2 else p2 * s)
       let r' := pmActs ch smp strat k one i mult σ ks pc p1 p2 (a + 1)
       (s * r.1 + r'.1, r.1 * mult * s + r'.2.1,
        r.2 ++ ⟨one, i, .regret, a, r.1 * mult⟩ :: r'.2.2)) := by
  cases one <;> rfl
theorem pmActs_nil_left (one : Bool) (i : Nat) (mult : α) (ks : List (Node α)) (pc p1 p2 : α)
    (a : Nat) : pmActs ch smp strat k one i mult [] ks pc p1 p2 a = (0, 0, []) := by
  cases ks <;> rfl
theorem pmActs_nil_right (ch : List (List α)) (smp : Bool) (strat : Bool → Nat → List α) (k : Draws)
    (one : Bool) (i : Nat) (mult : α) (σ : List α) (pc p1 p2 : α) (a : Nat) :
    pmActs ch smp strat k one i mult σ [] pc p1 p2 a = (0, 0, []) := by
  cases σ <;> rfl

end

/-- every cached sample is the draw `k` -/
def ConsK (k : Draws) (d : DrawSt α) : Prop := ∀ i v, assocGet d.chance i = some v → v = k i

theorem ConsK_empty (k : Draws) : ConsK k ({} : DrawSt α) := fun _ _ h => nomatch h

/-- in sampled mode the oracle answers `k` -/
def CtxK (c : VCtx α) (k : Draws) : Prop := c.sampled = true → ∀ i ps, c.draw 0 i c.pass ps = k i

mutual
theorem vrec_pm (c : VCtx α) (k : Draws) (hc : CtxK c k) :
    ∀ (n : Node α) (pc p1 p2 : α) (d : DrawSt α), ConsK k d →
      (vrec c n pc p1 p2 d).1 = (pm c.ch c.sampled c.strat k n pc p1 p2).1 ∧
      (vrec c n pc p1 p2 d).2.1 = (pm c.ch c.sampled c.strat k n pc p1 p2).2 ∧
      ConsK k (vrec c n pc p1 p2 d).2.2
  | .term _ => fun _ _ _ _ hd => ⟨rfl, rfl, hd⟩
  | .chance i ks => fun pc p1 p2 d hd => by
    cases hs : c.sampled with
    | true =>
      obtain ⟨h1, h2, -⟩ := sampleChance_inv (P := fun j v => v = k j) c.draw c.pass (c.ch.getD i []) i d
        hd (hc hs i _)
      rw [vrec_chance_s c hs, h1, ← hs, pm_chance_s _ _ _ _ hs]
      exact vrecNth_pm c k hc ks (k i) pc p1 p2 _ h2
    | false =>
      rw [vrec_chance c hs, ← hs, pm_chance _ _ _ _ hs]
      simpa only [zero_add] using vrecChance_pm c k hc (c.ch.getD i []) ks pc p1 p2 d 0 hd
  | .player one i ks => fun pc p1 p2 d hd => by
    obtain ⟨h1, h2, h3, h4⟩ := vrecActs_pm c k hc one i (if one then pc * p2 else -p1 * pc)
      (c.strat one i) ks pc p1 p2 d 0 0 0 hd
    simp only [vrec_player, pm_player, h1, h2, h3, zero_add, true_and]
    exact h4
theorem vrecNth_pm (c : VCtx α) (k : Draws) (hc : CtxK c k) :
    ∀ (ks : List (Node α)) (j : Nat) (pc p1 p2 : α) (d : DrawSt α), ConsK k d →
      (vrecNth c ks j pc p1 p2 d).1 = (pmNth c.ch c.sampled c.strat k ks j pc p1 p2).1 ∧
      (vrecNth c ks j pc p1 p2 d).2.1 = (pmNth c.ch c.sampled c.strat k ks j pc p1 p2).2 ∧
      ConsK k (vrecNth c ks j pc p1 p2 d).2.2
  | [], _ => fun _ _ _ _ hd => ⟨rfl, rfl, hd⟩
  | n :: _, 0 => vrec_pm c k hc n
  | _ :: ks, j + 1 => vrecNth_pm c k hc ks j
theorem vrecChance_pm (c : VCtx α) (k : Draws) (hc : CtxK c k) :
    ∀ (ps : List α) (ks : List (Node α)) (pc p1 p2 : α) (d : DrawSt α) (acc : α), ConsK k d →
      (vrecChance c ps ks pc p1 p2 d acc).1
        = acc + (pmCh c.ch c.sampled c.strat k ps ks pc p1 p2).1 ∧
      (vrecChance c ps ks pc p1 p2 d acc).2.1 = (pmCh c.ch c.sampled c.strat k ps ks pc p1 p2).2 ∧
      ConsK k (vrecChance c ps ks pc p1 p2 d acc).2.2
  | p :: ps, n :: ks => fun pc p1 p2 d acc hd => by
    obtain ⟨h1, h2, h3⟩ := vrec_pm c k hc n (pc * p) p1 p2 d hd
    have ih := fun acc => vrecChance_pm c k hc ps ks pc p1 p2 _ acc h3
    simp only [vrecChance_cons, pmCh_cons, ih, h1, h2, add_assoc, and_self]
  | [], _ :: _ => fun _ _ _ _ acc hd => ⟨(add_zero acc).symm, rfl, hd⟩
  | _, [] => fun pc p1 p2 d acc hd => by
    rw [vrecChance_nil_right, pmCh_nil_right]; exact ⟨(add_zero acc).symm, rfl, hd⟩
theorem vrecActs_pm (c : VCtx α) (k : Draws) (hc : CtxK c k) (one : Bool) (i : Nat) (mult : α) :
    ∀ (σ : List α) (ks : List (Node α)) (pc p1 p2 : α) (d : DrawSt α) (a : Nat) (eo ex : α),
      ConsK k d →
      (vrecActs c one i mult σ ks pc p1 p2 d a eo ex).1
        = eo + (pmActs c.ch c.sampled c.strat k one i mult σ ks pc p1 p2 a).1 ∧
      (vrecActs c one i mult σ ks pc p1 p2 d a eo ex).2.1
        = ex + (pmActs c.ch c.sampled c.strat k one i mult σ ks pc p1 p2 a).2.1 ∧
      (vrecActs c one i mult σ ks pc p1 p2 d a eo ex).2.2.1
        = (pmActs c.ch c.sampled c.strat k one i mult σ ks pc p1 p2 a).2.2 ∧
      ConsK k (vrecActs c one i mult σ ks pc p1 p2 d a eo ex).2.2.2
  | s :: σ, n :: ks => fun pc p1 p2 d a eo ex hd => by
    obtain ⟨h1, h2, h3⟩ := vrec_pm c k hc n pc (if one then p1 * s else p1)
      (if one then p2 else p2 * s) d hd
    have ih := fun a eo ex => vrecActs_pm c k hc one i mult σ ks pc p1 p2 _ a eo ex h3
    simp only [vrecActs_cons', pmActs_cons, ih, h1, h2, add_assoc, and_self]
  | [], _ :: _ => fun _ _ _ _ _ eo ex hd => ⟨(add_zero eo).symm, (add_zero ex).symm, rfl, hd⟩
  | _, [] => fun pc p1 p2 d a eo ex hd => by
    rw [vrecActs_nil_right, pmActs_nil_right]
    exact ⟨(add_zero eo).symm, (add_zero ex).symm, rfl, hd⟩
end

/-- what a list of accumulations adds to the regret cell `(me, I, a)` -/
def rg (me : Bool) (I a : Nat) (es : List (Eff α)) : α := effSum es me I Slot.regret a

@[simp] theorem rg_nil (me : Bool) (I a : Nat) : rg me I a ([] : List (Eff α)) = 0 := effSum_nil ..
@[simp] theorem rg_append (me : Bool) (I a : Nat) (es es' : List (Eff α)) :
    rg me I a (es ++ es') = rg me I a es + rg me I a es' := effSum_append ..
theorem rg_cons (me : Bool) (I a : Nat) (one : Bool) (i b : Nat) (δ : α) (es : List (Eff α)) :
    rg me I a (⟨one, i, .regret, b, δ⟩ :: es)
      = (if one = me ∧ i = I ∧ b = a then 1 else 0) * δ + rg me I a es := by
  simp only [rg, effSum_cons, true_and, ite_mul, one_mul, zero_mul]
@[simp] theorem rg_stratEffs (me : Bool) (I a : Nat) (one : Bool) (i : Nat) (own : α) (σ : List α)
    (b : Nat) : rg me I a (stratEffs one i own σ b) = 0 := effSum_stratEffs_regret one i own me I a σ b
theorem rg_subEffs (me : Bool) (I a : Nat) (one : Bool) (i : Nat) (sub : α) (n : Nat) :
    rg me I a (subEffs one i sub n) = -((if one = me ∧ i = I ∧ a < n then 1 else 0) * sub) := by
  simp only [rg, effSum_subEffs_regret, ite_mul, one_mul, zero_mul, neg_ite, neg_zero]

section
variable (ch : List (List α)) (smp : Bool) (strat : Bool → Nat → List α) (me : Bool) (I a : Nat)

/-! ## the value ignores the chance reach, the regret deltas are linear in it -/

mutual
theorem pm_scale (k : Draws) (q : α) : ∀ (n : Node α) (pc p1 p2 : α),
    (pm ch smp strat k n (pc * q) p1 p2).1 = (pm ch smp strat k n pc p1 p2).1 ∧
    rg me I a (pm ch smp strat k n (pc * q) p1 p2).2 = q * rg me I a (pm ch smp strat k n pc p1 p2).2
  | .term p => fun _ _ _ => ⟨rfl, (mul_zero q).symm⟩
  | .chance i ks => fun pc p1 p2 => by
    rcases Bool.eq_false_or_eq_true smp with hs | hs
    · simp only [pm_chance_s _ _ _ _ hs]; exact pmNth_scale k q ks (k i) pc p1 p2
    · simp only [pm_chance _ _ _ _ hs]; exact pmCh_scale k q _ ks pc p1 p2
  | .player one i ks => fun pc p1 p2 => by
    have hm : (if one then pc * q * p2 else -p1 * (pc * q))
        = (if one then pc * p2 else -p1 * pc) * q := by
      rw [ite_mul, mul_right_comm, mul_assoc (-p1)]
    obtain ⟨h1, h2, h3⟩ := pmActs_scale k q one i (if one then pc * p2 else -p1 * pc)
      (strat one i) ks pc p1 p2 0
    simp only [pm_player, hm, h1, h2, h3, rg_append, rg_stratEffs, rg_subEffs, zero_add, true_and]
    ring
theorem pmNth_scale (k : Draws) (q : α) : ∀ (ks : List (Node α)) (j : Nat) (pc p1 p2 : α),
    (pmNth ch smp strat k ks j (pc * q) p1 p2).1 = (pmNth ch smp strat k ks j pc p1 p2).1 ∧
    rg me I a (pmNth ch smp strat k ks j (pc * q) p1 p2).2
      = q * rg me I a (pmNth ch smp strat k ks j pc p1 p2).2
  | [], _ => fun _ _ _ => ⟨rfl, (mul_zero q).symm⟩
  | n :: _, 0 => pm_scale k q n
  | _ :: ks, j + 1 => pmNth_scale k q ks j
theorem pmCh_scale (k : Draws) (q : α) : ∀ (ps : List α) (ks : List (Node α)) (pc p1 p2 : α),
    (pmCh ch smp strat k ps ks (pc * q) p1 p2).1 = (pmCh ch smp strat k ps ks pc p1 p2).1 ∧
    rg me I a (pmCh ch smp strat k ps ks (pc * q) p1 p2).2
      = q * rg me I a (pmCh ch smp strat k ps ks pc p1 p2).2
  | p :: ps, n :: ks => fun pc p1 p2 => by
    obtain ⟨h1, h2⟩ := pm_scale k q n (pc * p) p1 p2
    obtain ⟨g1, g2⟩ := pmCh_scale k q ps ks pc p1 p2
    simp only [pmCh_cons, rg_append, mul_right_comm pc q p, h1, h2, g1, g2, mul_add, true_and]
  | [], _ :: _ => fun _ _ _ => ⟨rfl, (mul_zero q).symm⟩
  | _, [] => fun _ _ _ => by simp only [pmCh_nil_right, rg_nil, mul_zero, and_self]
theorem pmActs_scale (k : Draws) (q : α) (one : Bool) (i : Nat) (mult : α) :
    ∀ (σ : List α) (ks : List (Node α)) (pc p1 p2 : α) (b : Nat),
    (pmActs ch smp strat k one i (mult * q) σ ks (pc * q) p1 p2 b).1
      = (pmActs ch smp strat k one i mult σ ks pc p1 p2 b).1 ∧
    (pmActs ch smp strat k one i (mult * q) σ ks (pc * q) p1 p2 b).2.1
      = q * (pmActs ch smp strat k one i mult σ ks pc p1 p2 b).2.1 ∧
    rg me I a (pmActs ch smp strat k one i (mult * q) σ ks (pc * q) p1 p2 b).2.2
      = q * rg me I a (pmActs ch smp strat k one i mult σ ks pc p1 p2 b).2.2
  | s :: σ, n :: ks => fun pc p1 p2 b => by
    obtain ⟨h1, h2⟩ := pm_scale k q n pc (if one then p1 * s else p1) (if one then p2 else p2 * s)
    obtain ⟨g1, g2, g3⟩ := pmActs_scale k q one i mult σ ks pc p1 p2 (b + 1)
    simp only [pmActs_cons, rg_append, rg_cons, h1, h2, g1, g2, g3, true_and]
    constructor <;> ring
  | [], _ :: _ => fun _ _ _ _ => ⟨rfl, (mul_zero q).symm, (mul_zero q).symm⟩
  | _, [] => fun _ _ _ _ => by simp only [pmActs_nil_right, rg_nil, mul_zero, and_self]
end

/-! ## a subtree only reads the draws of its own chance infosets -/

mutual
theorem pm_congr (k k' : Draws) : ∀ (n : Node α) (seen : List Nat) (pc p1 p2 : α),
    NoChanceRepeat seen n → (∀ x, x ∉ seen → k x = k' x) →
    pm ch smp strat k n pc p1 p2 = pm ch smp strat k' n pc p1 p2
  | .term _ => fun _ _ _ _ _ _ => rfl
  | .chance i ks => fun seen pc p1 p2 ⟨hi, hks⟩ hk => by
    have hk' : ∀ x, x ∉ i :: seen → k x = k' x := fun x hx => hk x (mt (List.mem_cons_of_mem _) hx)
    rcases Bool.eq_false_or_eq_true smp with hs | hs
    · rw [pm_chance_s _ _ _ _ hs, pm_chance_s _ _ _ _ hs, hk i hi]
      exact pmNth_congr k k' ks (i :: seen) _ pc p1 p2 hks hk'
    · rw [pm_chance _ _ _ _ hs, pm_chance _ _ _ _ hs]
      exact pmCh_congr k k' _ ks (i :: seen) pc p1 p2 hks hk'
  | .player one i ks => fun seen pc p1 p2 hks hk => by
    rw [pm_player, pm_player, pmActs_congr k k' one i _ _ ks seen pc p1 p2 0 hks hk]
theorem pmNth_congr (k k' : Draws) : ∀ (ks : List (Node α)) (seen : List Nat) (j : Nat) (pc p1 p2 : α),
    NoChanceRepeatL seen ks → (∀ x, x ∉ seen → k x = k' x) →
    pmNth ch smp strat k ks j pc p1 p2 = pmNth ch smp strat k' ks j pc p1 p2
  | [], _, _ => fun _ _ _ _ _ => rfl
  | n :: _, seen, 0 => fun pc p1 p2 h hk => pm_congr k k' n seen pc p1 p2 h.1 hk
  | _ :: ks, seen, j + 1 => fun pc p1 p2 h hk => pmNth_congr k k' ks seen j pc p1 p2 h.2 hk
theorem pmCh_congr (k k' : Draws) : ∀ (ps : List α) (ks : List (Node α)) (seen : List Nat)
    (pc p1 p2 : α), NoChanceRepeatL seen ks → (∀ x, x ∉ seen → k x = k' x) →
    pmCh ch smp strat k ps ks pc p1 p2 = pmCh ch smp strat k' ps ks pc p1 p2
  | p :: ps, n :: ks => fun seen pc p1 p2 h hk => by
    rw [pmCh_cons, pmCh_cons, pm_congr k k' n seen _ p1 p2 h.1 hk,
      pmCh_congr k k' ps ks seen pc p1 p2 h.2 hk]
  | [], _ :: _ => fun _ _ _ _ _ _ => rfl
  | _, [] => fun _ _ _ _ _ _ => by rw [pmCh_nil_right, pmCh_nil_right]
theorem pmActs_congr (k k' : Draws) (one : Bool) (i : Nat) (mult : α) :
    ∀ (σ : List α) (ks : List (Node α)) (seen : List Nat) (pc p1 p2 : α) (b : Nat),
    NoChanceRepeatL seen ks → (∀ x, x ∉ seen → k x = k' x) →
    pmActs ch smp strat k one i mult σ ks pc p1 p2 b = pmActs ch smp strat k' one i mult σ ks pc p1 p2 b
  | s :: σ, n :: ks => fun seen pc p1 p2 b h hk => by
    rw [pmActs_cons, pmActs_cons, pm_congr k k' n seen pc _ _ h.1 hk,
      pmActs_congr k k' one i mult σ ks seen pc p1 p2 (b + 1) h.2 hk]
  | [], _ :: _ => fun _ _ _ _ _ _ _ => rfl
  | _, [] => fun _ _ _ _ _ _ _ => by rw [pmActs_nil_right, pmActs_nil_right]
end

/-- averaging the children of a chance node with the outcome probabilities is what the unsampled
traversal does at that node -/
theorem expectOne_pmNth (k : Draws) : ∀ (ps : List α) (ks : List (Node α)) (pc p1 p2 : α),
    expectOne ps (fun j => (pmNth ch smp strat k ks j pc p1 p2).1)
      = (pmCh ch smp strat k ps ks pc p1 p2).1 ∧
    expectOne ps (fun j => rg me I a (pmNth ch smp strat k ks j pc p1 p2).2)
      = rg me I a (pmCh ch smp strat k ps ks pc p1 p2).2
  | [], _, _, _, _ => by simp only [expectOne_nil, pmCh_nil_left, rg_nil, and_self]
  | _ :: _, [], _, _, _ => by
    simp only [pmNth_nil, pmCh_nil_right, rg_nil, expectOne_const, mul_zero, and_self]
  | p :: ps, n :: ks, pc, p1, p2 => by
    obtain ⟨h1, h2⟩ := expectOne_pmNth k ps ks pc p1 p2
    obtain ⟨g1, g2⟩ := pm_scale ch smp strat me I a k p n pc p1 p2
    simp only [expectOne_cons, pmNth_zero, pmNth_succ, pmCh_cons, rg_append, h1, h2, g1, g2, and_self]

end

/-! ## the expectation of the sampled traversal is the unsampled traversal -/

section
variable (g : Game α) (hsum : ∀ ps ∈ g.chance, ps.sum = 1) (strat : Bool → Nat → List α)
  (k0 : Draws) (me : Bool) (I a : Nat)
include hsum

mutual
theorem unb_pm : ∀ (n : Node α) (seen : List Nat) (pc p1 p2 : α),
    NodeOK g n → NoChanceRepeat seen n →
    expectDraws g.chance 0 k0 (fun k => (pm g.chance true strat k n pc p1 p2).1)
      = (pm g.chance false strat k0 n pc p1 p2).1 ∧
    expectDraws g.chance 0 k0 (fun k => rg me I a (pm g.chance true strat k n pc p1 p2).2)
      = rg me I a (pm g.chance false strat k0 n pc p1 p2).2
  | .term p => fun _ _ _ _ _ _ => by
    simp only [pm_term, rg_nil, expectDraws_const _ hsum, and_self]
  | .chance i ks => fun seen pc p1 p2 ⟨⟨ps, hps, _⟩, _, hoks⟩ ⟨_, hnrs⟩ => by
    have hps1 : ps.sum = 1 := hsum ps (List.mem_of_getElem? hps)
    obtain ⟨e1, e2⟩ := expectOne_pmNth g.chance false strat me I a k0 ps ks pc p1 p2
    -- the draw at `i` first; below it nothing reads that draw
    have pull := fun φ => expectDraws_draw g.chance k0 i ps hps hps1 φ
      (fun k j => pmNth g.chance true strat k ks j pc p1 p2) fun k j =>
        pmNth_congr g.chance true strat (upd k i j) k ks (i :: seen) j pc p1 p2 hnrs
          (upd_of_not_mem k i j seen)
    have ih := fun j => unb_pmNth ks (i :: seen) j pc p1 p2 hoks hnrs
    simp only [pm_chance_s _ _ _ _ rfl, pm_chance _ _ _ _ rfl, List.getD_eq_getElem?_getD, hps,
      Option.getD_some, ← e1, ← e2, pull Prod.fst, pull (rg me I a ·.2), ih, and_self]
  | .player one i ks => fun seen pc p1 p2 ⟨_, _, hoks⟩ hnrs => by
    obtain ⟨h1, h2, h3⟩ := unb_pmActs one i (if one then pc * p2 else -p1 * pc) (strat one i) ks
      seen pc p1 p2 0 hoks hnrs
    simp only [pm_player, rg_append, rg_stratEffs, rg_subEffs, zero_add, expectDraws_add,
      expectDraws_neg, expectDraws_mul_left, h1, h2, h3, and_self]
theorem unb_pmNth : ∀ (ks : List (Node α)) (seen : List Nat) (j : Nat) (pc p1 p2 : α),
    NodeOKL g ks → NoChanceRepeatL seen ks →
    expectDraws g.chance 0 k0 (fun k => (pmNth g.chance true strat k ks j pc p1 p2).1)
      = (pmNth g.chance false strat k0 ks j pc p1 p2).1 ∧
    expectDraws g.chance 0 k0 (fun k => rg me I a (pmNth g.chance true strat k ks j pc p1 p2).2)
      = rg me I a (pmNth g.chance false strat k0 ks j pc p1 p2).2
  | [], _, _ => fun _ _ _ _ _ => by simp only [pmNth_nil, rg_nil, expectDraws_zero, and_self]
  | n :: _, seen, 0 => fun pc p1 p2 hok hnr => unb_pm n seen pc p1 p2 hok.1 hnr.1
  | _ :: ks, seen, j + 1 => fun pc p1 p2 hok hnr => unb_pmNth ks seen j pc p1 p2 hok.2 hnr.2
theorem unb_pmActs (one : Bool) (i : Nat) (mult : α) :
    ∀ (σ : List α) (ks : List (Node α)) (seen : List Nat) (pc p1 p2 : α) (b : Nat),
    NodeOKL g ks → NoChanceRepeatL seen ks →
    expectDraws g.chance 0 k0 (fun k => (pmActs g.chance true strat k one i mult σ ks pc p1 p2 b).1)
      = (pmActs g.chance false strat k0 one i mult σ ks pc p1 p2 b).1 ∧
    expectDraws g.chance 0 k0 (fun k => (pmActs g.chance true strat k one i mult σ ks pc p1 p2 b).2.1)
      = (pmActs g.chance false strat k0 one i mult σ ks pc p1 p2 b).2.1 ∧
    expectDraws g.chance 0 k0
        (fun k => rg me I a (pmActs g.chance true strat k one i mult σ ks pc p1 p2 b).2.2)
      = rg me I a (pmActs g.chance false strat k0 one i mult σ ks pc p1 p2 b).2.2
  | s :: σ, n :: ks => fun seen pc p1 p2 b hok hnr => by
    obtain ⟨r1, r2⟩ := unb_pm n seen pc (if one then p1 * s else p1) (if one then p2 else p2 * s)
      hok.1 hnr.1
    obtain ⟨a1, a2, a3⟩ := unb_pmActs one i mult σ ks seen pc p1 p2 (b + 1) hok.2 hnr.2
    simp only [pmActs_cons, rg_append, rg_cons, expectDraws_add, expectDraws_mul_left,
      expectDraws_mul_right, r1, r2, a1, a2, a3, and_self]
  | [], _ :: _ => fun _ _ _ _ _ _ _ => by
    simp only [pmActs_nil_left, rg_nil, expectDraws_zero, and_self]
  | _, [] => fun _ _ _ _ _ _ _ => by
    simp only [pmActs_nil_right, rg_nil, expectDraws_zero, and_self]
end

end

end Unb
open Unb

/-- chance sampling is unbiased on every subtree and for all reaches: only the arities of the
subtree and the chance probabilities summing to one are used, and the draws of the chance infosets
the subtree does not contain may be anything (`k0`) -/
theorem sampled_subtree_unbiased (g : Game α) (hsum : ∀ ps ∈ g.chance, ps.sum = 1)
    (strat : Bool → Nat → List α) (pass : Nat) (k0 : Draws) (me : Bool) (I a : Nat) (n : Node α)
    (seen : List Nat) (pc p1 p2 : α) (hn : NodeOK g n) (hnr : NoChanceRepeat seen n) :
    expectDraws g.chance 0 k0 (fun k => (vrec (sampledCtx g strat pass k) n pc p1 p2 {}).1)
      = (vrec (fullCtx g strat pass) n pc p1 p2 {}).1 ∧
    expectDraws g.chance 0 k0
        (fun k => effSum (vrec (sampledCtx g strat pass k) n pc p1 p2 {}).2.1 me I Slot.regret a)
      = effSum (vrec (fullCtx g strat pass) n pc p1 p2 {}).2.1 me I Slot.regret a := by
  -- from the empty cache both traversals are their mirrors; the unsampled one reads no draw
  have hs := fun k => vrec_pm (sampledCtx g strat pass k) k (fun _ _ _ => rfl) n pc p1 p2 {}
    (ConsK_empty k)
  have hf := vrec_pm (fullCtx g strat pass) k0 (fun h => nomatch h) n pc p1 p2 {} (ConsK_empty k0)
  simp only [fun k => (hs k).1, fun k => (hs k).2.1, hf.1, hf.2.1]
  exact unb_pm g hsum strat k0 me I a n seen pc p1 p2 hn hnr

/-- **chance sampling is unbiased for the regrets**: for every well-formed game without a
repeated chance infoset on a path, every strategy profile the traversal may read, every infoset
and action, the expectation over the draws of one pass of what the sampled traversal adds to the
regret accumulator equals what the unsampled traversal adds -/
theorem sampled_pass_unbiased (g : Game α) (hg : GameWF g) (hnr : NoChanceRepeat [] g.root)
    (strat : Bool → Nat → List α) (pass : Nat) (me : Bool) (I a : Nat) :
    expectDraws g.chance 0 (fun _ => 0)
        (fun k => effSum (vrec (sampledCtx g strat pass k) g.root 1 1 1 {}).2.1 me I Slot.regret a)
      = effSum (vrec (fullCtx g strat pass) g.root 1 1 1 {}).2.1 me I Slot.regret a :=
  (sampled_subtree_unbiased g (fun ps h => (hg.chancePos ps h).2) strat pass _ me I a g.root [] 1 1 1
    hg.nodes hnr).2

/-- the value returned by the sampled traversal is an unbiased estimate of the game value under
the current strategies -/
theorem sampled_value_unbiased (g : Game α) (hg : GameWF g) (hnr : NoChanceRepeat [] g.root)
    (strat : Bool → Nat → List α) (pass : Nat) :
    expectDraws g.chance 0 (fun _ => 0)
        (fun k => (vrec (sampledCtx g strat pass k) g.root 1 1 1 {}).1)
      = (vrec (fullCtx g strat pass) g.root 1 1 1 {}).1 :=
  (sampled_subtree_unbiased g (fun ps h => (hg.chancePos ps h).2) strat pass _ true 0 0 g.root [] 1 1 1
    hg.nodes hnr).1

namespace Unb

/-! ## non-vacuity, and why `NoChanceRepeat` is assumed (closed examples over `ℚ`) -/

section Examples

/-- a chance root (infoset `0`, odds `1/3 : 2/3`) over two subtrees that both contain the second
chance infoset `1` (odds `1/4 : 3/4`) and a decision node of player one's infoset `0` -/
def ubGame : Game ℚ where
  chance := [[1/3, 2/3], [1/4, 3/4]]
  p1 := [⟨0, [0, 1], none⟩]
  p2 := []
  s1 := []
  s2 := []
  root := .chance 0 [
    .player true 0 [.chance 1 [.term 1, .term 3], .term 0],
    .chance 1 [.term 2, .player true 0 [.term 4, .term (-2)]]]

def ubStrat : Bool → Nat → List ℚ := fun _ _ => [2/5, 3/5]

theorem ubGame_wf : GameWF ubGame where
  chancePos := by decide +kernel
  -- along the tree: an interior node's infoset is declared with as many outcomes (actions) as the
  -- node has children, and these are at least two
  nodes := ⟨⟨_, rfl, rfl⟩, le_rfl,
    ⟨⟨_, rfl, rfl⟩, le_rfl, ⟨⟨_, rfl, rfl⟩, le_rfl, trivial, trivial, trivial⟩, trivial, trivial⟩,
    ⟨⟨_, rfl, rfl⟩, le_rfl, trivial, ⟨⟨_, rfl, rfl⟩, le_rfl, trivial, trivial, trivial⟩, trivial⟩,
    trivial⟩
  recall := fun me => ⟨fun _ => [], by cases me <;> simp [PR, PRL, PRD, ubGame], by simp⟩
  tables1 := ⟨by decide, by decide, by decide, by decide⟩
  tables2 := ⟨by decide, by decide, by decide, by decide⟩
  actsTwo := by decide

theorem ubGame_nr : NoChanceRepeat [] ubGame.root := by
  simp [NoChanceRepeat, NoChanceRepeatL, ubGame]

/-- the theorems apply to this game -/
example (k : Nat) (me : Bool) (I a : Nat) :=
  sampled_pass_unbiased ubGame ubGame_wf ubGame_nr ubStrat k me I a

/-- both sides of `sampled_pass_unbiased` are `1/3·(5/2 - 1) + 2/3·3/4·(4 - 2/5) = 23/10` -/
example :
    expectDraws ubGame.chance 0 (fun _ => 0) (fun k =>
      effSum (vrec (sampledCtx ubGame ubStrat 0 k) ubGame.root 1 1 1 {}).2.1 true 0 Slot.regret 0)
      = 23/10 ∧
    effSum (vrec (fullCtx ubGame ubStrat 0) ubGame.root 1 1 1 {}).2.1 true 0 Slot.regret 0 = 23/10 := by
  decide +kernel

/-- both sides of `sampled_value_unbiased` -/
example :
    expectDraws ubGame.chance 0 (fun _ => 0) (fun k =>
      (vrec (sampledCtx ubGame ubStrat 0 k) ubGame.root 1 1 1 {}).1) = 13/15 ∧
    (vrec (fullCtx ubGame ubStrat 0) ubGame.root 1 1 1 {}).1 = 13/15 := by
  decide +kernel

/-- a single sampled pass is *not* the unsampled one: the statement is about the expectation -/
example : effSum (vrec (sampledCtx ubGame ubStrat 0 (fun _ => 0)) ubGame.root 1 1 1 {}).2.1
    true 0 Slot.regret 0 ≠ 23/10 := by
  decide +kernel

/-- a well-formed game in which the chance infoset `0` (a fair coin) occurs twice on a path
(finding F16): the sampled pass reuses the cached outcome at the second occurrence -/
def ubBad : Game ℚ where
  chance := [[1/2, 1/2]]
  p1 := [⟨0, [0, 1], none⟩]
  p2 := []
  s1 := []
  s2 := []
  root := .chance 0 [.chance 0 [.player true 0 [.term 1, .term 0], .term 0], .term 0]

def ubBadStrat : Bool → Nat → List ℚ := fun _ _ => [1/2, 1/2]

theorem ubBad_wf : GameWF ubBad where
  chancePos := by decide +kernel
  nodes := ⟨⟨_, rfl, rfl⟩, le_rfl,
    ⟨⟨_, rfl, rfl⟩, le_rfl, ⟨⟨_, rfl, rfl⟩, le_rfl, trivial, trivial, trivial⟩, trivial, trivial⟩,
    trivial, trivial⟩
  recall := fun me => ⟨fun _ => [], by cases me <;> simp [PR, PRL, PRD, ubBad], by simp⟩
  tables1 := ⟨by decide, by decide, by decide, by decide⟩
  tables2 := ⟨by decide, by decide, by decide, by decide⟩
  actsTwo := by decide

example : ¬ NoChanceRepeat [] ubBad.root := by
  simp [NoChanceRepeat, NoChanceRepeatL, ubBad]

/-- without `NoChanceRepeat` the regret estimate is biased: `1/4` expected, `1/8` exact -/
example :
    expectDraws ubBad.chance 0 (fun _ => 0) (fun k =>
      effSum (vrec (sampledCtx ubBad ubBadStrat 0 k) ubBad.root 1 1 1 {}).2.1 true 0 Slot.regret 0)
      = 1/4 ∧
    effSum (vrec (fullCtx ubBad ubBadStrat 0) ubBad.root 1 1 1 {}).2.1 true 0 Slot.regret 0 = 1/8 := by
  decide +kernel

/-- … and so is the value estimate: `1/4` expected, `1/8` exact -/
example :
    expectDraws ubBad.chance 0 (fun _ => 0) (fun k =>
      (vrec (sampledCtx ubBad ubBadStrat 0 k) ubBad.root 1 1 1 {}).1) = 1/4 ∧
    (vrec (fullCtx ubBad ubBadStrat 0) ubBad.root 1 1 1 {}).1 = 1/8 := by
  decide +kernel

end Examples

end Unb

end Cfr
