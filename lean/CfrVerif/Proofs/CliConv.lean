import CfrVerif.Model.Cli
import CfrVerif.Proofs.CompileWF
/-!
# What the conversions of `Model/Cli.lean` yield

Over the notation classes the model is written against (so at doubles as well as at an ordered
field): `sortBy` permutes, `zip3` is a nested `zip`; induction over the two ASTs with the
hypothesis for every child; what a successful `Efg.toRaw` / `Efg.leaves` of each kind of node
says about its parts; and the tree handed to `from_root` always has `Raw.Shape`, because the
conversions pair the components up themselves.
-/
namespace Cfr

theorem Efg.induct {α : Type} {P : Efg α → Prop} (term : ∀ oc pays, P (.term oc pays))
    (chance : ∀ info names probs kids oc pays, (∀ k ∈ kids, P k) →
      P (.chance info names probs kids oc pays))
    (player : ∀ num info name acts kids oc pays, (∀ k ∈ kids, P k) →
      P (.player num info name acts kids oc pays)) (n : Efg α) : P n :=
  Efg.rec (motive_2 := fun ks => ∀ k ∈ ks, P k) term chance player (fun _ h => nomatch h)
    (fun _ _ hk hks _ h => (List.mem_cons.1 h).elim (· ▸ hk) (hks _)) n

theorem JState.induct {α : Type} {P : JState α → Prop} (terminal : ∀ p, P (.terminal p))
    (chance : ∀ info names probs kids, (∀ k ∈ kids, P k) → P (.chance info names probs kids))
    (player : ∀ one info acts kids, (∀ k ∈ kids, P k) → P (.player one info acts kids))
    (s : JState α) : P s :=
  JState.rec (motive_2 := fun ks => ∀ k ∈ ks, P k) terminal chance player (fun _ h => nomatch h)
    (fun _ _ hk hks _ h => (List.mem_cons.1 h).elim (· ▸ hk) (hks _)) s

namespace CliP

theorem insertBy_perm {β : Type} (lt : β → β → Bool) (x : β) (l : List β) :
    (insertBy lt x l).Perm (x :: l) := by
  induction l with
  | nil => exact List.Perm.refl _
  | cons y ys ih =>
    rw [insertBy]
    split_ifs
    · exact (List.Perm.cons y ih).trans (List.Perm.swap x y ys)
    · exact List.Perm.refl _

theorem sortBy_perm {β : Type} (lt : β → β → Bool) (l : List β) : (sortBy lt l).Perm l := by
  induction l with
  | nil => exact List.Perm.refl _
  | cons x xs ih => exact (insertBy_perm lt x _).trans (List.Perm.cons x ih)

theorem zip3_eq_zip {β γ δ : Type} : ∀ (a : List β) (b : List γ) (c : List δ),
    zip3 a b c = a.zip (b.zip c)
  | x :: xs, y :: ys, z :: zs => by rw [zip3, zip3_eq_zip xs ys zs]; rfl
  | [], _, _ => by simp [zip3]
  | _ :: _, [], _ => by simp [zip3]
  | _ :: _, _ :: _, [] => by simp [zip3]

theorem mem_zip3_pair {β γ δ : Type} {a : List β} {b : List γ} {c : List δ} {x : γ × δ}
    (h : x ∈ (zip3 a b c).map (·.2)) : x ∈ b.zip c := by
  obtain ⟨e, he, rfl⟩ := List.mem_map.1 h
  rw [zip3_eq_zip] at he
  exact (List.of_mem_zip he).2

theorem map_snd_fst {β γ δ : Type} (es : List (β × γ × δ)) :
    es.map (·.2.1) = (es.map (·.2)).map (·.1) := List.map_map.symm

theorem map_snd_snd {β γ δ : Type} (es : List (β × γ × δ)) :
    es.map (·.2.2) = (es.map (·.2)).map (·.2) := List.map_map.symm

theorem zip3_map_pair {β γ δ : Type} (a : List β) (b : List γ) (c : List δ)
    (h1 : a.length = c.length) (h2 : b.length = c.length) :
    (zip3 a b c).map (·.2) = b.zip c := by
  rw [zip3_eq_zip]
  exact List.map_snd_zip (by rw [List.length_zip]; omega)

theorem map_zip_fst {β γ δ : Type} (w : β → δ) (bs : List β) (ks : List γ)
    (h : bs.length = ks.length) : ((bs.zip ks).map fun e => w e.1) = bs.map w :=
  (List.map_map (f := Prod.fst) (g := w) (l := bs.zip ks)).symm.trans
    (congrArg (List.map w) (List.map_fst_zip h.le))

theorem forall₂_mem_left {β γ : Type} {R : β → γ → Prop} {l : List β} {u : List γ}
    (h : List.Forall₂ R l u) {a : β} (ha : a ∈ l) : ∃ b ∈ u, R a b := by
  induction h with
  | nil => cases ha
  | cons hab _ ih =>
    rcases List.mem_cons.1 ha with rfl | ha
    · exact ⟨_, List.mem_cons_self, hab⟩
    · obtain ⟨b, hb, hr⟩ := ih ha
      exact ⟨b, List.mem_cons_of_mem _ hb, hr⟩

theorem forall₂_mem_right {β γ : Type} {R : β → γ → Prop} {l : List β} {u : List γ}
    (h : List.Forall₂ R l u) {b : γ} (hb : b ∈ u) : ∃ a ∈ l, R a b :=
  forall₂_mem_left (R := flip R) (List.Forall₂.flip (R := flip R) h) hb

theorem forall₂_imp_mem {β γ : Type} {R S : β → γ → Prop} {l : List β} {u : List γ}
    (h : List.Forall₂ R l u) (H : ∀ a ∈ l, ∀ b, R a b → S a b) : List.Forall₂ S l u := by
  induction h with
  | nil => exact .nil
  | cons hab _ ih =>
    exact .cons (H _ List.mem_cons_self _ hab) (ih fun a ha => H a (List.mem_cons_of_mem _ ha))

theorem shapeL_iff {α : Type} (l : List (Raw α)) : Raw.ShapeL l ↔ ∀ r ∈ l, Raw.Shape r := by
  induction l with
  | nil => simp [Raw.ShapeL]
  | cons k ks ih => simp [Raw.ShapeL, ih]

theorem shape_chance {α : Type} (info : Option Nat) (ps : List (α × Raw α))
    (hs : ∀ e ∈ ps, Raw.Shape e.2) : Raw.Shape (.chance info (ps.map (·.1)) (ps.map (·.2))) :=
  ⟨by rw [List.length_map, List.length_map], (shapeL_iff _).2 (List.forall_mem_map.2 hs)⟩

theorem shape_player {α : Type} (one : Bool) (info : Nat) (es : List (Nat × Raw α))
    (hs : ∀ e ∈ es, Raw.Shape e.2) : Raw.Shape (.player one info (es.map (·.1)) (es.map (·.2))) :=
  ⟨by rw [List.length_map, List.length_map], (shapeL_iff _).2 (List.forall_mem_map.2 hs)⟩

theorem JState.toRawL_eq_map {α : Type} (ks : List (JState α)) :
    JState.toRawL ks = ks.map JState.toRaw := by
  induction ks with
  | nil => rw [JState.toRawL, List.map_nil]
  | cons k ks ih => rw [JState.toRawL, ih, List.map_cons]

theorem jstate_shape {α : Type} (s : JState α) : Raw.Shape s.toRaw := by
  induction s using JState.induct with
  | terminal p => rw [JState.toRaw]; trivial
  | chance info names probs kids ih =>
    rw [JState.toRaw, JState.toRawL_eq_map, map_snd_fst, map_snd_snd]
    refine shape_chance _ _ fun e he => ?_
    have := mem_zip3_pair (((sortBy_perm _ _).map _).mem_iff.1 he)
    exact List.forall_mem_map.2 ih _ (List.of_mem_zip this).2
  | player one info acts kids ih =>
    rw [JState.toRaw, JState.toRawL_eq_map]
    refine shape_player _ _ _ fun e he => ?_
    exact List.forall_mem_map.2 ih _ (List.of_mem_zip ((sortBy_perm _ _).mem_iff.1 he)).2

section toRaw
variable {α : Type} [Zero α] [Add α] [Sub α] [LT α] [DecidableLT α] {gi : GlobalInfo α}
  {num info oc : Nat} {name : Option Nat} {names acts : List Nat} {probs : List α}
  {kids : List (Efg α)} {pays : Option (List α)} {cum : α} {r : Raw α}

theorem toRawL_ok : ∀ {ks : List (Efg α)} {rs : List (Raw α)},
    Efg.toRawL gi ks cum = .ok rs → List.Forall₂ (fun k r => Efg.toRaw gi k cum = .ok r) ks rs
  | [], rs, h => by
    rw [Efg.toRawL] at h
    cases h
    exact .nil
  | k :: ks, rs, h => by
    rw [Efg.toRawL] at h
    split at h
    · cases h
    · rename_i r hr
      split at h
      · cases h
      · rename_i rs' hrs
        cases h
        exact .cons hr (toRawL_ok hrs)

theorem toRaw_term_ok {pays : List α} (h : Efg.toRaw gi (.term oc pays) cum = .ok r) :
    ∃ p, assocFind gi.outcomes oc = some p ∧ r = .term (cum + p - gi.sum) := by
  rw [Efg.toRaw] at h
  split at h
  · cases h
  · rename_i p hp
    cases h
    exact ⟨p, hp, rfl⟩

theorem toRaw_chance_ok (h : Efg.toRaw gi (.chance info names probs kids oc pays) cum = .ok r) :
    ∃ np rs, ∃ ps : List (α × Raw α), nodePayoff gi oc = .ok np ∧ Efg.toRawL gi kids (cum + np) = .ok rs ∧
      ps.Perm ((zip3 names probs rs).map (·.2)) ∧
      r = .chance (some info) (ps.map (·.1)) (ps.map (·.2)) := by
  rw [Efg.toRaw] at h
  split at h
  · cases h
  · rename_i np hnp
    split at h
    · cases h
    · rename_i rs hrs
      cases h
      exact ⟨np, rs, _, hnp, hrs, (sortBy_perm _ _).map _,
        congrArg₂ (Raw.chance (some info)) (map_snd_fst _) (map_snd_snd _)⟩

theorem toRaw_player_ok (h : Efg.toRaw gi (.player num info name acts kids oc pays) cum = .ok r) :
    ∃ np label rs, ∃ es : List (Nat × Raw α), nodePayoff gi oc = .ok np ∧
      assocFind (if num = 1 then gi.namesOne else gi.namesTwo) info = some label ∧
      Efg.toRawL gi kids (cum + np) = .ok rs ∧ es.Perm (acts.zip rs) ∧
      r = .player (num == 1) label (es.map (·.1)) (es.map (·.2)) := by
  rw [Efg.toRaw] at h
  split at h
  · cases h
  · split at h
    · cases h
    · rename_i np hnp
      split at h
      · cases h
      · rename_i label hlab
        split at h
        · cases h
        · rename_i rs hrs
          cases h
          exact ⟨np, label, rs, _, hnp, hlab, hrs, sortBy_perm _ _, rfl⟩

theorem toRaw_shape (gi : GlobalInfo α) (n : Efg α) :
    ∀ (cum : α) (r : Raw α), Efg.toRaw gi n cum = .ok r → Raw.Shape r := by
  induction n using Efg.induct with
  | term oc pays =>
    intro cum r h
    obtain ⟨p, -, rfl⟩ := toRaw_term_ok h
    trivial
  | chance info names probs kids oc pays ih =>
    intro cum r h
    obtain ⟨np, rs, ps, -, hrs, hp, rfl⟩ := toRaw_chance_ok h
    refine shape_chance _ _ fun e he => ?_
    obtain ⟨k, hk, hkr⟩ := forall₂_mem_right (toRawL_ok hrs)
      (List.of_mem_zip (mem_zip3_pair (hp.mem_iff.1 he))).2
    exact ih k hk _ _ hkr
  | player num info name acts kids oc pays ih =>
    intro cum r h
    obtain ⟨np, label, rs, es, -, -, hrs, hp, rfl⟩ := toRaw_player_ok h
    refine shape_player _ _ _ fun e he => ?_
    obtain ⟨k, hk, hkr⟩ := forall₂_mem_right (toRawL_ok hrs) (List.of_mem_zip (hp.mem_iff.1 he)).2
    exact ih k hk _ _ hkr

theorem toRawL_shape {rs : List (Raw α)} (h : Efg.toRawL gi kids cum = .ok rs) : ∀ r ∈ rs, Raw.Shape r := fun r hr =>
  let ⟨k, _, hkr⟩ := forall₂_mem_right (toRawL_ok h) hr
  toRaw_shape gi k cum r hkr

end toRaw

theorem fromRootCli_ok {α : Type} [Zero α] [One α] [Add α] [Div α] [LT α] [DecidableLT α] [BEq α]
    [FloatLike α] {raw : Raw α} {sum s : α} {g : Game α}
    (h : fromRootCli raw sum = .ok (g, s)) : fromRoot raw = .ok g ∧ s = sum := by
  unfold fromRootCli at h
  split at h
  · cases h
  · cases h
    exact ⟨‹_›, rfl⟩

section gambitRaw
variable {α : Type} [Zero α] [One α] [Add α] [Sub α] [Mul α] [Div α] [LT α] [DecidableLT α]
  [NatCast α] [FloatLike α]

theorem gambitRaw_ok {numName : Nat → Nat} {f : EfgFile α} {raw : Raw α} {sum : α}
    (h : gambitRaw numName f = .ok (raw, sum)) :
    f.players = 2 ∧ ∃ gi, getGlobalInfo numName f.root = .ok gi ∧
      Efg.toRaw gi f.root 0 = .ok raw ∧ sum = gi.sum := by
  unfold gambitRaw at h
  split_ifs at h with hp
  split at h
  · cases h
  · rename_i gi hgi
    split at h
    · cases h
    · rename_i raw' hr
      cases h
      exact ⟨not_not.1 hp, gi, hgi, hr, rfl⟩

theorem gambitRaw_shape {numName : Nat → Nat} {f : EfgFile α} {raw : Raw α} {sum : α}
    (h : gambitRaw numName f = .ok (raw, sum)) : Raw.Shape raw :=
  let ⟨_, gi, _, hr, _⟩ := gambitRaw_ok h
  toRaw_shape gi f.root 0 raw hr

end gambitRaw

/-! ## the second loop of `get_global_info`, node by node -/

section leaves
variable {α : Type} [One α] [Add α] [Sub α] [Div α] [FloatLike α] {tbl : List (Nat × (α × α))}
  {num info oc : Nat} {name : Option Nat} {names acts : List Nat} {probs : List α}
  {kids : List (Efg α)} {pays : Option (List α)} {cum : α × α} {ls : List (α × α)}

theorem leaves_term_ok {pays : List α} (h : Efg.leaves tbl (.term oc pays) cum = .ok ls) :
    ∃ o, assocFind tbl oc = some o ∧ ls = [addPays cum o] := by
  rw [Efg.leaves] at h
  split at h
  · cases h
  · rename_i o ho
    dsimp only at h
    split_ifs at h
    cases h
    exact ⟨o, ho, rfl⟩

theorem leaves_chance_ok (h : Efg.leaves tbl (.chance info names probs kids oc pays) cum = .ok ls) :
    ∃ c, stepCum tbl oc cum = .ok c ∧ Efg.leavesL tbl kids c = .ok ls := by
  rw [Efg.leaves] at h
  split at h
  · cases h
  · exact ⟨_, ‹_›, h⟩

theorem leaves_player_ok
    (h : Efg.leaves tbl (.player num info name acts kids oc pays) cum = .ok ls) :
    ∃ c, stepCum tbl oc cum = .ok c ∧ Efg.leavesL tbl kids c = .ok ls := by
  rw [Efg.leaves] at h
  split at h
  · cases h
  · exact ⟨_, ‹_›, h⟩

theorem leavesL_ok : ∀ {ks : List (Efg α)} {ls : List (α × α)}, Efg.leavesL tbl ks cum = .ok ls →
    ∀ k ∈ ks, ∃ l, Efg.leaves tbl k cum = .ok l ∧ l ⊆ ls
  | [], _, _, _, hk => nomatch hk
  | k :: ks, ls, h, k', hk => by
    rw [Efg.leavesL] at h
    split at h
    · cases h
    · rename_i a ha
      split at h
      · cases h
      · rename_i b hb
        cases h
        rcases List.mem_cons.1 hk with rfl | hk
        · exact ⟨b, hb, List.subset_append_right a b⟩
        · obtain ⟨l, hl, hsub⟩ := leavesL_ok ha k' hk
          exact ⟨l, hl, List.Subset.trans hsub (List.subset_append_left a b)⟩

end leaves
end CliP
end Cfr
