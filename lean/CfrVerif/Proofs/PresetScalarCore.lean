import CfrVerif.Proofs.PresetSpecLemmas
import CfrVerif.Proofs.ParamSemantics
import Mathlib.Analysis.Convex.SpecificFunctions.Basic
/-!
# Scalar core of the discounted-preset analysis

Abstract (function-level) versions of the potential argument with discounting, the bound of the
negative side, and the Abel summation of the weighted regrets against the stored regrets; then the
one statement about a trace from which the presets follow.

Throughout, one discounted entry is written `y⁺·p − y⁻·n` (`y⁺ = max y 0`, `y⁻ = max (-y) 0`), so
that every step is linear in the two parts.
-/
set_option linter.unusedSectionVars false
namespace Cfr.PS
open Finset

theorem discount_eq_parts (p n x : ℝ) :
    (if 0 < x then x * p else if x < 0 then x * n else x) = max x 0 * p - max (-x) 0 * n := by
  split_ifs with h1 h2
  · rw [max_eq_left h1.le, max_eq_right (neg_nonpos.mpr h1.le), zero_mul, sub_zero]
  · rw [max_eq_right h2.le, max_eq_left (neg_nonneg.mpr h2.le), zero_mul, zero_sub, neg_mul,
      neg_neg]
  · obtain rfl : x = 0 := le_antisymm (not_lt.mp h1) (not_lt.mp h2)
    simp

theorem getD_discount (p : RegretParams ℝ) (t : ℕ) (v : List ℝ) (a : ℕ) (ha : a < v.length) :
    (discountCumRegret p t v).getD a 0
      = max (v.getD a 0) 0 * genDiscount t p.posRegret
        - max (-(v.getD a 0)) 0 * genDiscount t p.negRegret := by
  have h := discountCumRegret_entry p t v a v[a] (by simp [ha])
  rw [List.getD_eq_getElem?_getD, h, Option.getD_some, discount_eq_parts,
    List.getD_eq_getElem?_getD, List.getElem?_eq_getElem ha, Option.getD_some]

theorem pot_step (n : ℕ) (D : ℝ) (x δ : ℕ → ℝ)
    (horth : ∑ a ∈ range n, max (x a) 0 * δ a = 0) (hbd : ∀ a, a < n → |δ a| ≤ D) :
    ∑ a ∈ range n, (max (x a + δ a) 0) ^ 2 ≤ ∑ a ∈ range n, (max (x a) 0) ^ 2 + n * D ^ 2 :=
  calc ∑ a ∈ range n, (max (x a + δ a) 0) ^ 2
      ≤ ∑ a ∈ range n, ((max (x a) 0) ^ 2 + 2 * (max (x a) 0 * δ a) + D ^ 2) :=
        Finset.sum_le_sum fun a ha =>
          have hb := abs_le.mp (hbd a (Finset.mem_range.mp ha))
          (pos_step (x a) (δ a)).trans
            (add_le_add (add_le_add le_rfl (mul_assoc _ _ _).le) (sq_le_sq' hb.1 hb.2))
    _ = ∑ a ∈ range n, (max (x a) 0) ^ 2 + n * D ^ 2 := by
        rw [Finset.sum_add_distrib, Finset.sum_add_distrib, ← Finset.mul_sum, horth, mul_zero,
          add_zero, Finset.sum_const, Finset.card_range, nsmul_eq_mul]

/-- the potential of the stored regrets and of the pre-discount regrets grows by at most `n·D²`
per iteration -/
theorem potential (n T : ℕ) (D : ℝ) (q ρ : ℕ → ℕ → ℝ)
    (h0 : ∀ a, a < n → q 0 a = 0)
    (hpos : ∀ t, 1 ≤ t → t ≤ T → ∀ a, a < n →
      max (q t a) 0 ≤ max (q (t - 1) a + ρ t a) 0)
    (horth : ∀ t, 1 ≤ t → t ≤ T → ∑ a ∈ range n, max (q (t - 1) a) 0 * ρ t a = 0)
    (hbd : ∀ t, 1 ≤ t → t ≤ T → ∀ a, a < n → |ρ t a| ≤ D) :
    ∀ t, t ≤ T → ∑ a ∈ range n, (max (q t a) 0) ^ 2 ≤ t * n * D ^ 2 ∧
      (1 ≤ t → ∑ a ∈ range n, (max (q (t - 1) a + ρ t a) 0) ^ 2 ≤ t * n * D ^ 2) := by
  intro t
  induction t with
  | zero =>
    intro _
    refine ⟨?_, fun h => absurd h (by omega)⟩
    rw [Finset.sum_eq_zero]
    · simp
    · intro a ha
      rw [h0 a (Finset.mem_range.mp ha)]; simp
  | succ t ih =>
    intro ht
    have ih1 := (ih (by omega)).1
    have hs := pot_step n D (q t) (ρ (t + 1)) (horth (t + 1) (by omega) ht)
      (hbd (t + 1) (by omega) ht)
    have h2 : ∑ a ∈ range n, (max (q t a + ρ (t + 1) a) 0) ^ 2 ≤ ((t + 1 : ℕ) : ℝ) * n * D ^ 2 := by
      rw [Nat.cast_succ, add_mul, add_mul, one_mul]
      exact hs.trans (add_le_add ih1 le_rfl)
    refine ⟨le_trans ?_ h2, fun _ => h2⟩
    refine Finset.sum_le_sum fun a ha => ?_
    exact pow_le_pow_left₀ (le_max_right _ _) (hpos (t + 1) (by omega) ht a (Finset.mem_range.mp ha)) 2

theorem pos_le_of_potential (n : ℕ) (D : ℝ) (hD : 0 ≤ D) (t : ℕ) (y : ℕ → ℝ) (a : ℕ) (ha : a < n)
    (h : ∑ a ∈ range n, (max (y a) 0) ^ 2 ≤ t * n * D ^ 2) :
    max (y a) 0 ≤ D * Real.sqrt (n * t) := by
  have h1 : (max (y a) 0) ^ 2 ≤ t * n * D ^ 2 :=
    le_trans (Finset.single_le_sum (f := fun a => (max (y a) 0) ^ 2) (fun _ _ => sq_nonneg _)
      (Finset.mem_range.mpr ha)) h
  have h2 : D * Real.sqrt (n * t) = Real.sqrt (t * n * D ^ 2) := by
    rw [Real.sqrt_mul (mul_nonneg (Nat.cast_nonneg t) (Nat.cast_nonneg n)), Real.sqrt_sq hD,
      mul_comm (t : ℝ) n, mul_comm]
  rw [h2]
  exact Real.le_sqrt_of_sq_le h1

theorem discounted_pos_le (p n y : ℝ) (hp1 : p ≤ 1) (hn0 : 0 ≤ n) :
    max (max y 0 * p - max (-y) 0 * n) 0 ≤ max y 0 := by
  have h1 := mul_le_of_le_one_right (le_max_right y 0) hp1
  have h2 := mul_nonneg (le_max_right (-y) 0) hn0
  exact max_le (by linarith) (le_max_right _ _)

/-! ## Abel summation against the stored regrets

`x t` is the stored regret after iteration `t`, `ρ (t+1)` the instantaneous regret of iteration
`t+1`, so `x t + ρ (t+1)` is the pre-discount regret of iteration `t+1`. -/

/-- the coefficient with which the negative part of the pre-discount regret of iteration `t`
enters -/
noncomputable def kap (w nn : ℕ → ℝ) (t : ℕ) : ℝ := max 0 (w (t + 1) * nn t - w t)

theorem kap_nonneg (w nn : ℕ → ℝ) (t : ℕ) : 0 ≤ kap w nn t := le_max_left _ _

theorem kap_eq_zero (w nn : ℕ → ℝ) (t : ℕ) (h : w (t + 1) * nn t ≤ w t) : kap w nn t = 0 :=
  max_eq_left (sub_nonpos.mpr h)

theorem abel_step (wt wt1 p n y : ℝ) (hH1 : wt ≤ wt1 * p) :
    wt * y - wt1 * (max y 0 * p - max (-y) 0 * n) ≤ max 0 (wt1 * n - wt) * max (-y) 0 := by
  have e : wt * y = wt * max y 0 - wt * max (-y) 0 := by rw [← mul_sub, max_zero_sub_eq_self]
  have h1 := mul_nonneg (le_max_right y 0) (sub_nonneg.mpr hH1)
  have h2 := mul_nonneg (le_max_right (-y) 0) (sub_nonneg.mpr (le_max_right 0 (wt1 * n - wt)))
  linarith

section seq
variable (N : ℕ) (x ρ w pp nn : ℕ → ℝ) (hx0 : x 0 = 0)
  (hx : ∀ t, t < N → x (t + 1) = max (x t + ρ (t + 1)) 0 * pp (t + 1)
    - max (-(x t + ρ (t + 1))) 0 * nn (t + 1))
include hx0 hx

/-- the steps `w_t·y_t − w_{t+1}·x_t ≤ κ_t·y_t⁻` telescope -/
theorem abel (hH1 : ∀ t, t < N → w (t + 1) ≤ w (t + 2) * pp (t + 1)) (hw : 0 ≤ w (N + 1)) :
    ∑ t ∈ range (N + 1), w (t + 1) * ρ (t + 1)
      ≤ w (N + 1) * max (x N + ρ (N + 1)) 0
        + ∑ t ∈ range N, kap w nn (t + 1) * max (-(x t + ρ (t + 1))) 0 := by
  have key : ∑ t ∈ range N, (w (t + 1) * ρ (t + 1) + (w (t + 1) * x t - w (t + 1 + 1) * x (t + 1)))
      ≤ ∑ t ∈ range N, kap w nn (t + 1) * max (-(x t + ρ (t + 1))) 0 := by
    refine Finset.sum_le_sum fun t ht => ?_
    have := abel_step (w (t + 1)) (w (t + 2)) (pp (t + 1)) (nn (t + 1)) (x t + ρ (t + 1))
      (hH1 t (Finset.mem_range.mp ht))
    rw [← hx t (Finset.mem_range.mp ht)] at this
    unfold kap
    linarith
  rw [Finset.sum_add_distrib, Finset.sum_range_sub' (fun t => w (t + 1) * x t), hx0, mul_zero,
    zero_sub] at key
  rw [Finset.sum_range_succ]
  have := mul_le_mul_of_nonneg_left (le_max_left (x N + ρ (N + 1)) 0) hw
  linarith

theorem neg_part_le (D : ℝ) (hρ : ∀ t, t ≤ N → |ρ (t + 1)| ≤ D) (hpp : ∀ t, t < N → 0 ≤ pp (t + 1))
    (hnn : ∀ t, t < N → nn (t + 1) ≤ 1) :
    ∀ t, t ≤ N → max (-(x t + ρ (t + 1))) 0 ≤ ((t : ℝ) + 1) * D := by
  have hD : 0 ≤ D := (abs_nonneg _).trans (hρ 0 (Nat.zero_le _))
  -- `−(x_t + ρ_{t+1}) = −x_t − ρ_{t+1} ≤ t·D + D`
  have hm : ∀ t, t ≤ N → -(x t) ≤ t * D → max (-(x t + ρ (t + 1))) 0 ≤ ((t : ℝ) + 1) * D :=
    fun t ht h => max_le
      ((neg_add _ _).le.trans ((add_le_add h (neg_le.mp (abs_le.mp (hρ t ht)).1)).trans_eq
        (add_one_mul _ _).symm))
      (mul_nonneg (Nat.cast_add_one_pos t).le hD)
  have hxb : ∀ t, t ≤ N → -(x t) ≤ t * D := by
    intro t
    induction t with
    | zero => intro _; simp [hx0]
    | succ t ih =>
      intro ht
      have hy := hm t (by omega) (ih (by omega))
      have h1 := mul_nonneg (le_max_right (x t + ρ (t + 1)) 0) (hpp t ht)
      have h2 := mul_le_of_le_one_right (le_max_right (-(x t + ρ (t + 1))) 0) (hnn t ht)
      -- `−x_{t+1} = y⁻·n − y⁺·p ≤ y⁻·n ≤ y⁻`
      rw [hx t ht, Nat.cast_succ]
      exact (neg_sub _ _).le.trans ((sub_le_self _ h1).trans (h2.trans hy))
  exact fun t ht => hm t ht (hxb t ht)

end seq

theorem sum_le_of_eventually_zero (f c : ℕ → ℝ) (N k : ℕ) (hf : ∀ t, t < N → f t ≤ c t)
    (hc0 : ∀ t, 0 ≤ c t) (hck : ∀ t, k ≤ t → c t = 0) :
    ∑ t ∈ range N, f t ≤ ∑ t ∈ range k, c t := by
  refine le_trans (Finset.sum_le_sum (fun t ht => hf t (Finset.mem_range.mp ht))) ?_
  rcases le_total N k with h | h
  · exact Finset.sum_le_sum_of_subset_of_nonneg (Finset.range_mono h) (fun t _ _ => hc0 t)
  · exact (Finset.sum_subset (Finset.range_mono h)
      (fun t _ ht => hck t (not_lt.mp (fun h' => ht (Finset.mem_range.mpr h'))))).ge

section trace
variable {p : RegretParams ℝ} {n : ℕ} {D : ℝ} {T : ℕ}

theorem trace_entry (tr : RMTrace p n D T) (t : ℕ) (h1 : 1 ≤ t) (hT : t ≤ T) (a : ℕ) (ha : a < n) :
    (tr.Q t).getD a 0
      = max ((tr.Q (t - 1)).getD a 0 + (tr.r t).getD a 0) 0 * genDiscount t p.posRegret
        - max (-((tr.Q (t - 1)).getD a 0 + (tr.r t).getD a 0)) 0 * genDiscount t p.negRegret := by
  have hl1 : a < (tr.Q (t - 1)).length := by rw [tr.hQ]; exact ha
  have hl2 : a < (tr.r t).length := by rw [tr.hr]; exact ha
  rw [tr.hstep t h1 hT, getD_discount _ _ _ _ (by rw [vadd_length]; exact lt_min hl1 hl2),
    vadd_getD _ _ _ hl1 hl2]

theorem trace_bnd (tr : RMTrace p n D T) (t : ℕ) (h1 : 1 ≤ t) (hT : t ≤ T) (a : ℕ) (ha : a < n) :
    |(tr.r t).getD a 0| ≤ D :=
  tr.hbnd t h1 hT _ (getD_mem _ _ (by rw [tr.hr]; exact ha))

theorem trace_orth (tr : RMTrace p n D T) (t : ℕ) (h1 : 1 ≤ t) (hT : t ≤ T) :
    ∑ a ∈ range n, max ((tr.Q (t - 1)).getD a 0) 0 * (tr.r t).getD a 0 = 0 := by
  have h := tr.horth t h1 hT
  rw [← sum_range_dot _ _ (by rw [List.length_map, tr.hQ, tr.hr]), tr.hr] at h
  refine (Finset.sum_congr rfl ?_).trans h
  intro a ha
  rw [getD_map_lt _ _ _ (by rw [tr.hQ]; exact Finset.mem_range.mp ha)]

theorem trace_Q0 (tr : RMTrace p n D T) (a : ℕ) : (tr.Q 0).getD a 0 = 0 := by
  rw [tr.hQ0, List.getD_eq_getElem?_getD]
  by_cases h : a < n <;> simp [h]

/-- the positive part of the pre-discount regrets, by the potential -/
theorem trace_pos (hD : 0 ≤ D) (tr : RMTrace p n D T) (t : ℕ) (h1 : 1 ≤ t) (hT : t ≤ T) (a : ℕ)
    (ha : a < n) :
    max ((tr.Q (t - 1)).getD a 0 + (tr.r t).getD a 0) 0 ≤ D * Real.sqrt (n * t) := by
  have hP := potential n T D (fun t a => (tr.Q t).getD a 0) (fun t a => (tr.r t).getD a 0)
    (fun a _ => trace_Q0 tr a)
    (by
      intro t h1 hT a ha
      have hu := genDiscount_mem_unit t h1
      rw [trace_entry tr t h1 hT a ha]
      exact discounted_pos_le _ _ _ (hu _).2 (hu _).1)
    (fun t h1 hT => trace_orth tr t h1 hT)
    (fun t h1 hT a ha => trace_bnd tr t h1 hT a ha)
  exact pos_le_of_potential n D hD t _ a ha ((hP t hT).2 h1)

/-- **the scalar statement behind every discounted preset.**  Let the weights `w t = t^γ` satisfy
(H1) `w_t ≤ w_{t+1}·p_t` against the discount factor of the positive regrets, and let
`κ_t = (w_{t+1}·n_t − w_t)⁺` vanish for `t > k` (`n_t` the factor of the negative regrets).  Then
the weighted regret of every action is at most `T^γ·D·√(n·T) + C·D` for every
`C ≥ Σ_{t ≤ k} κ_t·t`: Abel summation against the stored regrets, whose positive part the potential
bounds, and whose negative part is at most `t·D`. -/
theorem trace_weighted_regret (hD : 0 ≤ D) (tr : RMTrace p n D T) (a : ℕ) (ha : a < n)
    (γ : ℝ) (hγ : p.strat = γ) (w : ℕ → ℝ) (hw : ∀ t : ℕ, (t : ℝ) ^ γ = w t)
    (hH1 : ∀ t, 1 ≤ t → w t ≤ w (t + 1) * genDiscount t p.posRegret)
    (k : ℕ) (hk : ∀ t, k < t → w (t + 1) * genDiscount t p.negRegret ≤ w t) (C : ℝ)
    (hC : ∑ t ∈ range k, kap w (fun t => genDiscount t p.negRegret) (t + 1) * ((t : ℝ) + 1) ≤ C) :
    tr.weightedRegret a ≤ (T : ℝ) ^ γ * (D * Real.sqrt (n * T)) + C * D := by
  subst hγ
  have hw0 : ∀ t, 0 ≤ w t := fun t => hw t ▸ Real.rpow_nonneg (Nat.cast_nonneg t) _
  have hc0 : ∀ t, 0 ≤ kap w (fun t => genDiscount t p.negRegret) (t + 1) * ((t : ℝ) + 1) * D :=
    fun t => mul_nonneg (mul_nonneg (kap_nonneg _ _ _) (Nat.cast_add_one_pos t).le) hD
  have e : tr.weightedRegret a = ∑ t ∈ range T, w (t + 1) * (tr.r (t + 1)).getD a 0 := by
    unfold RMTrace.weightedRegret
    rw [sum_list_range]
    exact Finset.sum_congr rfl fun t _ => by rw [hw]
  refine le_trans ?_ (add_le_add le_rfl (mul_le_mul_of_nonneg_right hC hD))
  rw [e, hw, Finset.sum_mul]
  cases T with
  | zero =>
    rw [Finset.sum_range_zero]
    exact add_nonneg (mul_nonneg (hw0 _) (mul_nonneg hD (Real.sqrt_nonneg _)))
      (Finset.sum_nonneg fun t _ => hc0 t)
  | succ N =>
    have hx : ∀ t, t < N → (tr.Q (t + 1)).getD a 0
        = max ((tr.Q t).getD a 0 + (tr.r (t + 1)).getD a 0) 0 * genDiscount (t + 1) p.posRegret
          - max (-((tr.Q t).getD a 0 + (tr.r (t + 1)).getD a 0)) 0
            * genDiscount (t + 1) p.negRegret :=
      fun t ht => trace_entry tr (t + 1) (Nat.le_add_left 1 t) (Nat.succ_le_succ ht.le) a ha
    have hA := abel N (fun t => (tr.Q t).getD a 0) (fun t => (tr.r t).getD a 0) w
      (fun t => genDiscount t p.posRegret) (fun t => genDiscount t p.negRegret) (trace_Q0 tr a) hx
      (fun t _ => hH1 (t + 1) (Nat.le_add_left 1 t)) (hw0 _)
    have hm := neg_part_le N (fun t => (tr.Q t).getD a 0) (fun t => (tr.r t).getD a 0)
      (fun t => genDiscount t p.posRegret) (fun t => genDiscount t p.negRegret) (trace_Q0 tr a) hx D
      (fun t ht => trace_bnd tr (t + 1) (Nat.le_add_left 1 t) (Nat.succ_le_succ ht) a ha)
      (fun t _ => (genDiscount_mem_unit (t + 1) (Nat.le_add_left 1 t) _).1)
      (fun t _ => (genDiscount_mem_unit (t + 1) (Nat.le_add_left 1 t) _).2)
    have hP := trace_pos hD tr (N + 1) (Nat.le_add_left 1 N) le_rfl a ha
    refine hA.trans (add_le_add (mul_le_mul_of_nonneg_left hP (hw0 _)) ?_)
    refine sum_le_of_eventually_zero _ _ N k (fun t ht => ?_) hc0 (fun t ht => ?_)
    · rw [mul_assoc]
      exact mul_le_mul_of_nonneg_left (hm t ht.le) (kap_nonneg _ _ _)
    · rw [kap_eq_zero _ _ _ (hk (t + 1) (Nat.lt_succ_of_le ht)), zero_mul, zero_mul]

end trace

end Cfr.PS
