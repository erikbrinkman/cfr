import CfrVerif.Model.Scalar
import Mathlib.Algebra.Order.Field.Basic
import Mathlib.Algebra.BigOperators.Group.List.Basic
import Mathlib.Tactic.Ring
import Mathlib.Tactic.Linarith
import Mathlib.Tactic.Positivity
import Mathlib.Tactic.NormNum
import Mathlib.Tactic.FieldSimp
/-!
# Exact scalars

The theorems are about the model instantiated at a linearly ordered field
(`ℚ`, `ℝ`, …): every value is finite, nothing is NaN, `==` is equality.
-/
set_option linter.unusedSectionVars false
namespace Cfr

/-- an ordered field read as "doubles without rounding": finite, never NaN -/
instance (priority := low) exactFloatLike {α : Type} [Field α] [LinearOrder α] : FloatLike α :=
  ⟨fun _ => true, fun _ => false⟩

section
variable {α : Type} [Field α] [LinearOrder α] [IsStrictOrderedRing α]

@[simp] theorem isFinite_exact (x : α) : FloatLike.isFinite x = true := rfl
@[simp] theorem isNaN_exact (x : α) : FloatLike.isNaN x = false := rfl

theorem lsum_eq_sum (l : List α) : lsum l = l.sum := by
  unfold lsum
  rw [List.sum_eq_foldl]

@[simp] theorem lsum_nil : lsum ([] : List α) = 0 := rfl
@[simp] theorem lsum_cons (x : α) (l : List α) : lsum (x :: l) = x + lsum l := by
  simp [lsum_eq_sum]

theorem sum_map_div (l : List α) (c : α) : (l.map (· / c)).sum = l.sum / c := by
  induction l with
  | nil => simp
  | cons x l ih => simp only [List.map_cons, List.sum_cons, ih, add_div]

theorem fmax_eq_max (a b : α) : fmax a b = max a b := by
  unfold fmax
  simp only [isNaN_exact, Bool.false_eq_true, if_false]
  split_ifs with h
  · exact (max_eq_right h.le).symm
  · exact (max_eq_left (not_lt.mp h)).symm

theorem foldl_fmax_mem_le : ∀ (xs : List α) (x : α),
    (xs.foldl fmax x ∈ x :: xs) ∧ ∀ y ∈ x :: xs, y ≤ xs.foldl fmax x
  | [], x => ⟨List.mem_singleton_self x, fun _ hy => (List.mem_singleton.mp hy).le⟩
  | z :: zs, x => by
    obtain ⟨h1, h2⟩ := foldl_fmax_mem_le zs (fmax x z)
    rw [List.foldl_cons]
    rw [fmax_eq_max] at h1 h2 ⊢
    obtain ⟨hm, h2⟩ := List.forall_mem_cons.mp h2
    constructor
    · rcases List.mem_cons.mp h1 with h | h
      · rw [h]
        rcases max_choice x z with e | e
        · rw [e]; exact List.mem_cons_self
        · rw [e]; exact List.mem_cons_of_mem _ List.mem_cons_self
      · exact List.mem_cons_of_mem _ (List.mem_cons_of_mem _ h)
    · exact List.forall_mem_cons.mpr ⟨(le_max_left x z).trans hm,
        List.forall_mem_cons.mpr ⟨(le_max_right x z).trans hm, h2⟩⟩

theorem fmin_eq_min (a b : α) : fmin a b = min a b := by
  unfold fmin
  simp only [isNaN_exact, Bool.false_eq_true, if_false]
  split_ifs with h
  · exact (min_eq_right h.le).symm
  · exact (min_eq_left (not_lt.mp h)).symm

end
end Cfr
