import CfrVerif.Proofs.Traversal
import CfrVerif.Model.Vanilla
import CfrVerif.Proofs.GameWFLemmas
import CfrVerif.Proofs.InvCompileLemmas
import CfrVerif.Proofs.NodeInd
/-!
# Helper lemmas for `Proofs/InvChanceName.lean` (C12, part 4)

* `reindex ι n` : the tree `n` with every chance infoset index `i` replaced by `ι i`; evaluation
  (`expected`, `view`) and the unsampled traversal (`vrec`) of the reindexed tree over a chance table
  that holds the same distributions under the new numbers coincide with those of `n`;
* `nth p L i` : the position in `L` of the `i`-th entry satisfying `p`; the builder state of the
  original tree is the builder state of the padded tree with the pad entries filtered out (`Rel`),
  the compiled nodes are related by `reindex (nth keep s'.chance)`.
-/
set_option linter.unusedSectionVars false
namespace Cfr.CN
open Cfr
variable {α : Type} [Field α] [LinearOrder α] [IsStrictOrderedRing α]

/-! ## reindexed trees -/

mutual
def reindex (ι : Nat → Nat) : Node α → Node α
  | .term p => .term p
  | .chance i ks => .chance (ι i) (reindexL ι ks)
  | .player o i ks => .player o i (reindexL ι ks)
def reindexL (ι : Nat → Nat) : List (Node α) → List (Node α)
  | [] => []
  | k :: ks => reindex ι k :: reindexL ι ks
end

theorem reindexL_eq_map (ι : Nat → Nat) : ∀ ks : List (Node α), reindexL ι ks = ks.map (reindex ι)
  | [] => rfl
  | k :: ks => by rw [reindexL, reindexL_eq_map ι ks, List.map_cons]

theorem reindex_chance (ι : Nat → Nat) (i : Nat) (ks : List (Node α)) :
    reindex ι (.chance i ks) = .chance (ι i) (ks.map (reindex ι)) := by
  simp only [reindex, reindexL_eq_map]
theorem reindex_player (ι : Nat → Nat) (o : Bool) (i : Nat) (ks : List (Node α)) :
    reindex ι (.player o i ks) = .player o i (ks.map (reindex ι)) := by
  simp only [reindex, reindexL_eq_map]

mutual
def ChLt (N : Nat) : Node α → Prop
  | .term _ => True
  | .chance i ks => i < N ∧ ChLtL N ks
  | .player _ _ ks => ChLtL N ks
def ChLtL (N : Nat) : List (Node α) → Prop
  | [] => True
  | k :: ks => ChLt N k ∧ ChLtL N ks
end

theorem chLtL_iff (N : Nat) : ∀ ks : List (Node α), ChLtL N ks ↔ ∀ k ∈ ks, ChLt N k
  | [] => by simp only [ChLtL, List.not_mem_nil, false_imp_iff, implies_true]
  | k :: ks => by simp only [ChLtL, chLtL_iff N ks, List.forall_mem_cons]

theorem ChLt.mono {N N' : Nat} (h : N ≤ N') (n : Node α) : ChLt N n → ChLt N' n := by
  induction n using Node.induct with
  | term p => intro _; simp only [ChLt]
  | chance i ks ih =>
    intro hn
    simp only [ChLt, chLtL_iff] at hn ⊢
    exact ⟨Nat.lt_of_lt_of_le hn.1 h, fun k hk => ih k hk (hn.2 k hk)⟩
  | player _ _ ks ih =>
    intro hn
    simp only [ChLt, chLtL_iff] at hn ⊢
    exact fun k hk => ih k hk (hn k hk)

theorem ChLtL.mono {N N' : Nat} (h : N ≤ N') (ks : List (Node α)) : ChLtL N ks → ChLtL N' ks := by
  rw [chLtL_iff, chLtL_iff]
  exact fun hn k hk => ChLt.mono h k (hn k hk)

theorem chLt_of_nodeOK (g : Game α) (n : Node α) : NodeOK g n → ChLt g.chance.length n := by
  induction n using Node.induct with
  | term p => intro _; simp only [ChLt]
  | chance i ks ih =>
    intro hn
    simp only [NodeOK, nodeOKL_iff] at hn
    obtain ⟨⟨ps, hps, _⟩, _, hk⟩ := hn
    simp only [ChLt, chLtL_iff]
    exact ⟨lt_of_getElem?_some hps, fun k hk' => ih k hk' (hk k hk')⟩
  | player _ _ ks ih =>
    intro hn
    simp only [NodeOK, nodeOKL_iff] at hn
    simp only [ChLt, chLtL_iff]
    exact fun k hk' => ih k hk' (hn.2.2 k hk')

theorem chLtL_of_nodeOKL (g : Game α) : ∀ (ks : List (Node α)), NodeOKL g ks → ChLtL g.chance.length ks := by
  intro ks
  rw [nodeOKL_iff, chLtL_iff]
  exact fun hn k hk => chLt_of_nodeOK g k (hn k hk)

theorem reindex_congr {N : Nat} {ι ι' : Nat → Nat} (h : ∀ i, i < N → ι i = ι' i) (n : Node α) :
    ChLt N n → reindex ι n = reindex ι' n := by
  induction n using Node.induct with
  | term p => intro _; simp only [reindex]
  | chance i ks ih =>
    intro hn
    simp only [ChLt, chLtL_iff] at hn
    rw [reindex_chance, reindex_chance, h i hn.1,
      List.map_congr_left (fun k hk => ih k hk (hn.2 k hk))]
  | player _ _ ks ih =>
    intro hn
    simp only [ChLt, chLtL_iff] at hn
    rw [reindex_player, reindex_player, List.map_congr_left (fun k hk => ih k hk (hn k hk))]

theorem reindexL_congr {N : Nat} {ι ι' : Nat → Nat} (h : ∀ i, i < N → ι i = ι' i)
    (ks : List (Node α)) : ChLtL N ks → reindexL ι ks = reindexL ι' ks := by
  rw [chLtL_iff, reindexL_eq_map, reindexL_eq_map]
  exact fun hn => List.map_congr_left (fun k hk => reindex_congr h k (hn k hk))

section eval
variable (ch ch' : List (List α)) (ι : Nat → Nat) (N : Nat)
  (hch : ∀ i, i < N → ch'.getD (ι i) [] = ch.getD i [])
include hch

theorem expected_reindex (σ : Bool → Strat α) (n : Node α) :
    ChLt N n → expected ch' σ (reindex ι n) = expected ch σ n := by
  rw [← one_mul (expected ch σ n)]
  induction n using Node.induct with
  | term p => intro _; simp only [reindex, expected, one_mul]
  | chance i ks ih =>
    intro hn
    simp only [ChLt, chLtL_iff] at hn
    simp only [reindex_chance, expected, hch i hn.1]
    exact expectedL_map_smul 1 _ false (fun k hk => ih k hk (hn.2 k hk)) _
  | player _ _ ks ih =>
    intro hn
    simp only [ChLt, chLtL_iff] at hn
    simp only [reindex_player, expected]
    exact expectedL_map_smul 1 _ true (fun k hk => ih k hk (hn k hk)) _

theorem expectedL_reindex (σ : Bool → Strat α) (skip : Bool) :
    ∀ (ps : List α) (ks : List (Node α)), ChLtL N ks →
      expectedL ch' σ skip ps (reindexL ι ks) = expectedL ch σ skip ps ks := by
  intro ps ks hn
  rw [chLtL_iff] at hn
  rw [reindexL_eq_map, ← one_mul (expectedL ch σ skip ps ks)]
  exact expectedL_map_smul 1 _ skip
    (fun k hk => by rw [one_mul]; exact expected_reindex ch ch' ι N hch σ k (hn k hk)) ps

mutual
theorem view_reindex (σo : Strat α) (me : Bool) :
    ∀ (n : Node α), ChLt N n → view ch' σo me (reindex ι n) = view ch σo me n
  | .term _, _ => by simp only [reindex, view]
  | .chance i ks, hn => by
    simp only [ChLt] at hn
    simp only [reindex, view, hch i hn.1, viewL_reindex σo me ks hn.2]
  | .player _ _ ks, hn => by
    simp only [ChLt] at hn
    simp only [reindex, view, viewL_reindex σo me ks hn]
theorem viewL_reindex (σo : Strat α) (me : Bool) :
    ∀ (ks : List (Node α)), ChLtL N ks → viewL ch' σo me (reindexL ι ks) = viewL ch σo me ks
  | [], _ => rfl
  | k :: ks, hn => by
    simp only [ChLtL] at hn
    simp only [reindexL, viewL, view_reindex σo me k hn.1, viewL_reindex σo me ks hn.2]
end

variable [Transc α]

omit hch in
/-- the child loop of a chance node looks at the children only through `vrec` -/
theorem vrecChance_congr {c c' : VCtx α} (f : Node α → Node α) {ks : List (Node α)}
    (h : ∀ k ∈ ks, ∀ pc p1 p2 d, vrec c' (f k) pc p1 p2 d = vrec c k pc p1 p2 d)
    (ps : List α) (pc p1 p2 : α) (d : DrawSt α) (acc : α) :
    vrecChance c' ps (ks.map f) pc p1 p2 d acc = vrecChance c ps ks pc p1 p2 d acc := by
  induction ks generalizing ps d acc with
  | nil => rw [List.map_nil, vrecChance_nil_right, vrecChance_nil_right]
  | cons k ks ih =>
    rw [List.forall_mem_cons] at h
    cases ps with
    | nil => simp only [vrecChance]
    | cons p ps => simp only [List.map_cons, vrecChance_cons, h.1, ih h.2]

omit hch in
/-- so does the loop over the actions of a decision node -/
theorem vrecActs_congr {c c' : VCtx α} (f : Node α → Node α) {ks : List (Node α)}
    (h : ∀ k ∈ ks, ∀ pc p1 p2 d, vrec c' (f k) pc p1 p2 d = vrec c k pc p1 p2 d)
    (one : Bool) (i : Nat) (mult : α) (σ : List α) (pc p1 p2 : α) (d : DrawSt α) (a : Nat)
    (eo ex : α) :
    vrecActs c' one i mult σ (ks.map f) pc p1 p2 d a eo ex
      = vrecActs c one i mult σ ks pc p1 p2 d a eo ex := by
  induction ks generalizing σ d a eo ex with
  | nil => rw [List.map_nil, vrecActs_nil_right, vrecActs_nil_right]
  | cons k ks ih =>
    rw [List.forall_mem_cons] at h
    cases σ with
    | nil => rw [vrecActs_nil_left, vrecActs_nil_left]
    | cons s σ => simp only [List.map_cons, vrecActs_cons', h.1, ih h.2]

theorem vrec_reindex (strat : Bool → Nat → List α) (draw : DrawFn α) (pass : Nat) (n : Node α) :
    ∀ (pc p1 p2 : α) (d : DrawSt α), ChLt N n →
      vrec ⟨ch', false, strat, draw, pass⟩ (reindex ι n) pc p1 p2 d
        = vrec ⟨ch, false, strat, draw, pass⟩ n pc p1 p2 d := by
  induction n using Node.induct with
  | term p => intro pc p1 p2 d _; simp only [reindex, vrec_term]
  | chance i ks ih =>
    intro pc p1 p2 d hn
    simp only [ChLt, chLtL_iff] at hn
    rw [reindex_chance, vrec_chance _ rfl, vrec_chance _ rfl]
    simp only [hch i hn.1]
    exact vrecChance_congr _ (fun k hk pc p1 p2 d => ih k hk pc p1 p2 d (hn.2 k hk)) _ pc p1 p2 d 0
  | player one i ks ih =>
    intro pc p1 p2 d hn
    simp only [ChLt, chLtL_iff] at hn
    simp only [reindex_player, vrec_player,
      vrecActs_congr _ (fun k hk pc p1 p2 d => ih k hk pc p1 p2 d (hn k hk))]

theorem vrecChance_reindex (strat : Bool → Nat → List α) (draw : DrawFn α) (pass : Nat) :
    ∀ (ps : List α) (ks : List (Node α)) (pc p1 p2 : α) (d : DrawSt α) (acc : α), ChLtL N ks →
      vrecChance ⟨ch', false, strat, draw, pass⟩ ps (reindexL ι ks) pc p1 p2 d acc
        = vrecChance ⟨ch, false, strat, draw, pass⟩ ps ks pc p1 p2 d acc := by
  intro ps ks pc p1 p2 d acc hn
  rw [chLtL_iff] at hn
  rw [reindexL_eq_map]
  exact vrecChance_congr _ (fun k hk pc p1 p2 d =>
    vrec_reindex ch ch' ι N hch strat draw pass k pc p1 p2 d (hn k hk)) ps pc p1 p2 d acc

theorem vrecActs_reindex (strat : Bool → Nat → List α) (draw : DrawFn α) (pass : Nat)
    (one : Bool) (i : Nat) (mult : α) :
    ∀ (σ : List α) (ks : List (Node α)) (pc p1 p2 : α) (d : DrawSt α) (a : Nat) (eo ex : α),
      ChLtL N ks →
      vrecActs ⟨ch', false, strat, draw, pass⟩ one i mult σ (reindexL ι ks) pc p1 p2 d a eo ex
        = vrecActs ⟨ch, false, strat, draw, pass⟩ one i mult σ ks pc p1 p2 d a eo ex := by
  intro σ ks pc p1 p2 d a eo ex hn
  rw [chLtL_iff] at hn
  rw [reindexL_eq_map]
  exact vrecActs_congr _ (fun k hk pc p1 p2 d =>
    vrec_reindex ch ch' ι N hch strat draw pass k pc p1 p2 d (hn k hk)) one i mult σ pc p1 p2 d a eo ex

end eval

/-! ## positions of the kept entries -/

section nth
variable {β : Type}

/-- the position in `L` of the `i`-th entry (counting from `0`) that satisfies `p` -/
def nth (p : β → Bool) : List β → Nat → Nat
  | [], _ => 0
  | e :: L, 0 => if p e then 0 else 1 + nth p L 0
  | e :: L, i + 1 => if p e then 1 + nth p L i else 1 + nth p L (i + 1)

theorem nth_cons_neg (p : β → Bool) (e : β) (L : List β) (i : Nat) (he : p e = false) :
    nth p (e :: L) i = 1 + nth p L i := by
  cases i <;> simp [nth, he]

theorem nth_cons_zero (p : β → Bool) (e : β) (L : List β) (he : p e = true) :
    nth p (e :: L) 0 = 0 := by
  simp [nth, he]

theorem nth_cons_succ (p : β → Bool) (e : β) (L : List β) (i : Nat) (he : p e = true) :
    nth p (e :: L) (i + 1) = 1 + nth p L i := by
  simp [nth, he]

theorem nth_getElem? (p : β → Bool) : ∀ (L : List β) (i : Nat), i < (L.filter p).length →
    L[nth p L i]? = (L.filter p)[i]?
  | [], i, h => by simp at h
  | e :: L, i, h => by
    by_cases he : p e = true
    · cases i with
      | zero =>
        rw [nth_cons_zero p e L he, List.filter_cons_of_pos he, List.getElem?_cons_zero,
          List.getElem?_cons_zero]
      | succ i =>
        simp only [List.filter_cons, he, if_true, List.length_cons] at h
        rw [nth_cons_succ p e L i he, Nat.add_comm 1, List.getElem?_cons_succ,
          nth_getElem? p L i (by omega), List.filter_cons_of_pos he, List.getElem?_cons_succ]
    · simp only [Bool.not_eq_true] at he
      simp only [List.filter_cons, he, Bool.false_eq_true, if_false] at h ⊢
      rw [nth_cons_neg p e L i he, Nat.add_comm 1, List.getElem?_cons_succ, nth_getElem? p L i h]

theorem nth_append_lt (p : β → Bool) (M : List β) : ∀ (L : List β) (i : Nat),
    i < (L.filter p).length → nth p (L ++ M) i = nth p L i
  | [], i, h => by simp at h
  | e :: L, i, h => by
    by_cases he : p e = true
    · cases i with
      | zero => simp [nth_cons_zero p e _ he]
      | succ i =>
        simp only [List.filter_cons, he, if_true, List.length_cons] at h
        rw [List.cons_append, nth_cons_succ p e _ i he, nth_cons_succ p e _ i he,
          nth_append_lt p M L i (by omega)]
    · simp only [Bool.not_eq_true] at he
      simp only [List.filter_cons, he, Bool.false_eq_true, if_false] at h
      rw [List.cons_append, nth_cons_neg p e _ i he, nth_cons_neg p e _ i he,
        nth_append_lt p M L i h]

theorem nth_append_new (p : β → Bool) (e : β) (M : List β) (he : p e = true) : ∀ (L : List β),
    nth p (L ++ e :: M) (L.filter p).length = L.length
  | [] => by simp [nth_cons_zero p e M he]
  | x :: L => by
    by_cases hx : p x = true
    · simp only [List.filter_cons, hx, if_true, List.length_cons, List.cons_append]
      rw [nth_cons_succ p x _ _ hx, nth_append_new p e M he L]; omega
    · simp only [Bool.not_eq_true] at hx
      simp only [List.filter_cons, hx, Bool.false_eq_true, if_false, List.length_cons,
        List.cons_append]
      rw [nth_cons_neg p x _ _ hx, nth_append_new p e M he L]; omega

theorem findIdx?_nth (q p : β → Bool) (hqp : ∀ e, q e = true → p e = true) : ∀ (L : List β),
    L.findIdx? q = ((L.filter p).findIdx? q).map (nth p L)
  | [] => by simp
  | x :: L => by
    by_cases hx : p x = true
    · simp only [List.filter_cons, hx, if_true, List.findIdx?_cons]
      by_cases hq : q x = true
      · simp [hq, nth_cons_zero p x L hx]
      · simp only [hq, Bool.false_eq_true, if_false, findIdx?_nth q p hqp L, Option.map_map]
        cases (L.filter p).findIdx? q with
        | none => rfl
        | some i => simp [nth_cons_succ p x L i hx, Nat.add_comm]
    · simp only [Bool.not_eq_true] at hx
      have hq : q x = false := by
        cases h : q x with
        | false => rfl
        | true => rw [hqp x h] at hx; cases hx
      simp only [List.filter_cons, hx, Bool.false_eq_true, if_false, List.findIdx?_cons, hq,
        findIdx?_nth q p hqp L, Option.map_map]
      cases (L.filter p).findIdx? q with
      | none => rfl
      | some i => simp [nth_cons_neg p x L i hx, Nat.add_comm]

theorem find?_filter_imp (q p : β → Bool) (hqp : ∀ e, q e = true → p e = true) (L : List β) :
    (L.filter p).find? q = L.find? q := by
  rw [List.find?_filter]
  congr 1
  funext e
  cases h : q e
  · simp
  · simp [hqp e h]

end nth

/-! ## the builder states of the original and of the padded tree -/

section pad
variable {fresh : Nat → Bool}

/-- the entries of the chance table that are not pads: anonymous ones and those with a name that is
not reserved for padding -/
def keep (fresh : Nat → Bool) (e : Option Nat × List α) : Bool :=
  match e.1 with
  | some l => !fresh l
  | none => true

theorem keep_of_name {l : Nat} (hl : fresh l = false) (e : Option Nat × List α)
    (he : (e.1 == some l) = true) : keep fresh e = true := by
  simp only [keep, beq_iff_eq.mp he, hl, Bool.not_false]

/-- `s'` is the builder state of the padded tree, `s` that of the original: the chance table of `s`
is that of `s'` without the pad entries, which all hold the degenerate distribution -/
structure Rel (fresh : Nat → Bool) (s s' : BState α) : Prop where
  chance : s.chance = s'.chance.filter (keep fresh)
  pads : ∀ e ∈ s'.chance, keep fresh e = false → e.2 = [1]
  infos : ∀ one, s'.infos one = s.infos one
  singles : ∀ one, s'.singles one = s.singles one

theorem Rel.len {s s' : BState α} (h : Rel fresh s s') :
    (s'.chance.filter (keep fresh)).length = s.chance.length := by rw [h.chance]

theorem Rel.appendKeep {s s' : BState α} (h : Rel fresh s s') (e : Option Nat × List α)
    (he : keep fresh e = true) :
    Rel fresh ({ s with chance := s.chance ++ [e] } : BState α)
      ({ s' with chance := s'.chance ++ [e] } : BState α) where
  chance := by
    show s.chance ++ [e] = (s'.chance ++ [e]).filter (keep fresh)
    rw [List.filter_append, List.filter_cons_of_pos he, List.filter_nil, h.chance]
  pads x hx hk := by
    rcases List.mem_append.mp hx with hx | hx
    · exact h.pads x hx hk
    · rw [List.mem_singleton.mp hx, he] at hk; cases hk
  infos := h.infos
  singles := h.singles

theorem Rel.appendPad {s s' : BState α} (h : Rel fresh s s') (l : Nat) (hl : fresh l = true) :
    Rel fresh s ({ s' with chance := s'.chance ++ [(some l, [1])] } : BState α) where
  chance := by
    have hk : keep fresh ((some l, [1]) : Option Nat × List α) = false := by
      simp only [keep, hl, Bool.not_true]
    show s.chance = (s'.chance ++ [(some l, [1])]).filter (keep fresh)
    rw [List.filter_append, List.filter_cons_of_neg (by rw [hk]; exact Bool.false_ne_true),
      List.filter_nil, List.append_nil, h.chance]
  pads x hx hk := by
    rcases List.mem_append.mp hx with hx | hx
    · exact h.pads x hx hk
    · rw [List.mem_singleton.mp hx]
  infos := h.infos
  singles := h.singles

theorem Rel.setInfos {s s' : BState α} (h : Rel fresh s s') (one : Bool) (l : List PInfo) :
    Rel fresh (s.setInfos one l) (s'.setInfos one l) where
  chance := by rw [BState.chance_setInfos, BState.chance_setInfos, h.chance]
  pads := by rw [BState.chance_setInfos]; exact h.pads
  infos me := by rw [BState.infos_setInfos, BState.infos_setInfos, h.infos]
  singles me := by rw [BState.singles_setInfos, BState.singles_setInfos, h.singles]

theorem Rel.setSingles {s s' : BState α} (h : Rel fresh s s') (one : Bool) (l : List (Nat × Nat)) :
    Rel fresh (s.setSingles one l) (s'.setSingles one l) where
  chance := by rw [BState.chance_setSingles, BState.chance_setSingles, h.chance]
  pads := by rw [BState.chance_setSingles]; exact h.pads
  infos me := by rw [BState.infos_setSingles, BState.infos_setSingles, h.infos]
  singles me := by rw [BState.singles_setSingles, BState.singles_setSingles, h.singles]

/-- appending to the padded table does not move the nodes built before -/
theorem Rel.lift {s s' : BState α} (h : Rel fresh s s') (M : List (Option Nat × List α))
    (n : Node α) (hn : ChLt s.chance.length n) :
    reindex (nth (keep fresh) (s'.chance ++ M)) n = reindex (nth (keep fresh) s'.chance) n :=
  reindex_congr (fun i hi => nth_append_lt _ M _ i (by rw [h.len]; exact hi)) n hn

theorem Rel.liftL {s s' : BState α} (h : Rel fresh s s') (M : List (Option Nat × List α))
    (ns : List (Node α)) (hn : ChLtL s.chance.length ns) :
    reindexL (nth (keep fresh) (s'.chance ++ M)) ns = reindexL (nth (keep fresh) s'.chance) ns :=
  reindexL_congr (fun i hi => nth_append_lt _ M _ i (by rw [h.len]; exact hi)) ns hn

/-- related results of `compile` started in the padded state `s'` -/
def NodeRes (fresh : Nat → Bool) (s' : BState α) (x y : Node α × BState α) : Prop :=
  Rel fresh x.2 y.2 ∧ (∃ M, y.2.chance = s'.chance ++ M) ∧ ChLt x.2.chance.length x.1 ∧
    y.1 = reindex (nth (keep fresh) y.2.chance) x.1
def ActRes (fresh : Nat → Bool) (s' : BState α) (x y : List (Node α) × BState α) : Prop :=
  Rel fresh x.2 y.2 ∧ (∃ M, y.2.chance = s'.chance ++ M) ∧ ChLtL x.2.chance.length x.1 ∧
    y.1 = reindexL (nth (keep fresh) y.2.chance) x.1

/-- a node compiled first, then its later siblings: the node is re-based on the final table -/
theorem NodeRes.consAct {s' : BState α} {x y : Node α × BState α}
    {u v : List (Node α) × BState α} (hxy : NodeRes fresh s' x y) (huv : ActRes fresh y.2 u v) :
    ActRes fresh s' (x.1 :: u.1, u.2) (y.1 :: v.1, v.2) := by
  obtain ⟨ht, ⟨M, hM⟩, hn, hn'⟩ := hxy
  obtain ⟨hu, ⟨M2, hM2⟩, hns, hns'⟩ := huv
  have hle : x.2.chance.length ≤ u.2.chance.length := by
    rw [ht.chance, hu.chance, hM2, List.filter_append, List.length_append]
    exact Nat.le_add_right _ _
  refine ⟨hu, ⟨M ++ M2, by rw [hM2, hM, List.append_assoc]⟩, ⟨ChLt.mono hle _ hn, hns⟩, ?_⟩
  show _ = reindex _ _ :: reindexL _ _
  rw [hn', hns', hM2, ht.lift M2 _ hn]

/-- a later step that appends to the table it starts from appends to the earlier one -/
theorem NodeRes.trans {s' t' : BState α} {M : List (Option Nat × List α)}
    (hM : t'.chance = s'.chance ++ M) {x y : Node α × BState α} (h : NodeRes fresh t' x y) :
    NodeRes fresh s' x y := by
  obtain ⟨hu, ⟨M2, hM2⟩, hn, hn'⟩ := h
  exact ⟨hu, ⟨M ++ M2, by rw [hM2, hM, List.append_assoc]⟩, hn, hn'⟩

theorem res_same {s s' : BState α} (h : Rel fresh s s') (n : Node α)
    (hn : ChLt s.chance.length n) :
    NodeRes fresh s' (n, s) (reindex (nth (keep fresh) s'.chance) n, s') :=
  ⟨h, ⟨[], (List.append_nil _).symm⟩, hn, rfl⟩

theorem res_single_new {s s' : BState α} (h : Rel fresh s s') (e : Option Nat × List α)
    (he : keep fresh e = true) (n : Node α) (hn : ChLt s.chance.length n) :
    NodeRes fresh s' (n, ({ s with chance := s.chance ++ [e] } : BState α))
      (reindex (nth (keep fresh) s'.chance) n, ({ s' with chance := s'.chance ++ [e] } : BState α)) :=
  ⟨h.appendKeep e he, ⟨[e], rfl⟩, ChLt.mono (by rw [List.length_append]; exact Nat.le_add_right _ _) n hn,
    (h.lift [e] n hn).symm⟩

theorem res_new {s s' : BState α} (h : Rel fresh s s') (e : Option Nat × List α)
    (he : keep fresh e = true) (kids : List (Node α)) (hk : ChLtL s.chance.length kids) :
    NodeRes fresh s' (.chance s.chance.length kids, ({ s with chance := s.chance ++ [e] } : BState α))
      (.chance s'.chance.length (reindexL (nth (keep fresh) s'.chance) kids),
        ({ s' with chance := s'.chance ++ [e] } : BState α)) := by
  have hlen : s.chance.length < (s.chance ++ [e]).length := by
    rw [List.length_append]; exact Nat.lt_succ_self _
  refine ⟨h.appendKeep e he, ⟨[e], rfl⟩, ⟨hlen, ChLtL.mono hlen.le kids hk⟩, ?_⟩
  show _ = Node.chance _ _
  rw [h.liftL [e] kids hk, ← h.len, nth_append_new _ e [] he]

theorem registerChance_cn (info : Option Nat) (hinfo : ∀ l, info = some l → fresh l = false)
    (probs : List α) (kids : List (Node α)) {s s' : BState α} (h : Rel fresh s s')
    (hk : ChLtL s.chance.length kids) :
    ExRel (NodeRes fresh s') (registerChance info probs kids s)
      (registerChance info probs (reindexL (nth (keep fresh) s'.chance) kids) s') := by
  match kids, info, hk, hinfo with
  | [], _, _, _ => rfl
  | [k], none, hk, _ => exact res_same h k hk.1
  | [k], some l, hk, hinfo =>
    have hl := hinfo l rfl
    simp only [registerChance, reindexL]
    rw [h.chance, find?_filter_imp _ _ (keep_of_name hl)]
    cases hf : s'.chance.find? (fun e => e.1 == some l) with
    | some e =>
      dsimp only
      split_ifs
      · exact res_same h k hk.1
      · rfl
    | none =>
      rw [← h.chance]
      exact res_single_new h _ (by simp only [keep, hl, Bool.not_false]) k hk.1
  | k1 :: k2 :: ks, none, hk, _ => exact res_new h _ rfl _ hk
  | k1 :: k2 :: ks, some l, hk, hinfo =>
    have hl := hinfo l rfl
    simp only [registerChance, reindexL]
    rw [findIdx?_nth _ _ (keep_of_name hl) s'.chance, ← h.chance]
    cases hf : s.chance.findIdx? (fun e => e.1 == some l) with
    | some i =>
      have hi := (List.findIdx?_eq_some_iff_getElem.mp hf).1
      simp only [Option.map_some]
      rw [nth_getElem? _ _ i (by rw [h.len]; exact hi), ← h.chance]
      split_ifs
      · exact res_same h (.chance i (k1 :: k2 :: ks)) ⟨hi, hk⟩
      · rfl
    | none => exact res_new h _ (by simp only [keep, hl, Bool.not_false]) _ hk

/-- a pad registers its name with the degenerate distribution, once -/
theorem registerChance_padname (l : Nat) (hl : fresh l = true) (ps : List α) (n' : Node α)
    {s s' : BState α} (h : Rel fresh s s') :
    ∃ t' M, registerChance (some l) ps [n'] s' = .ok (n', t') ∧ Rel fresh s t' ∧
      t'.chance = s'.chance ++ M := by
  simp only [registerChance]
  cases hf : s'.chance.find? (fun e => e.1 == some l) with
  | some e =>
    have he1 : e.1 = some l := by simpa using List.find?_some hf
    have : e.2 = [1] := h.pads e (List.mem_of_find?_eq_some hf) (by simp only [keep, he1, hl, Bool.not_true])
    simp only [this, beq_self_eq_true, if_true]
    exact ⟨s', [], rfl, h, (List.append_nil _).symm⟩
  | none => exact ⟨_, [(some l, [1])], rfl, h.appendPad l hl, rfl⟩

theorem registerSingle_cn (one : Bool) (info a : Nat) {s s' : BState α} (h : Rel fresh s s') :
    ExRel (fun t t' => Rel fresh t t' ∧ t'.chance = s'.chance)
      (registerSingle one info a s) (registerSingle one info a s') := by
  unfold registerSingle
  rw [h.infos, h.singles]
  split_ifs
  · rfl
  · split
    · split_ifs
      · rfl
      · exact ⟨h, rfl⟩
    · exact ⟨h.setSingles one _, BState.chance_setSingles _ _ _⟩

theorem registerPlayer_cn (one : Bool) (info : Nat) (acts : List Nat) (prev : Prev)
    {s s' : BState α} (h : Rel fresh s s') :
    ExRel (fun x y => x.1 = y.1 ∧ Rel fresh x.2 y.2 ∧ y.2.chance = s'.chance)
      (registerPlayer one info acts prev s) (registerPlayer one info acts prev s') := by
  unfold registerPlayer
  rw [h.infos, h.singles]
  split
  · split
    · split_ifs
      · rfl
      · rfl
      · exact ⟨rfl, h, rfl⟩
    · rfl
  · split_ifs
    · rfl
    · exact ⟨rfl, h.setInfos one _, BState.chance_setInfos _ _ _⟩
    · rfl

def POK (fresh : Nat → Bool) : Raw α → Raw α → Prop := SimOK (Rel fresh) (NodeRes fresh)

theorem actRes_nil {s s' : BState α} (h : Rel fresh s s') : ActRes fresh s' ([], s) ([], s') :=
  ⟨h, ⟨[], (List.append_nil _).symm⟩, trivial, rfl⟩

end pad
end Cfr.CN
