import CfrVerif.Proofs.Basic
import CfrVerif.Model.Compile
/-!
# What the registration steps and `compile` do to the builder state

A registration step either finds its key and returns the state as it is, or appends one fresh
entry to one table (`BState.addInfo`, `addSingle`, `addChance`); `compile` threads the state
through these steps.  The invariants of the later files are all shown to survive the three
appends, and the theorems about `compile` are proved by induction over its successful runs
(`compile_ok_rec`).
-/
set_option linter.unusedSectionVars false
namespace Cfr

/-! ## lists -/

theorem lt_of_getElem?_some {β : Type} {l : List β} {i : Nat} {e : β} (hi : l[i]? = some e) :
    i < l.length := (List.getElem?_eq_some_iff.mp hi).1

theorem prefix_getElem? {β : Type} {l l' : List β} (h : l <+: l') {i : Nat} {e : β}
    (hi : l[i]? = some e) : l'[i]? = some e := by
  obtain ⟨hlt, rfl⟩ := List.getElem?_eq_some_iff.mp hi
  exact List.prefix_iff_getElem?.mp h i hlt

theorem getElem?_concat_eq_some {β : Type} {l : List β} {x e : β} {i : Nat} :
    (l ++ [x])[i]? = some e ↔ l[i]? = some e ∨ (i = l.length ∧ x = e) := by
  rcases Nat.lt_trichotomy i l.length with h | h | h
  · rw [List.getElem?_append_left h]
    exact ⟨Or.inl, fun h' => h'.resolve_right fun h2 => absurd h2.1 (Nat.ne_of_lt h)⟩
  · subst h
    rw [List.getElem?_concat_length, List.getElem?_eq_none (Nat.le_refl _)]
    simp
  · rw [List.getElem?_eq_none (by simp; omega), List.getElem?_eq_none (by omega)]
    simp [Nat.ne_of_gt h]

theorem Except.bind_ok {ε β γ : Type} (b : β) (f : β → Except ε γ) :
    (Except.ok b : Except ε β).bind f = f b := rfl

theorem Except.bind_eq_ok {ε β γ : Type} {x : Except ε β} {f : β → Except ε γ} {c : γ} :
    x.bind f = .ok c ↔ ∃ b, x = .ok b ∧ f b = .ok c := by
  cases x with
  | error e => exact ⟨nofun, nofun⟩
  | ok b => exact ⟨fun h => ⟨b, rfl, h⟩, fun ⟨_, hb, h⟩ => by cases hb; exact h⟩

theorem Except.bind_eq_error {ε β γ : Type} {x : Except ε β} {f : β → Except ε γ} {e : ε} :
    x.bind f = .error e ↔ x = .error e ∨ ∃ b, x = .ok b ∧ f b = .error e := by
  cases x with
  | error e' => exact ⟨fun h => .inl (by cases h; rfl), fun h => h.elim (fun h' => by cases h'; rfl) nofun⟩
  | ok b => exact ⟨fun h => .inr ⟨b, rfl, h⟩, fun h => h.elim nofun fun ⟨_, hb, h⟩ => by cases hb; exact h⟩

theorem eq_of_not_bne {β : Type} [BEq β] [LawfulBEq β] {a b : β} (h : ¬ (a != b) = true) : a = b :=
  not_not.mp fun hc => h (bne_iff_ne.mpr hc)

theorem two_le_length_of {β : Type} : ∀ {l : List β}, l ≠ [] → (∀ k, l ≠ [k]) → 2 ≤ l.length
  | [], h, _ => absurd rfl h
  | [k], _, h => absurd rfl (h k)
  | _ :: _ :: l, _, _ => Nat.le_add_left 2 l.length

theorem eraseDups_length_le : ∀ l : List Nat, l.eraseDups.length ≤ l.length
  | [] => Nat.le_refl _
  | a :: as => by
    have h1 := List.length_filter_le (fun b => !b == a) as
    have h2 := eraseDups_length_le (as.filter fun b => !b == a)
    rw [List.eraseDups_cons, List.length_cons, List.length_cons]
    omega
termination_by l => l.length
decreasing_by
  have := List.length_filter_le (fun b => !b == a) as
  rw [List.length_cons]; omega

theorem eraseDups_length_eq_iff : ∀ l : List Nat, l.eraseDups.length = l.length ↔ l.Nodup
  | [] => by simp
  | a :: as => by
    have h1 := List.length_filter_le (fun b => !b == a) as
    have h2 := eraseDups_length_le (as.filter fun b => !b == a)
    have ih := eraseDups_length_eq_iff (as.filter fun b => !b == a)
    have hf : (as.filter fun b => !b == a) = as ↔ a ∉ as := by
      rw [List.filter_eq_self]
      exact ⟨fun h ha => by simpa using h a ha, fun h b hb => by simpa using fun (e : b = a) => h (e ▸ hb)⟩
    rw [List.eraseDups_cons, List.length_cons, List.length_cons, List.nodup_cons]
    constructor
    · intro h
      have h3 : (as.filter fun b => !b == a) = as :=
        List.filter_eq_self.mpr (List.length_filter_eq_length_iff.mp (by omega))
      rw [h3] at ih h
      exact ⟨hf.mp h3, ih.mp (by omega)⟩
    · rintro ⟨ha, hn⟩
      rw [hf.mpr ha] at ih ⊢
      rw [ih.mpr hn]
termination_by l => l.length
decreasing_by
  have := List.length_filter_le (fun b => !b == a) as
  rw [List.length_cons]; omega
/-- the duplicate check of `registerPlayer` -/
theorem eraseDups_check (l : List Nat) : (l.eraseDups.length == l.length) = true ↔ l.Nodup :=
  beq_iff_eq.trans (eraseDups_length_eq_iff l)

/-! ## builder states -/

variable {α : Type}

@[simp] theorem BState.infos_setInfos (s : BState α) (one me : Bool) (l : List PInfo) :
    (s.setInfos one l).infos me = if one = me then l else s.infos me := by
  cases one <;> cases me <;> rfl
@[simp] theorem BState.singles_setInfos (s : BState α) (one me : Bool) (l : List PInfo) :
    (s.setInfos one l).singles me = s.singles me := by
  cases one <;> cases me <;> rfl
@[simp] theorem BState.chance_setInfos (s : BState α) (one : Bool) (l : List PInfo) :
    (s.setInfos one l).chance = s.chance := by
  cases one <;> rfl
@[simp] theorem BState.infos_setSingles (s : BState α) (one me : Bool) (l : List (Nat × Nat)) :
    (s.setSingles one l).infos me = s.infos me := by
  cases one <;> cases me <;> rfl
@[simp] theorem BState.singles_setSingles (s : BState α) (one me : Bool) (l : List (Nat × Nat)) :
    (s.setSingles one l).singles me = if one = me then l else s.singles me := by
  cases one <;> cases me <;> rfl
@[simp] theorem BState.chance_setSingles (s : BState α) (one : Bool) (l : List (Nat × Nat)) :
    (s.setSingles one l).chance = s.chance := by
  cases one <;> rfl
@[simp] theorem BState.infos_setChance (s : BState α) (c : List (Option Nat × List α)) (me : Bool) :
    ({ s with chance := c } : BState α).infos me = s.infos me := by
  cases me <;> rfl
@[simp] theorem BState.singles_setChance (s : BState α) (c : List (Option Nat × List α))
    (me : Bool) : ({ s with chance := c } : BState α).singles me = s.singles me := by
  cases me <;> rfl

@[simp] theorem BState.infos_empty (one : Bool) : ({} : BState α).infos one = [] := by
  cases one <;> rfl
@[simp] theorem BState.singles_empty (one : Bool) : ({} : BState α).singles one = [] := by
  cases one <;> rfl

@[simp] theorem Prev.get_set (p : Prev) (one me : Bool) (v : Option (Nat × Nat)) :
    (p.set one v).get me = if one = me then v else p.get me := by
  cases one <;> cases me <;> rfl
@[simp] theorem Prev.get_empty (one : Bool) : ({} : Prev).get one = none := by
  cases one <;> rfl

/-! ### the three appends -/

def BState.addInfo (s : BState α) (one : Bool) (e : PInfo) : BState α :=
  s.setInfos one (s.infos one ++ [e])
def BState.addSingle (s : BState α) (one : Bool) (x : Nat × Nat) : BState α :=
  s.setSingles one (s.singles one ++ [x])
def BState.addChance (s : BState α) (x : Option Nat × List α) : BState α :=
  { s with chance := s.chance ++ [x] }

namespace BState
variable (s : BState α) (one me : Bool) (e : PInfo) (x : Nat × Nat) (c : Option Nat × List α)

@[simp] theorem infos_addInfo_self : (s.addInfo one e).infos one = s.infos one ++ [e] := by
  simp [addInfo]
@[simp] theorem singles_addInfo : (s.addInfo one e).singles me = s.singles me :=
  singles_setInfos ..
@[simp] theorem chance_addInfo : (s.addInfo one e).chance = s.chance := chance_setInfos ..
@[simp] theorem infos_addSingle : (s.addSingle one x).infos me = s.infos me := infos_setSingles ..
@[simp] theorem singles_addSingle_self :
    (s.addSingle one x).singles one = s.singles one ++ [x] := by
  simp [addSingle]
@[simp] theorem chance_addSingle : (s.addSingle one x).chance = s.chance := chance_setSingles ..
@[simp] theorem infos_addChance : (s.addChance c).infos me = s.infos me := infos_setChance ..
@[simp] theorem singles_addChance : (s.addChance c).singles me = s.singles me :=
  singles_setChance ..
@[simp] theorem chance_addChance : (s.addChance c).chance = s.chance ++ [c] := rfl

variable {s one e x}

theorem forall_infos_addInfo {P : Bool → List PInfo → Prop} (h : ∀ me, P me (s.infos me))
    (h1 : P one (s.infos one ++ [e])) : ∀ me, P me ((s.addInfo one e).infos me) := by
  intro me
  by_cases hm : one = me
  · subst hm; rw [infos_addInfo_self]; exact h1
  · rw [addInfo, infos_setInfos, if_neg hm]; exact h me

theorem forall_singles_addSingle {P : Bool → List (Nat × Nat) → Prop}
    (h : ∀ me, P me (s.singles me)) (h1 : P one (s.singles one ++ [x])) :
    ∀ me, P me ((s.addSingle one x).singles me) := by
  intro me
  by_cases hm : one = me
  · subst hm; rw [singles_addSingle_self]; exact h1
  · rw [addSingle, singles_setSingles, if_neg hm]; exact h me

end BState

/-! ## the tables only grow at the end -/

structure GrowsAll (s s' : BState α) : Prop where
  chance : s.chance <+: s'.chance
  infos : ∀ one, s.infos one <+: s'.infos one
  singles : ∀ one, s.singles one <+: s'.singles one

theorem GrowsAll.refl (s : BState α) : GrowsAll s s :=
  ⟨List.prefix_refl _, fun _ => List.prefix_refl _, fun _ => List.prefix_refl _⟩
theorem GrowsAll.trans {s s' s'' : BState α} (h : GrowsAll s s') (h' : GrowsAll s' s'') : GrowsAll s s'' :=
  ⟨h.chance.trans h'.chance, fun one => (h.infos one).trans (h'.infos one),
    fun one => (h.singles one).trans (h'.singles one)⟩

theorem GrowsAll.addInfo (s : BState α) (one : Bool) (e : PInfo) : GrowsAll s (s.addInfo one e) :=
  ⟨by simp, BState.forall_infos_addInfo (P := fun me I => s.infos me <+: I)
    (fun _ => List.prefix_refl _) (List.prefix_append _ _), by simp⟩
theorem GrowsAll.addSingle (s : BState α) (one : Bool) (x : Nat × Nat) :
    GrowsAll s (s.addSingle one x) :=
  ⟨by simp, by simp, BState.forall_singles_addSingle (P := fun me S => s.singles me <+: S)
    (fun _ => List.prefix_refl _) (List.prefix_append _ _)⟩
theorem GrowsAll.addChance (s : BState α) (x : Option Nat × List α) : GrowsAll s (s.addChance x) :=
  ⟨by simp, by simp, by simp⟩

/-! ## the registration steps -/

theorem registerSingle_cases {one : Bool} {info a : Nat} {s s' : BState α}
    (h : registerSingle one info a s = .ok s') :
    (s' = s ∧ (info, a) ∈ s.singles one) ∨
    (s' = s.addSingle one (info, a) ∧ (∀ e ∈ s.infos one, e.label ≠ info) ∧
      ∀ e ∈ s.singles one, e.1 ≠ info) := by
  unfold registerSingle at h
  split_ifs at h with hany
  split at h
  · rename_i e hf
    split_ifs at h with hne
    cases h
    have hp := List.find?_some hf
    have h1 : e.1 = info := eq_of_beq hp
    have h2 : e.2 = a := eq_of_not_bne hne
    exact .inl ⟨rfl, by rw [← h1, ← h2]; exact List.mem_of_find?_eq_some hf⟩
  · rename_i hf
    cases h
    exact .inr ⟨rfl, fun e he hl => hany (List.any_eq_true.mpr ⟨e, he, beq_iff_eq.mpr hl⟩),
      fun e he hl => List.find?_eq_none.mp hf e he (beq_iff_eq.mpr hl)⟩

theorem registerSingle_spec {one : Bool} {info a : Nat} {s s' : BState α}
    (h : registerSingle one info a s = .ok s') :
    GrowsAll s s' ∧ (info, a) ∈ s'.singles one ∧ ∀ me, s'.infos me = s.infos me := by
  rcases registerSingle_cases h with ⟨rfl, hm⟩ | ⟨rfl, _⟩
  · exact ⟨.refl _, hm, fun _ => rfl⟩
  · exact ⟨.addSingle .., by simp, fun _ => BState.infos_addSingle ..⟩

theorem registerSingle_ok_of {one : Bool} {info a : Nat} {s : BState α}
    (h1 : ∀ e ∈ s.infos one, e.label ≠ info) (h2 : ∀ e ∈ s.singles one, e.1 = info → e.2 = a) :
    ∃ s', registerSingle one info a s = .ok s' := by
  unfold registerSingle
  rw [if_neg fun h => by
    obtain ⟨e, he, hl⟩ := List.any_eq_true.mp h
    exact h1 e he (eq_of_beq hl)]
  split
  · rename_i e hf
    have hp := List.find?_some hf
    rw [if_neg fun hne => bne_iff_ne.mp hne (h2 e (List.mem_of_find?_eq_some hf) (eq_of_beq hp))]
    exact ⟨_, rfl⟩
  · exact ⟨_, rfl⟩

theorem registerSingle_err {one : Bool} {info a : Nat} {s : BState α} {e : GameError}
    (h : registerSingle one info a s = .error e) : e = .actionsNotEqual := by
  unfold registerSingle at h
  split_ifs at h with h1
  · cases h; rfl
  · split at h
    · split_ifs at h; cases h; rfl
    · cases h

theorem registerPlayer_cases {one : Bool} {info : Nat} {acts : List Nat} {prev : Prev} {i : Nat}
    {s s' : BState α} (h : registerPlayer one info acts prev s = .ok (i, s')) :
    (s' = s ∧ (s.infos one)[i]? = some ⟨info, acts, prev.get one⟩) ∨
    (s' = s.addInfo one ⟨info, acts, prev.get one⟩ ∧ i = (s.infos one).length ∧
      (∀ e ∈ s.infos one, e.label ≠ info) ∧ (∀ e ∈ s.singles one, e.1 ≠ info) ∧ acts.Nodup) := by
  unfold registerPlayer at h
  split at h
  · rename_i j hj
    split at h
    · rename_i e he
      split_ifs at h with h3 h4
      cases h
      obtain ⟨hlt, hp, _⟩ := List.findIdx?_eq_some_iff_getElem.mp hj
      obtain ⟨_, rfl⟩ := List.getElem?_eq_some_iff.mp he
      refine .inl ⟨rfl, ?_⟩
      rw [he, ← eq_of_beq hp, ← eq_of_not_bne h3, ← eq_of_not_bne h4]
    · cases h
  · rename_i hn
    split_ifs at h with h3 h4
    cases h
    exact .inr ⟨rfl, rfl,
      fun e he hl => Bool.false_ne_true ((List.findIdx?_eq_none_iff.mp hn e he).symm.trans (beq_iff_eq.mpr hl)),
      fun e he hl => h3 (List.any_eq_true.mpr ⟨e, he, beq_iff_eq.mpr hl⟩),
      (eraseDups_check acts).mp h4⟩

theorem registerPlayer_spec {one : Bool} {info : Nat} {acts : List Nat} {prev : Prev} {i : Nat}
    {s s' : BState α} (h : registerPlayer one info acts prev s = .ok (i, s')) :
    GrowsAll s s' ∧ (s'.infos one)[i]? = some ⟨info, acts, prev.get one⟩ ∧
      ∀ me, ∀ e ∈ s'.infos me, e ∈ s.infos me ∨ (one = me ∧ e = ⟨info, acts, prev.get one⟩) := by
  rcases registerPlayer_cases h with ⟨rfl, he⟩ | ⟨rfl, rfl, _⟩
  · exact ⟨.refl _, he, fun _ _ => .inl⟩
  · refine ⟨.addInfo .., by rw [BState.infos_addInfo_self, List.getElem?_concat_length],
      BState.forall_infos_addInfo
      (P := fun me I => ∀ e ∈ I, e ∈ s.infos me ∨ (one = me ∧ e = _)) (fun _ _ => .inl) ?_⟩
    intro e he
    rcases List.mem_append.mp he with he | he
    · exact .inl he
    · exact .inr ⟨rfl, List.mem_singleton.mp he⟩

theorem registerPlayer_ok_of {one : Bool} {info : Nat} {acts : List Nat} {prev : Prev}
    {s : BState α}
    (h1 : ∀ e ∈ s.infos one, e.label = info → e.actions = acts ∧ e.prev = prev.get one)
    (h2 : ∀ e ∈ s.singles one, e.1 ≠ info) (h3 : acts.Nodup) :
    ∃ i s', registerPlayer one info acts prev s = .ok (i, s') := by
  unfold registerPlayer
  split
  · rename_i i hidx
    obtain ⟨hlt, hp, _⟩ := List.findIdx?_eq_some_iff_getElem.mp hidx
    obtain ⟨e1, e2⟩ := h1 _ (List.getElem_mem hlt) (eq_of_beq hp)
    rw [List.getElem?_eq_getElem hlt]
    dsimp only
    rw [if_neg fun h => bne_iff_ne.mp h e1, if_neg fun h => bne_iff_ne.mp h e2]
    exact ⟨_, _, rfl⟩
  · rw [if_neg fun h => by
      obtain ⟨e, he, hl⟩ := List.any_eq_true.mp h
      exact h2 e he (eq_of_beq hl), if_pos ((eraseDups_check acts).mpr h3)]
    exact ⟨_, _, rfl⟩

theorem registerPlayer_err {one : Bool} {info : Nat} {acts : List Nat} {prev : Prev} {s : BState α}
    {e : GameError} (h : registerPlayer one info acts prev s = .error e) :
    e = .actionsNotEqual ∨ e = .imperfectRecall ∨ (e = .actionsNotUnique ∧ ¬ acts.Nodup) := by
  unfold registerPlayer at h
  split at h
  · split at h
    · split_ifs at h
      · cases h; exact .inl rfl
      · cases h; exact .inr (.inl rfl)
    · cases h; exact .inl rfl
  · split_ifs at h with h3 h4
    · cases h; exact .inl rfl
    · cases h; exact .inr (.inr ⟨rfl, fun hn => h4 ((eraseDups_check acts).mpr hn)⟩)

section
variable [Field α] [LinearOrder α] [IsStrictOrderedRing α]

/-- the distribution `registerChance` files: a single outcome is certain, otherwise the weights
are divided by their total -/
def chanceDist (probs : List α) (nodes : List (Node α)) : List α :=
  if nodes.length = 1 then [1] else probs.map (· / lsum probs)

theorem registerChance_cases {info : Option Nat} {probs : List α} {nodes : List (Node α)}
    {n : Node α} {s s' : BState α} (h : registerChance info probs nodes s = .ok (n, s')) :
    (s' = s ∨ (s' = s.addChance (info, chanceDist probs nodes) ∧
      ∀ x ∈ s.chance, info = none ∨ x.1 ≠ info)) ∧
    (∀ l, info = some l → (some l, chanceDist probs nodes) ∈ s'.chance) ∧
    (nodes = [n] ∨ (2 ≤ nodes.length ∧ ∃ i, n = .chance i nodes ∧
      s'.chance[i]? = some (info, chanceDist probs nodes))) := by
  unfold registerChance at h
  split at h
  · cases h
  · rename_i k
    rw [show chanceDist probs [k] = [1] from if_pos rfl]
    split at h
    · cases h
      exact ⟨.inl rfl, nofun, .inl rfl⟩
    · rename_i l
      split at h
      · rename_i e he
        split_ifs at h with h1
        cases h
        have hp := List.find?_some he
        refine ⟨.inl rfl, fun l' hl' => ?_, .inl rfl⟩
        cases hl'
        rw [← eq_of_beq hp, ← eq_of_beq h1]; exact List.mem_of_find?_eq_some he
      · rename_i he
        cases h
        refine ⟨.inr ⟨rfl, fun x hx => .inr fun hc => ?_⟩, fun l' hl' => ?_, .inl rfl⟩
        · exact List.find?_eq_none.mp he x hx (beq_iff_eq.mpr hc)
        · cases hl'; exact List.mem_append_right _ (List.mem_singleton_self _)
  · rename_i hk1 hk2
    have h2 : 2 ≤ nodes.length := two_le_length_of (fun e => hk1 e) (fun k e => hk2 k e)
    rw [show chanceDist probs nodes = probs.map (· / lsum probs) from if_neg (by omega)]
    dsimp only at h
    split at h
    · cases h
      exact ⟨.inr ⟨rfl, fun _ _ => .inl rfl⟩, nofun,
        .inr ⟨h2, _, rfl, List.getElem?_concat_length⟩⟩
    · rename_i l
      split at h
      · rename_i i hidx
        split_ifs at h with h1
        cases h
        obtain ⟨hlt, hp, _⟩ := List.findIdx?_eq_some_iff_getElem.mp hidx
        have h5 : s.chance[i]? = some (some l, probs.map (· / lsum probs)) := by
          rw [List.getElem?_eq_getElem hlt] at h1 ⊢
          rw [← eq_of_beq hp, ← Option.some.inj (eq_of_beq h1)]
        refine ⟨.inl rfl, fun l' hl' => ?_, .inr ⟨h2, i, rfl, h5⟩⟩
        cases hl'
        exact List.mem_of_getElem? h5
      · rename_i hidx
        cases h
        refine ⟨.inr ⟨rfl, fun x hx => .inr fun hc => ?_⟩, fun l' hl' => ?_,
          .inr ⟨h2, _, rfl, List.getElem?_concat_length⟩⟩
        · exact Bool.false_ne_true
            ((List.findIdx?_eq_none_iff.mp hidx x hx).symm.trans (beq_iff_eq.mpr hc))
        · cases hl'; exact List.mem_append_right _ (List.mem_singleton_self _)

theorem registerChance_spec {info : Option Nat} {probs : List α} {nodes : List (Node α)}
    {n : Node α} {s s' : BState α} (h : registerChance info probs nodes s = .ok (n, s')) :
    GrowsAll s s' ∧ ∀ me, s'.infos me = s.infos me := by
  rcases (registerChance_cases h).1 with rfl | ⟨rfl, _⟩
  · exact ⟨.refl _, fun _ => rfl⟩
  · exact ⟨.addChance .., fun _ => BState.infos_addChance ..⟩

theorem registerChance_ok_of {info : Option Nat} {probs : List α} {nodes : List (Node α)}
    {s : BState α} (hne : nodes ≠ [])
    (hc : ∀ l, info = some l → ∀ e ∈ s.chance, e.1 = some l → e.2 = chanceDist probs nodes) :
    ∃ n s', registerChance info probs nodes s = .ok (n, s') := by
  unfold registerChance
  split
  · exact absurd rfl hne
  · rename_i k
    split
    · exact ⟨_, _, rfl⟩
    · rename_i l
      split
      · rename_i e he
        have hp := List.find?_some he
        have := hc l rfl e (List.mem_of_find?_eq_some he) (eq_of_beq hp)
        rw [chanceDist, if_pos (List.length_singleton ..)] at this
        rw [if_pos (beq_iff_eq.mpr this)]
        exact ⟨_, _, rfl⟩
      · exact ⟨_, _, rfl⟩
  · rename_i hk1 hk2
    have h2 : 2 ≤ nodes.length := two_le_length_of (fun e => hk1 e) (fun k e => hk2 k e)
    dsimp only
    split
    · exact ⟨_, _, rfl⟩
    · rename_i l
      split
      · rename_i i hidx
        obtain ⟨hlt, hp, _⟩ := List.findIdx?_eq_some_iff_getElem.mp hidx
        have := hc l rfl _ (List.getElem_mem hlt) (eq_of_beq hp)
        rw [chanceDist, if_neg (by omega)] at this
        rw [List.getElem?_eq_getElem hlt, Option.map_some, if_pos (beq_iff_eq.mpr (congrArg some this))]
        exact ⟨_, _, rfl⟩
      · exact ⟨_, _, rfl⟩

theorem registerChance_err {info : Option Nat} {probs : List α} {nodes : List (Node α)}
    {s : BState α} {e : GameError} (h : registerChance info probs nodes s = .error e) :
    (e = .emptyChance ∧ nodes = []) ∨ e = .probabilitiesNotEqual := by
  unfold registerChance at h
  split at h
  · cases h; exact .inl ⟨rfl, rfl⟩
  · split at h
    · cases h
    · split at h
      · split_ifs at h; cases h; exact .inr rfl
      · cases h
  · dsimp only at h
    split at h
    · cases h
    · split at h
      · split_ifs at h; cases h; exact .inr rfl
      · cases h

/-! ## the equations of `compile`, with the threading of errors written as `Except.bind` -/

variable {prev : Prev} {s s' : BState α} {n : Node α} {e : GameError}

theorem compile_term (pay : α) : compile (.term pay) prev s = .ok (.term pay, s) := by
  rw [compile, isFinite_exact, if_pos rfl]

theorem compile_chance (info : Option Nat) (ws : List α) (kids : List (Raw α)) :
    compile (.chance info ws kids) prev s =
      (compileOutcomes ws kids prev s).bind fun x => registerChance info x.1 x.2.1 x.2.2 := by
  rw [compile]; cases compileOutcomes ws kids prev s <;> rfl

theorem compile_single (one : Bool) (info a : Nat) (k : Raw α) (ks : List (Raw α)) :
    compile (.player one info [a] (k :: ks)) prev s =
      (registerSingle one info a s).bind fun s1 => compile k prev s1 := by
  rw [compile]; cases registerSingle one info a s <;> rfl

theorem compile_multi (one : Bool) (info a b : Nat) (as : List Nat) (k : Raw α)
    (ks : List (Raw α)) :
    compile (.player one info (a :: b :: as) (k :: ks)) prev s =
      (registerPlayer one info (a :: b :: as) prev s).bind fun x =>
        (compileActions (k :: ks) one x.1 0 prev x.2).bind fun y =>
          .ok (.player one x.1 y.1, y.2) := by
  rw [compile]
  · cases registerPlayer one info (a :: b :: as) prev s with
    | error _ => rfl
    | ok x => obtain ⟨i, s1⟩ := x; dsimp only [Except.bind]; cases compileActions (k :: ks) one i 0 prev s1 <;> rfl
  · exact fun hk => nomatch hk

theorem compileOutcomes_nil {ks : List (Raw α)} : compileOutcomes [] ks prev s = .ok ([], [], s) := by
  simp only [compileOutcomes]
theorem compileOutcomes_cons_nil {w : α} {ws : List α} :
    compileOutcomes (w :: ws) [] prev s = .ok ([], [], s) := by
  simp only [compileOutcomes]

theorem compileOutcomes_cons (w : α) (ws : List α) (k : Raw α) (ks : List (Raw α)) :
    compileOutcomes (w :: ws) (k :: ks) prev s =
      if 0 < w then (compile k prev s).bind fun x =>
        (compileOutcomes ws ks prev x.2).bind fun y => .ok (w :: y.1, x.1 :: y.2.1, y.2.2)
      else .error .nonPositiveChance := by
  rw [compileOutcomes]
  by_cases hw : 0 < w
  · rw [if_pos hw, if_pos (by rw [isFinite_exact, Bool.and_true, decide_eq_true_eq]; exact hw)]
    cases compile k prev s with
    | error _ => rfl
    | ok x => obtain ⟨n, s1⟩ := x; dsimp only [Except.bind]; cases compileOutcomes ws ks prev s1 <;> rfl
  · rw [if_neg hw, if_neg (by rw [isFinite_exact, Bool.and_true, decide_eq_true_eq]; exact hw)]

theorem compileActions_nil {one : Bool} {i a : Nat} :
    compileActions ([] : List (Raw α)) one i a prev s = .ok ([], s) := by
  simp only [compileActions]

theorem compileActions_cons (k : Raw α) (ks : List (Raw α)) (one : Bool) (i a : Nat) :
    compileActions (k :: ks) one i a prev s =
      (compile k (prev.set one (some (i, a))) s).bind fun x =>
        (compileActions ks one i (a + 1) prev x.2).bind fun y => .ok (x.1 :: y.1, y.2) := by
  rw [compileActions]
  cases compile k (prev.set one (some (i, a))) s with
  | error _ => rfl
  | ok x => obtain ⟨n, s1⟩ := x; dsimp only [Except.bind]; cases compileActions ks one i (a + 1) prev s1 <;> rfl

theorem compileOutcomes_shape : ∀ {ws : List α} {ks : List (Raw α)} {s s' : BState α}
    {ps : List α} {ns : List (Node α)}, compileOutcomes ws ks prev s = .ok (ps, ns, s') →
    ps.length = ns.length ∧ (∀ p ∈ ps, 0 < p) ∧
      (ws.length = ks.length → ps = ws ∧ ns.length = ks.length)
  | [], _, _, _, _, _, h => by
    rw [compileOutcomes_nil] at h; cases h
    exact ⟨rfl, nofun, fun hl => ⟨rfl, hl⟩⟩
  | _ :: _, [], _, _, _, _, h => by
    rw [compileOutcomes_cons_nil] at h; cases h
    exact ⟨rfl, nofun, fun hl => nomatch hl⟩
  | w :: ws, k :: ks, _, _, _, _, h => by
    rw [compileOutcomes_cons] at h
    by_cases hw : 0 < w
    · rw [if_pos hw] at h
      obtain ⟨x, _, h⟩ := Except.bind_eq_ok.mp h
      obtain ⟨y, ho, h⟩ := Except.bind_eq_ok.mp h
      cases h
      obtain ⟨h1, h2, h3⟩ := compileOutcomes_shape ho
      refine ⟨congrArg (· + 1) h1, List.forall_mem_cons.mpr ⟨hw, h2⟩, fun hl => ?_⟩
      obtain ⟨h4, h5⟩ := h3 (Nat.succ.inj hl)
      exact ⟨congrArg (w :: ·) h4, congrArg (· + 1) h5⟩
    · rw [if_neg hw] at h; cases h

/-! ## induction over the successful runs of `compile` -/

/-- the cases of an induction over the successful runs of `compile`; `P`, `PO`, `PA` relate the
arguments of `compile`, `compileOutcomes`, `compileActions` to what they return -/
structure CompileCases (P : Raw α → Prev → BState α → Node α → BState α → Prop)
    (PO : List α → List (Raw α) → Prev → BState α → List α → List (Node α) → BState α → Prop)
    (PA : List (Raw α) → Bool → Nat → Nat → Prev → BState α → List (Node α) → BState α → Prop) :
    Prop where
  term : ∀ pay prev s, P (.term pay) prev s (.term pay) s
  chance : ∀ info ws kids prev s probs nodes s1 n s',
    compileOutcomes ws kids prev s = .ok (probs, nodes, s1) → PO ws kids prev s probs nodes s1 →
    registerChance info probs nodes s1 = .ok (n, s') → P (.chance info ws kids) prev s n s'
  single : ∀ one info a k ks prev s s1 n s', registerSingle one info a s = .ok s1 →
    compile k prev s1 = .ok (n, s') → P k prev s1 n s' →
    P (.player one info [a] (k :: ks)) prev s n s'
  multi : ∀ one info a b as k ks prev s i s1 nodes s',
    registerPlayer one info (a :: b :: as) prev s = .ok (i, s1) →
    compileActions (k :: ks) one i 0 prev s1 = .ok (nodes, s') →
    PA (k :: ks) one i 0 prev s1 nodes s' →
    P (.player one info (a :: b :: as) (k :: ks)) prev s (.player one i nodes) s'
  onil : ∀ ws ks prev s, ws = [] ∨ ks = [] → PO ws ks prev s [] [] s
  ocons : ∀ w ws k ks prev s n s1 ps ns s', 0 < w → compile k prev s = .ok (n, s1) →
    P k prev s n s1 → compileOutcomes ws ks prev s1 = .ok (ps, ns, s') →
    PO ws ks prev s1 ps ns s' → PO (w :: ws) (k :: ks) prev s (w :: ps) (n :: ns) s'
  anil : ∀ one i a prev s, PA [] one i a prev s [] s
  acons : ∀ k ks one i a prev s n s1 ns s',
    compile k (prev.set one (some (i, a))) s = .ok (n, s1) →
    P k (prev.set one (some (i, a))) s n s1 →
    compileActions ks one i (a + 1) prev s1 = .ok (ns, s') → PA ks one i (a + 1) prev s1 ns s' →
    PA (k :: ks) one i a prev s (n :: ns) s'

section
variable {P : Raw α → Prev → BState α → Node α → BState α → Prop}
    {PO : List α → List (Raw α) → Prev → BState α → List α → List (Node α) → BState α → Prop}
    {PA : List (Raw α) → Bool → Nat → Nat → Prev → BState α → List (Node α) → BState α → Prop}
    (c : CompileCases P PO PA)
include c

mutual
theorem compile_ok_induct (r : Raw α) : ∀ prev s n s', compile r prev s = .ok (n, s') → P r prev s n s' :=
  match r with
  | .term pay => fun prev s n s' h => by
    rw [compile_term] at h; cases h; exact c.term pay prev s
  | .chance info ws kids => fun prev s n s' h => by
    rw [compile_chance] at h
    obtain ⟨x, ho, hr⟩ := Except.bind_eq_ok.mp h
    exact c.chance _ _ _ _ _ _ _ _ _ _ ho (compileOutcomes_ok_induct ws kids prev s _ _ _ ho) hr
  | .player one info [] kids => fun prev s n s' h => by rw [compile] at h; cases h
  | .player one info (a :: as) [] => fun prev s n s' h => by
    rw [compile] at h
    · cases h
    · exact fun h => nomatch h
  | .player one info [a] (k :: ks) => fun prev s n s' h => by
    rw [compile_single] at h
    obtain ⟨s1, hr, hk⟩ := Except.bind_eq_ok.mp h
    exact c.single _ _ _ _ _ _ _ _ _ _ hr hk (compile_ok_induct k prev s1 n s' hk)
  | .player one info (a :: b :: as) (k :: ks) => fun prev s n s' h => by
    rw [compile_multi] at h
    obtain ⟨x, hr, h⟩ := Except.bind_eq_ok.mp h
    obtain ⟨y, hc, h⟩ := Except.bind_eq_ok.mp h
    cases h
    exact c.multi _ _ _ _ _ _ _ _ _ _ _ _ _ hr hc
      (compileActions_ok_induct (k :: ks) one x.1 0 prev x.2 _ _ hc)
theorem compileOutcomes_ok_induct (ws : List α) (ks : List (Raw α)) : ∀ prev s ps ns s',
    compileOutcomes ws ks prev s = .ok (ps, ns, s') → PO ws ks prev s ps ns s' :=
  match ws, ks with
  | [], ks => fun prev s ps ns s' h => by
    rw [compileOutcomes_nil] at h; cases h; exact c.onil _ _ _ _ (.inl rfl)
  | w :: ws, [] => fun prev s ps ns s' h => by
    rw [compileOutcomes_cons_nil] at h; cases h; exact c.onil _ _ _ _ (.inr rfl)
  | w :: ws, k :: ks => fun prev s ps ns s' h => by
    rw [compileOutcomes_cons] at h
    by_cases hw : 0 < w
    · rw [if_pos hw] at h
      obtain ⟨x, hc, h⟩ := Except.bind_eq_ok.mp h
      obtain ⟨y, ho, h⟩ := Except.bind_eq_ok.mp h
      cases h
      exact c.ocons _ _ _ _ _ _ _ _ _ _ _ hw hc (compile_ok_induct k prev s x.1 x.2 hc) ho
        (compileOutcomes_ok_induct ws ks prev x.2 _ _ _ ho)
    · rw [if_neg hw] at h; cases h
theorem compileActions_ok_induct (ks : List (Raw α)) : ∀ one i a prev s ns s',
    compileActions ks one i a prev s = .ok (ns, s') → PA ks one i a prev s ns s' :=
  match ks with
  | [] => fun one i a prev s ns s' h => by
    rw [compileActions_nil] at h; cases h; exact c.anil _ _ _ _ _
  | k :: ks => fun one i a prev s ns s' h => by
    rw [compileActions_cons] at h
    obtain ⟨x, hc, h⟩ := Except.bind_eq_ok.mp h
    obtain ⟨y, ho, h⟩ := Except.bind_eq_ok.mp h
    cases h
    exact c.acons _ _ _ _ _ _ _ _ _ _ _ hc (compile_ok_induct k _ s x.1 x.2 hc) ho
      (compileActions_ok_induct ks one i (a + 1) prev x.2 _ _ ho)
end

theorem compile_ok_rec :
    (∀ r prev s n s', compile r prev s = .ok (n, s') → P r prev s n s') ∧
    (∀ ws ks prev s ps ns s', compileOutcomes ws ks prev s = .ok (ps, ns, s') →
      PO ws ks prev s ps ns s') ∧
    (∀ ks one i a prev s ns s', compileActions ks one i a prev s = .ok (ns, s') →
      PA ks one i a prev s ns s') :=
  ⟨compile_ok_induct c, compileOutcomes_ok_induct c, compileActions_ok_induct c⟩
end

theorem compileAll_grows :
    (∀ (r : Raw α) prev s n s', compile r prev s = .ok (n, s') → GrowsAll s s') ∧
    (∀ (ws : List α) (ks : List (Raw α)) prev s ps ns s',
      compileOutcomes ws ks prev s = .ok (ps, ns, s') → GrowsAll s s') ∧
    (∀ (ks : List (Raw α)) one i a prev s ns s',
      compileActions ks one i a prev s = .ok (ns, s') → GrowsAll s s') :=
  compile_ok_rec {
    term := fun _ _ s => .refl s
    chance := fun _ _ _ _ _ _ _ _ _ _ _ ih hr => ih.trans (registerChance_spec hr).1
    single := fun _ _ _ _ _ _ _ _ _ _ hr _ ih => (registerSingle_spec hr).1.trans ih
    multi := fun _ _ _ _ _ _ _ _ _ _ _ _ _ hr _ ih => (registerPlayer_spec hr).1.trans ih
    onil := fun _ _ _ s _ => .refl s
    ocons := fun _ _ _ _ _ _ _ _ _ _ _ _ _ ih1 _ ih2 => ih1.trans ih2
    anil := fun _ _ _ _ s => .refl s
    acons := fun _ _ _ _ _ _ _ _ _ _ _ _ ih1 _ ih2 => ih1.trans ih2 }

theorem compile_grows {r : Raw α} (h : compile r prev s = .ok (n, s')) : GrowsAll s s' :=
  compileAll_grows.1 _ _ _ _ _ h
theorem compileOutcomes_grows {ws : List α} {ks : List (Raw α)} {ps : List α} {ns : List (Node α)}
    (h : compileOutcomes ws ks prev s = .ok (ps, ns, s')) : GrowsAll s s' :=
  compileAll_grows.2.1 _ _ _ _ _ _ _ h
theorem compileActions_grows {ks : List (Raw α)} {one : Bool} {i a : Nat} {ns : List (Node α)}
    (h : compileActions ks one i a prev s = .ok (ns, s')) : GrowsAll s s' :=
  compileAll_grows.2.2 _ _ _ _ _ _ _ _ h

end

end Cfr
