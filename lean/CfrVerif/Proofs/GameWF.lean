import CfrVerif.Proofs.Tables
/-!
# Well-formed compiled games: what evaluation and the solvers rely on

`GameWF g` collects the guarantees of a successful `Game::from_root` that the rest of
the crate uses without checking: indices in range, every interior node has at least two
children and as many as its infoset has actions / outcomes, chance probabilities positive
and summing to one, well-formed label tables, and **perfect recall in history form**:
each player's infoset determines the player's own sequence of `(infoset, action index)`
decisions leading to it.
-/
set_option linter.unusedSectionVars false
namespace Cfr
variable {α : Type}

mutual
/-- indices in range and arities as declared by the infoset tables -/
def NodeOK (g : Game α) : Node α → Prop
  | .term _ => True
  | .chance i ks =>
    (∃ ps, g.chance[i]? = some ps ∧ ps.length = ks.length) ∧ 2 ≤ ks.length ∧ NodeOKL g ks
  | .player one i ks =>
    (∃ e, (g.infos one)[i]? = some e ∧ e.actions.length = ks.length) ∧ 2 ≤ ks.length ∧ NodeOKL g ks
def NodeOKL (g : Game α) : List (Node α) → Prop
  | [] => True
  | k :: ks => NodeOK g k ∧ NodeOKL g ks
end

/-- an own history: the player's earlier decisions `(infoset index, action index)`, oldest first -/
abbrev Hist := List (Nat × Nat)

mutual
/-- perfect recall of player `me` in history form: every node of infoset `i` is reached
after exactly the own history `hist i` -/
def PR (me : Bool) (hist : Nat → Hist) : Hist → Node α → Prop
  | _, .term _ => True
  | H, .chance _ ks => PRL me hist H ks
  | H, .player one i ks =>
    if one = me then hist i = H ∧ PRD me hist H i 0 ks else PRL me hist H ks
/-- children that do not extend the own history -/
def PRL (me : Bool) (hist : Nat → Hist) : Hist → List (Node α) → Prop
  | _, [] => True
  | H, k :: ks => PR me hist H k ∧ PRL me hist H ks
/-- children of an own node of infoset `i`: child number `a` extends the history by `(i, a)` -/
def PRD (me : Bool) (hist : Nat → Hist) : Hist → Nat → Nat → List (Node α) → Prop
  | _, _, _, [] => True
  | H, i, a, k :: ks => PR me hist (H ++ [(i, a)]) k ∧ PRD me hist H i (a + 1) ks
end

structure GameWF [Field α] [LinearOrder α] (g : Game α) : Prop where
  /-- chance probabilities are positive and sum to one -/
  chancePos : ∀ ps ∈ g.chance, (∀ p ∈ ps, 0 < p) ∧ ps.sum = 1
  nodes : NodeOK g g.root
  /-- perfect recall for both players; earlier infosets have smaller indices -/
  recall : ∀ me : Bool, ∃ hist : Nat → Hist, PR me hist [] g.root ∧ ∀ i, ∀ e ∈ hist i, e.1 < i
  tables1 : TablesWF g.p1 g.s1
  tables2 : TablesWF g.p2 g.s2
  /-- every registered (multi-action) infoset has at least two actions -/
  actsTwo : ∀ me : Bool, ∀ e ∈ g.infos me, 2 ≤ e.actions.length

/-- a strategy of player `me` that fits the game: one vector per infoset, of the right length -/
def FitsGame (g : Game α) (me : Bool) (τ : List (List α)) : Prop :=
  τ.map List.length = (g.infos me).map (fun i => i.actions.length)

end Cfr
