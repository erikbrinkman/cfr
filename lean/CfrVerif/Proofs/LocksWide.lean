import CfrVerif.Proofs.LocksCheck
/-!
# The executable checker of the wider hypotheses

`poolOK2b` (Model/Locks.lean) decides `Lk.PoolOK2` (Proofs/LocksGeneric.lean): every acquisition is
of a mutex acquired once in the whole pass, or a blocking `lock()` released by the thread's next
operation.  Traces that pass it are under the interleaving theorems.
-/
namespace Cfr
namespace Lk

theorem acqLocksOf_fun : acqLocksOf = acqLocks := by
  funext t
  induction t with
  | nil => rfl
  | cons e t ih => cases e <;> simp [acqLocksOf, acqLocks, ih]

theorem wideOKb_iff (all : List LockId) (t : List LEv) : wideOKb all t = true ↔ WideOK all t := by
  fun_induction wideOKb all t with
  | case1 => simp [WideOK]
  | case2 l t ih => simp [WideOK, ih]
  | case3 l l' t h ih =>
    have hl : l = l' := by simpa using h
    subst hl
    rw [ih]
    exact ⟨fun h' => ⟨Or.inr ⟨t, rfl⟩, h'⟩, fun h' => h'.2⟩
  | case4 l l' t h ih =>
    have hl : l ≠ l' := by simpa using h
    rw [Bool.and_eq_true, ih, beq_iff_eq]
    have hne : ¬ ∃ t', LEv.rel l' :: t = LEv.rel l :: t' := by
      rintro ⟨t', ht'⟩
      cases ht'
      exact hl rfl
    exact ⟨fun h' => ⟨Or.inl h'.1, h'.2⟩, fun h' => ⟨h'.1.resolve_right hne, h'.2⟩⟩
  | case5 l t h ih =>
    rw [Bool.and_eq_true, ih, beq_iff_eq]
    have hne : ¬ ∃ t', t = LEv.rel l :: t' := fun ⟨t', ht'⟩ => h l t' ht'
    exact ⟨fun h' => ⟨Or.inl h'.1, h'.2⟩, fun h' => ⟨h'.1.resolve_right hne, h'.2⟩⟩
  | case6 l t ih => simp [WideOK, ih]

theorem poolOK2b_iff (ts : List (List LEv)) : poolOK2b ts = true ↔ PoolOK2 ts := by
  simp only [poolOK2b, acqLocksOf_fun, Bool.and_eq_true, List.all_eq_true, wideOKb_iff,
    relOKb_iff]
  exact ⟨fun ⟨h1, h2⟩ => ⟨h1, h2⟩, fun h => ⟨h.wide, h.released⟩⟩

end Lk

/-- **observed traces that pass the wider checker can neither panic on a `try_lock` nor
deadlock**, under any thread schedule; every schedule ends and leaves all mutexes free -/
theorem checked_traces_safe2 (ts : List (List LEv)) (h : poolOK2b ts = true) {n : Nat} {cfg : LCfg}
    (hr : LReach (LCfg.init ts) n cfg) :
    (∀ j, lstep cfg j ≠ LOut.panic) ∧
    (cfg.finished = true ∨ ∃ j cfg', lstep cfg j = LOut.ok cfg') ∧
    n + cfg.remaining = (LCfg.init ts).remaining ∧
    (cfg.finished = true → cfg.held = []) :=
  have h2 := (Lk.poolOK2b_iff ts).mp h
  ⟨Lk.no_panic2 h2 hr, Lk.no_deadlock2 h2 hr, Lk.steps_bounded ts hr, Lk.finished_all_free2 h2 hr⟩

/-- the wider hypotheses are really wider: the updating player's infoset taken with a blocking
`lock()` and held across a leaf section passes the wide checker and fails the narrow one -/
example : poolOK2b [[.acq (.player true 0), .acq (.chance 0), .rel (.chance 0), .rel (.player true 0)],
    [.acq (.chance 0), .rel (.chance 0)]] = true ∧
  poolOKb [[.acq (.player true 0), .acq (.chance 0), .rel (.chance 0), .rel (.player true 0)],
    [.acq (.chance 0), .rel (.chance 0)]] = false := by
  decide

/-- and they still exclude what can go wrong: a mutex two workers `try_lock` -/
example : poolOK2b [[.tryAcq (.chance 0), .rel (.chance 0)], [.tryAcq (.chance 0), .rel (.chance 0)]]
    = false := by
  decide

end Cfr
