import CfrVerif.Proofs.RateTree
import CfrVerif.Proofs.Rate
import CfrVerif.Proofs.RegretDecomp
import CfrVerif.Proofs.Trajectory
/-!
# What one `vrec` traversal (either mode) adds to the regrets of one infoset

For every infoset `I` of player `me`, with `δ a := effSum es me I .regret a` the total the
traversal adds to `cum_regret[a]`:

* `vrec_zero` : `δ = 0` for infosets the tree does not contain;
* `vrec_rng`  : the value the traversal returns lies in `[lo, hi]`, and the cached chance samples
  remain indices into their tables (`DOK`);
* `vrec_orth` : `Σ_a σ(I,a)·δ a = 0` (`σ(I,·)` the current strategy, summing to one);
* `vrec_bnd`  : `|δ a| ≤ (hi − lo)·pc·p_opp` under perfect recall (`GoodR me I`), for payoffs in
  `[lo, hi]` — in sampled mode provided the draws are in range (`DrawLt`).
-/
set_option linter.unusedSectionVars false
namespace Cfr
open Finset

/-- one more term `p·v` with `v ∈ [lo, hi]` in a weighted sum kept within `acc + [lo, hi]·Σ p`
(`C` : whatever else the loop carries along) -/
theorem wsum_step {lo hi acc p v S x : ℝ} {C : Prop} (hp : 0 ≤ p) (h1 : lo ≤ v) (h2 : v ≤ hi)
    (b : acc + p * v + lo * S ≤ x ∧ x ≤ acc + p * v + hi * S ∧ C) :
    acc + lo * (p + S) ≤ x ∧ x ≤ acc + hi * (p + S) ∧ C :=
  ⟨by linarith [mul_le_mul_of_nonneg_left h1 hp, b.1],
    by linarith [mul_le_mul_of_nonneg_left h2 hp, b.2.1], b.2.2⟩

theorem abs_add_le_mul {x y B p S : ℝ} (hx : |x| ≤ B * p) (hy : |y| ≤ B * S) :
    |x + y| ≤ B * (p + S) :=
  (abs_add_le x y).trans (by rw [mul_add]; exact add_le_add hx hy)

/-- the reach of `me`'s opponent below an action of probability `s` at a node of player `one` -/
theorem reach_step (me one : Bool) (p1 p2 s : ℝ) :
    (if me then (if one then p2 else p2 * s) else (if one then p1 * s else p1))
      = if one = me then (if me then p2 else p1) else (if me then p2 else p1) * s := by
  cases me <;> cases one <;> rfl

/-- the factor `vrec` scales the regrets of a node with is, up to sign, chance times opponent -/
theorem abs_mult (me : Bool) {pc p1 p2 : ℝ} (h0 : 0 ≤ pc) (h1 : 0 ≤ p1) (h2 : 0 ≤ p2) :
    |if me then pc * p2 else -p1 * pc| = pc * (if me then p2 else p1) := by
  cases me
  · rw [if_neg Bool.false_ne_true, if_neg Bool.false_ne_true, neg_mul, abs_neg,
      abs_of_nonneg (mul_nonneg h1 h0), mul_comm]
  · rw [if_pos rfl, if_pos rfl, abs_of_nonneg (mul_nonneg h0 h2)]

/-- a regret cell of an own node: `m·u` from the action, `−m·v` for the node's value -/
theorem cell_bound {lo hi u v m q : ℝ} (hm : |m| = q) (hu1 : lo ≤ u) (hu2 : u ≤ hi) (hv1 : lo ≤ v)
    (hv2 : v ≤ hi) : |u * m + -(m * v)| ≤ (hi - lo) * q := by
  rw [← sub_eq_add_neg, mul_comm m v, ← sub_mul, abs_mul, hm]
  exact mul_le_mul_of_nonneg_right (abs_sub_le_of_le_of_le hu1 hu2 hv1 hv2) (hm ▸ abs_nonneg m)

theorem bnd_nonneg {lo hi pc p1 p2 : ℝ} (hD : lo ≤ hi) (h0 : 0 ≤ pc) (h1 : 0 ≤ p1) (h2 : 0 ≤ p2)
    (me : Bool) : 0 ≤ (hi - lo) * (pc * (if me then p2 else p1)) :=
  mul_nonneg (sub_nonneg.mpr hD) (mul_nonneg h0 (ite_nonneg h2 h1))

/-- cell `a` among the cells `k, …, k + n` of an action loop: the first action or a later one -/
theorem ite_range_succ (k a n : ℕ) (x y : ℝ) :
    ((if k = a then x else 0) + if k + 1 ≤ a ∧ a < k + 1 + n then y else 0)
      = if k ≤ a ∧ a < k + (n + 1) then (if k = a then x else y) else 0 := by
  by_cases h : k = a
  · subst h
    rw [if_pos rfl, if_neg (fun h => Nat.not_succ_le_self k h.1),
      if_pos ⟨le_rfl, Nat.lt_add_of_pos_right (Nat.succ_pos n)⟩, if_pos rfl, add_zero]
  · rw [if_neg h, zero_add, if_neg h]
    exact if_congr (by omega) rfl rfl

/-- every cached chance sample is an index into its probability table -/
def DOK (ch : List (List ℝ)) (d : DrawSt ℝ) : Prop :=
  ∀ i k, assocGet d.chance i = some k → k < (ch.getD i []).length

theorem DOK.init (ch : List (List ℝ)) (log : List (DrawRec ℝ)) : DOK ch { log := log } :=
  fun _ _ h => nomatch h

theorem sampleChance_ok (draw : DrawFn ℝ) (hd : DrawLt draw) {ch : List (List ℝ)}
    {st : Bool → ℕ → List ℝ} {i : ℕ} {ks : List (Node ℝ)} (hf : TFit ch st (.chance i ks))
    (pass : ℕ) (d : DrawSt ℝ) (h : DOK ch d) :
    (sampleChance draw pass (ch.getD i []) i d).1 < ks.length ∧
      DOK ch (sampleChance draw pass (ch.getD i []) i d).2 ∧
      (sampleChance draw pass (ch.getD i []) i d).2.player = d.player := by
  have hne : ch.getD i [] ≠ [] :=
    List.ne_nil_of_length_pos (hf.1 ▸ List.length_pos_of_ne_nil hf.2.1)
  rw [← hf.1]
  exact sampleChance_inv (P := fun j k => k < (ch.getD j []).length) draw pass _ i d h
    (hd _ _ _ _ hne)

theorem vrecChance_nil_left (c : VCtx ℝ) (ks : List (Node ℝ)) (pc p1 p2 : ℝ) (d : DrawSt ℝ)
    (acc : ℝ) : vrecChance c [] ks pc p1 p2 d acc = (acc, [], d) := by
  simp only [vrecChance]

mutual
theorem vrec_zero (c : VCtx ℝ) (me : Bool) (I a : ℕ) :
    ∀ (n : Node ℝ) (pc p1 p2 : ℝ) (d : DrawSt ℝ), ¬ Has me I n →
      effSum (vrec c n pc p1 p2 d).2.1 me I Slot.regret a = 0
  | .term p => by
    intro pc p1 p2 d _
    rw [vrec_term, effSum_nil]
  | .chance i ks => by
    intro pc p1 p2 d h
    cases hs : c.sampled
    · rw [vrec_chance c hs]
      exact vrecChance_zero c me I a _ ks pc p1 p2 d 0 h
    · rw [vrec_chance_s c hs]
      exact vrecNth_zero c me I a ks _ pc p1 p2 _ h
  | .player one i ks => by
    intro pc p1 p2 d h
    rw [vrec_player]
    simp only [effSum_append, effSum_stratEffs_regret, effSum_subEffs_regret]
    rw [vrecActs_zero c me I a one i _ _ ks pc p1 p2 d 0 0 0 (fun h' => h (.inl h'))
      (fun h' => h (.inr h')), if_neg (fun h' => h (.inl ⟨h'.1, h'.2.1⟩)), add_zero, add_zero]
theorem vrecNth_zero (c : VCtx ℝ) (me : Bool) (I a : ℕ) :
    ∀ (ks : List (Node ℝ)) (k : ℕ) (pc p1 p2 : ℝ) (d : DrawSt ℝ), ¬ HasL me I ks →
      effSum (vrecNth c ks k pc p1 p2 d).2.1 me I Slot.regret a = 0
  | [], _ => by
    intros
    rw [vrecNth, effSum_nil]
  | k :: _, 0 => by
    intro pc p1 p2 d h
    exact vrec_zero c me I a k pc p1 p2 d (fun hk => h (.inl hk))
  | _ :: ks, n + 1 => by
    intro pc p1 p2 d h
    exact vrecNth_zero c me I a ks n pc p1 p2 d (fun hk => h (.inr hk))
theorem vrecChance_zero (c : VCtx ℝ) (me : Bool) (I a : ℕ) :
    ∀ (ps : List ℝ) (ks : List (Node ℝ)) (pc p1 p2 : ℝ) (d : DrawSt ℝ) (acc : ℝ),
      ¬ HasL me I ks → effSum (vrecChance c ps ks pc p1 p2 d acc).2.1 me I Slot.regret a = 0
  | p :: ps, k :: ks => by
    intro pc p1 p2 d acc h
    rw [vrecChance_cons]
    simp only [effSum_append]
    rw [vrec_zero c me I a k _ _ _ _ (fun hk => h (.inl hk)),
      vrecChance_zero c me I a ps ks _ _ _ _ _ (fun hk => h (.inr hk)), add_zero]
  | [], _ => by
    intros
    rw [vrecChance_nil_left, effSum_nil]
  | _ :: _, [] => by
    intro _ _ _ d _ _
    rw [vrecChance_nil_right, effSum_nil]
theorem vrecActs_zero (c : VCtx ℝ) (me : Bool) (I a : ℕ) (one : Bool) (i : ℕ) (mult : ℝ) :
    ∀ (ss : List ℝ) (ks : List (Node ℝ)) (pc p1 p2 : ℝ) (d : DrawSt ℝ) (k : ℕ) (eo ex : ℝ),
      ¬ (one = me ∧ i = I) → ¬ HasL me I ks →
      effSum (vrecActs c one i mult ss ks pc p1 p2 d k eo ex).2.2.1 me I Slot.regret a = 0
  | s :: ss, n :: ks => by
    intro pc p1 p2 d k eo ex h1 h
    rw [vrecActs_cons']
    simp only [effSum_append]
    rw [effSum_cons_ne _ _ _ _ _ _ h1,
      vrec_zero c me I a n _ _ _ _ (fun hk => h (.inl hk)),
      vrecActs_zero c me I a one i mult ss ks _ _ _ _ _ _ _ h1 (fun hk => h (.inr hk)), add_zero]
  | [], _ => by
    intros
    rw [vrecActs_nil_left, effSum_nil]
  | _ :: _, [] => by
    intros
    rw [vrecActs_nil_right, effSum_nil]
end

mutual
theorem vrec_rng (c : VCtx ℝ) (hdr : c.sampled = true → DrawLt c.draw) (lo hi : ℝ) :
    ∀ (n : Node ℝ) (pc p1 p2 : ℝ) (d : DrawSt ℝ), TFit c.ch c.strat n → PayIn lo hi n →
      DOK c.ch d →
      lo ≤ (vrec c n pc p1 p2 d).1 ∧ (vrec c n pc p1 p2 d).1 ≤ hi ∧
        DOK c.ch (vrec c n pc p1 p2 d).2.2
  | .term p => by
    intro pc p1 p2 d _ hp hd
    rw [vrec_term]
    exact ⟨hp.1, hp.2, hd⟩
  | .chance i ks => by
    intro pc p1 p2 d hf hp hd
    cases hs : c.sampled
    · obtain ⟨hl, -, ⟨hnn, hsum⟩, hk⟩ := hf
      rw [vrec_chance c hs]
      have h := vrecChance_rng c hdr lo hi _ ks pc p1 p2 d 0 hnn hl hk hp hd
      rwa [hsum, mul_one, mul_one, zero_add, zero_add] at h
    · rw [vrec_chance_s c hs]
      obtain ⟨s1, s2, -⟩ := sampleChance_ok c.draw (hdr hs) hf c.pass d hd
      exact vrecNth_rng c hdr lo hi ks _ pc p1 p2 _ hf.2.2.2 hp s2 s1
  | .player one i ks => by
    intro pc p1 p2 d hf hp hd
    obtain ⟨hl, -, ⟨hnn, hsum⟩, hk⟩ := hf
    rw [vrec_player]
    have r := vrecActs_rng c hdr lo hi one i (if one then pc * p2 else -p1 * pc) _ ks pc p1 p2 d 0
      0 0 hnn hl hk hp hd
    rwa [hsum, mul_one, mul_one, zero_add, zero_add] at r
theorem vrecNth_rng (c : VCtx ℝ) (hdr : c.sampled = true → DrawLt c.draw) (lo hi : ℝ) :
    ∀ (ks : List (Node ℝ)) (k : ℕ) (pc p1 p2 : ℝ) (d : DrawSt ℝ), TFitL c.ch c.strat ks →
      PayInL lo hi ks → DOK c.ch d → k < ks.length →
      lo ≤ (vrecNth c ks k pc p1 p2 d).1 ∧ (vrecNth c ks k pc p1 p2 d).1 ≤ hi ∧
        DOK c.ch (vrecNth c ks k pc p1 p2 d).2.2
  | [], _ => fun _ _ _ d _ _ _ hlt => absurd hlt (Nat.not_lt_zero _)
  | k :: _, 0 => by
    intro pc p1 p2 d hf hp hd _
    exact vrec_rng c hdr lo hi k pc p1 p2 d hf.1 hp.1 hd
  | _ :: ks, n + 1 => by
    intro pc p1 p2 d hf hp hd hlt
    exact vrecNth_rng c hdr lo hi ks n pc p1 p2 d hf.2 hp.2 hd (Nat.lt_of_succ_lt_succ hlt)
theorem vrecChance_rng (c : VCtx ℝ) (hdr : c.sampled = true → DrawLt c.draw) (lo hi : ℝ) :
    ∀ (ps : List ℝ) (ks : List (Node ℝ)) (pc p1 p2 : ℝ) (d : DrawSt ℝ) (acc : ℝ),
      (∀ p ∈ ps, 0 ≤ p) → ps.length = ks.length → TFitL c.ch c.strat ks → PayInL lo hi ks →
      DOK c.ch d →
      acc + lo * ps.sum ≤ (vrecChance c ps ks pc p1 p2 d acc).1 ∧
        (vrecChance c ps ks pc p1 p2 d acc).1 ≤ acc + hi * ps.sum ∧
        DOK c.ch (vrecChance c ps ks pc p1 p2 d acc).2.2
  | p :: ps, k :: ks => by
    intro pc p1 p2 d acc hnn hl hf hp hd
    obtain ⟨hp0, hnn'⟩ := List.forall_mem_cons.mp hnn
    obtain ⟨a1, a2, a3⟩ := vrec_rng c hdr lo hi k (pc * p) p1 p2 d hf.1 hp.1 hd
    rw [vrecChance_cons, List.sum_cons]
    exact wsum_step hp0 a1 a2
      (vrecChance_rng c hdr lo hi ps ks pc p1 p2 _ _ hnn' (Nat.succ.inj hl) hf.2 hp.2 a3)
  | [], [] => by
    intro _ _ _ d acc _ _ _ _ hd
    rw [vrecChance_nil_left, List.sum_nil, mul_zero, mul_zero, add_zero]
    exact ⟨le_rfl, le_rfl, hd⟩
  | [], _ :: _ => fun _ _ _ _ _ _ hl => nomatch hl
  | _ :: _, [] => fun _ _ _ _ _ _ hl => nomatch hl
theorem vrecActs_rng (c : VCtx ℝ) (hdr : c.sampled = true → DrawLt c.draw) (lo hi : ℝ)
    (one : Bool) (i : ℕ) (mult : ℝ) :
    ∀ (ss : List ℝ) (ks : List (Node ℝ)) (pc p1 p2 : ℝ) (d : DrawSt ℝ) (k : ℕ) (eo ex : ℝ),
      (∀ s ∈ ss, 0 ≤ s) → ss.length = ks.length → TFitL c.ch c.strat ks → PayInL lo hi ks →
      DOK c.ch d →
      eo + lo * ss.sum ≤ (vrecActs c one i mult ss ks pc p1 p2 d k eo ex).1 ∧
        (vrecActs c one i mult ss ks pc p1 p2 d k eo ex).1 ≤ eo + hi * ss.sum ∧
        DOK c.ch (vrecActs c one i mult ss ks pc p1 p2 d k eo ex).2.2.2
  | s :: ss, n :: ks => by
    intro pc p1 p2 d k eo ex hnn hl hf hp hd
    obtain ⟨hs0, hnn'⟩ := List.forall_mem_cons.mp hnn
    obtain ⟨a1, a2, a3⟩ := vrec_rng c hdr lo hi n pc (if one then p1 * s else p1)
      (if one then p2 else p2 * s) d hf.1 hp.1 hd
    rw [vrecActs_cons', List.sum_cons]
    exact wsum_step hs0 a1 a2
      (vrecActs_rng c hdr lo hi one i mult ss ks pc p1 p2 _ _ _ _ hnn' (Nat.succ.inj hl) hf.2 hp.2
        a3)
  | [], [] => by
    intro _ _ _ d _ eo ex _ _ _ _ hd
    rw [vrecActs_nil_left, List.sum_nil, mul_zero, mul_zero, add_zero]
    exact ⟨le_rfl, le_rfl, hd⟩
  | [], _ :: _ => fun _ _ _ _ _ _ _ _ hl => nomatch hl
  | _ :: _, [] => fun _ _ _ _ _ _ _ _ hl => nomatch hl
end

noncomputable def dotE (σ : List ℝ) (f : ℕ → ℝ) : ℝ := ∑ a ∈ range σ.length, σ.getD a 0 * f a

theorem dotE_add (σ : List ℝ) (f g : ℕ → ℝ) :
    dotE σ (fun a => f a + g a) = dotE σ f + dotE σ g := by
  unfold dotE
  rw [← Finset.sum_add_distrib]
  exact Finset.sum_congr rfl fun a _ => mul_add _ _ _

theorem dotE_zero (σ : List ℝ) : dotE σ (fun _ => 0) = 0 := by
  simp only [dotE, mul_zero, Finset.sum_const_zero]

theorem dotE_single (σ : List ℝ) (k : ℕ) (u : ℝ) (hk : k < σ.length) :
    dotE σ (fun a => if k = a then u else 0) = σ.getD k 0 * u := by
  unfold dotE
  simp only [mul_ite, mul_zero]
  rw [Finset.sum_ite_eq, if_pos (Finset.mem_range.mpr hk)]

theorem dotE_const_lt (σ : List ℝ) (u : ℝ) :
    dotE σ (fun a => if a < σ.length then u else 0) = σ.sum * u := by
  unfold dotE
  rw [← sum_range_getD σ, Finset.sum_mul]
  exact Finset.sum_congr rfl fun a ha => by simp only [if_pos (Finset.mem_range.mp ha)]

theorem drop_eq_cons {σ : List ℝ} {k : ℕ} {s : ℝ} {ss : List ℝ} (h : s :: ss = σ.drop k) :
    k < σ.length ∧ s = σ.getD k 0 ∧ ss = σ.drop (k + 1) := by
  have hk : k < σ.length := by
    by_contra hc
    rw [List.drop_eq_nil_of_le (not_lt.mp hc)] at h
    exact List.cons_ne_nil _ _ h
  rw [List.drop_eq_getElem_cons hk] at h
  obtain ⟨h1, h2⟩ := List.cons.inj h
  refine ⟨hk, ?_, h2⟩
  rw [h1, List.getD_eq_getElem?_getD, List.getElem?_eq_getElem hk, Option.getD_some]

/-- one step of an action loop: after the effects `e` of the child (orthogonal) the loop adds `u`
to cell `k` of its own infoset, then the effects `e'` of the later actions -/
theorem dotE_regret_cons (σ : List ℝ) (me : Bool) (I : ℕ) (one : Bool) (i k : ℕ) (u X : ℝ)
    {s : ℝ} {ss : List ℝ} (e e' : List (Eff ℝ)) (hss : one = me ∧ i = I → s :: ss = σ.drop k)
    (he : dotE σ (fun a => effSum e me I Slot.regret a) = 0)
    (he' : dotE σ (fun a => effSum e' me I Slot.regret a) = if one = me ∧ i = I then X else 0) :
    dotE σ (fun a => effSum (e ++ ⟨one, i, .regret, k, u⟩ :: e') me I Slot.regret a)
      = if one = me ∧ i = I then s * u + X else 0 := by
  simp only [effSum_append, effSum_cons_regret]
  rw [dotE_add, dotE_add, he, he', zero_add]
  by_cases h : one = me ∧ i = I
  · obtain ⟨hk, hs, -⟩ := drop_eq_cons (hss h)
    simp only [h, and_self, true_and, if_true]
    rw [dotE_single _ _ _ hk, ← hs]
  · have e0 : ∀ a, ¬ (one = me ∧ i = I ∧ k = a) := fun a h' => h ⟨h'.1, h'.2.1⟩
    simp only [if_neg h, e0, if_false, dotE_zero, add_zero]

/-- the end of a player node: the loop's effects `e` weigh to the node's value `sub`, which is
then subtracted from every cell -/
theorem dotE_subEffs (σ : List ℝ) (hsum : σ.sum = 1) (me : Bool) (I : ℕ) (one : Bool) (i n : ℕ)
    (sub : ℝ) (e : List (Eff ℝ)) (hn : one = me ∧ i = I → n = σ.length)
    (he : dotE σ (fun a => effSum e me I Slot.regret a) = if one = me ∧ i = I then sub else 0) :
    dotE σ (fun a => effSum (e ++ subEffs one i sub n) me I Slot.regret a) = 0 := by
  simp only [effSum_append, effSum_subEffs_regret]
  rw [dotE_add, he]
  by_cases h : one = me ∧ i = I
  · simp only [h, and_self, true_and, if_true, hn h]
    rw [dotE_const_lt, hsum, one_mul, add_neg_cancel]
  · have e0 : ∀ a, ¬ (one = me ∧ i = I ∧ a < n) := fun a h' => h ⟨h'.1, h'.2.1⟩
    simp only [if_neg h, e0, if_false, dotE_zero, add_zero]

mutual
theorem vrec_orth (c : VCtx ℝ) (me : Bool) (I : ℕ) (hsum : (c.strat me I).sum = 1) :
    ∀ (n : Node ℝ) (pc p1 p2 : ℝ) (d : DrawSt ℝ),
      dotE (c.strat me I) (fun a => effSum (vrec c n pc p1 p2 d).2.1 me I Slot.regret a) = 0
  | .term p => by
    intro pc p1 p2 d
    simp only [vrec_term, effSum_nil, dotE_zero]
  | .chance i ks => by
    intro pc p1 p2 d
    cases hs : c.sampled
    · rw [vrec_chance c hs]
      exact vrecChance_orth c me I hsum _ ks pc p1 p2 d 0
    · rw [vrec_chance_s c hs]
      exact vrecNth_orth c me I hsum ks _ pc p1 p2 _
  | .player one i ks => by
    intro pc p1 p2 d
    rw [vrec_player]
    refine dotE_subEffs _ hsum me I one i _ _ _ (fun h => by rw [h.1, h.2]) ?_
    simp only [effSum_append, effSum_stratEffs_regret, zero_add]
    rw [vrecActs_orth c me I hsum one i _ _ ks pc p1 p2 d 0 0 0 (fun h => by rw [h.1, h.2]; rfl),
      sub_zero]
theorem vrecNth_orth (c : VCtx ℝ) (me : Bool) (I : ℕ) (hsum : (c.strat me I).sum = 1) :
    ∀ (ks : List (Node ℝ)) (k : ℕ) (pc p1 p2 : ℝ) (d : DrawSt ℝ),
      dotE (c.strat me I) (fun a => effSum (vrecNth c ks k pc p1 p2 d).2.1 me I Slot.regret a) = 0
  | [], _ => by
    intros
    simp only [vrecNth, effSum_nil, dotE_zero]
  | k :: _, 0 => by
    intro pc p1 p2 d
    exact vrec_orth c me I hsum k pc p1 p2 d
  | _ :: ks, n + 1 => by
    intro pc p1 p2 d
    exact vrecNth_orth c me I hsum ks n pc p1 p2 d
theorem vrecChance_orth (c : VCtx ℝ) (me : Bool) (I : ℕ) (hsum : (c.strat me I).sum = 1) :
    ∀ (ps : List ℝ) (ks : List (Node ℝ)) (pc p1 p2 : ℝ) (d : DrawSt ℝ) (acc : ℝ),
      dotE (c.strat me I)
        (fun a => effSum (vrecChance c ps ks pc p1 p2 d acc).2.1 me I Slot.regret a) = 0
  | p :: ps, k :: ks => by
    intro pc p1 p2 d acc
    rw [vrecChance_cons]
    simp only [effSum_append]
    rw [dotE_add, vrec_orth c me I hsum k, vrecChance_orth c me I hsum ps ks, add_zero]
  | [], _ => by
    intros
    simp only [vrecChance_nil_left, effSum_nil, dotE_zero]
  | _ :: _, [] => by
    intros
    simp only [vrecChance_nil_right, effSum_nil, dotE_zero]
theorem vrecActs_orth (c : VCtx ℝ) (me : Bool) (I : ℕ) (hsum : (c.strat me I).sum = 1)
    (one : Bool) (i : ℕ) (mult : ℝ) :
    ∀ (ss : List ℝ) (ks : List (Node ℝ)) (pc p1 p2 : ℝ) (d : DrawSt ℝ) (k : ℕ) (eo ex : ℝ),
      (one = me ∧ i = I → ss = (c.strat me I).drop k) →
      dotE (c.strat me I)
        (fun a => effSum (vrecActs c one i mult ss ks pc p1 p2 d k eo ex).2.2.1 me I Slot.regret a)
        = if one = me ∧ i = I then (vrecActs c one i mult ss ks pc p1 p2 d k eo ex).2.1 - ex else 0
  | s :: ss, n :: ks => by
    intro pc p1 p2 d k eo ex hss
    rw [vrecActs_cons']
    rw [dotE_regret_cons _ me I one i k _ _ _ _ hss (vrec_orth c me I hsum n _ _ _ _)
      (vrecActs_orth c me I hsum one i mult ss ks _ _ _ _ _ _ _
        (fun h => (drop_eq_cons (hss h)).2.2))]
    exact if_congr Iff.rfl (by ring) rfl
  | [], _ => by
    intros
    simp only [vrecActs_nil_left, effSum_nil, dotE_zero, sub_self, ite_self]
  | _ :: _, [] => by
    intros
    simp only [vrecActs_nil_right, effSum_nil, dotE_zero, sub_self, ite_self]
end

/-- below an own node of `I` whose children contain no further node of `I`, the action loop adds
the (scaled) value of child `a` to cell `a` -/
theorem vrecActs_self (c : VCtx ℝ) (hdr : c.sampled = true → DrawLt c.draw) (me : Bool) (I : ℕ)
    (lo hi : ℝ) (hD : lo ≤ hi) (mult : ℝ) :
    ∀ (ss : List ℝ) (ks : List (Node ℝ)) (pc p1 p2 : ℝ) (d : DrawSt ℝ) (k : ℕ) (eo ex : ℝ),
      ss.length = ks.length → ¬ HasL me I ks → TFitL c.ch c.strat ks → PayInL lo hi ks →
      DOK c.ch d →
      ∀ a, ∃ u, (lo ≤ u ∧ u ≤ hi) ∧
        effSum (vrecActs c me I mult ss ks pc p1 p2 d k eo ex).2.2.1 me I Slot.regret a
          = if k ≤ a ∧ a < k + ks.length then u * mult else 0
  | s :: ss, n :: ks => by
    intro pc p1 p2 d k eo ex hl hh hf hp hd a
    obtain ⟨a1, a2, a3⟩ := vrec_rng c hdr lo hi n pc (if me then p1 * s else p1)
      (if me then p2 else p2 * s) d hf.1 hp.1 hd
    obtain ⟨u, hu, e⟩ := vrecActs_self c hdr me I lo hi hD mult ss ks pc p1 p2 _ (k + 1)
      (eo + s * (vrec c n pc (if me then p1 * s else p1) (if me then p2 else p2 * s) d).1)
      (ex + (vrec c n pc (if me then p1 * s else p1) (if me then p2 else p2 * s) d).1 * mult * s)
      (Nat.succ.inj hl) (fun hk => hh (.inr hk)) hf.2 hp.2 a3 a
    refine ⟨if k = a then _ else u,
      iteInduction (motive := fun u => lo ≤ u ∧ u ≤ hi) (fun _ => ⟨a1, a2⟩) fun _ => hu, ?_⟩
    rw [vrecActs_cons']
    simp only [effSum_append, effSum_cons_regret, true_and]
    rw [vrec_zero c me I a n _ _ _ _ (fun hk => hh (.inl hk)), e, zero_add, ite_range_succ,
      ite_mul]
    rfl
  | [], [] => by
    intro _ _ _ d k _ _ _ _ _ _ _ a
    refine ⟨lo, ⟨le_rfl, hD⟩, ?_⟩
    rw [vrecActs_nil_left, effSum_nil, if_neg (by simp)]
  | [], _ :: _ => fun _ _ _ _ _ _ _ hl => nomatch hl
  | _ :: _, [] => fun _ _ _ _ _ _ _ hl => nomatch hl

mutual
theorem vrec_bnd (c : VCtx ℝ) (hdr : c.sampled = true → DrawLt c.draw) (me : Bool) (I : ℕ)
    (lo hi : ℝ) (hD : lo ≤ hi) :
    ∀ (n : Node ℝ) (pc p1 p2 : ℝ) (d : DrawSt ℝ), 0 ≤ pc → 0 ≤ p1 → 0 ≤ p2 → GoodR me I n →
      TFit c.ch c.strat n → PayIn lo hi n → DOK c.ch d →
      ∀ a, |effSum (vrec c n pc p1 p2 d).2.1 me I Slot.regret a|
        ≤ (hi - lo) * (pc * (if me then p2 else p1))
  | .term p => by
    intro pc p1 p2 d h0 h1 h2 _ _ _ _ a
    rw [vrec_term, effSum_nil, abs_zero]
    exact bnd_nonneg hD h0 h1 h2 _
  | .chance i ks => by
    intro pc p1 p2 d h0 h1 h2 hg hf hp hd a
    cases hs : c.sampled
    · obtain ⟨hl, -, ⟨hnn, hsum⟩, hk⟩ := hf
      rw [vrec_chance c hs]
      refine (vrecChance_bnd c hdr me I lo hi hD _ ks pc p1 p2 d 0 h0 h1 h2 hnn hl hg hk hp hd
        a).trans_eq ?_
      rw [hsum, mul_one]
    · rw [vrec_chance_s c hs]
      obtain ⟨-, s2, -⟩ := sampleChance_ok c.draw (hdr hs) hf c.pass d hd
      exact vrecNth_bnd c hdr me I lo hi hD ks _ pc p1 p2 _ h0 h1 h2 hg hf.2.2.2 hp s2 a
  | .player one i ks => by
    intro pc p1 p2 d h0 h1 h2 hg hf hp hd a
    obtain ⟨hl, -, ⟨hnn, hsum⟩, hk⟩ := hf
    rw [vrec_player]
    simp only [effSum_append, effSum_stratEffs_regret, zero_add, effSum_subEffs_regret]
    by_cases ho : one = me
    · subst ho
      by_cases hI : i = I
      · subst hI
        -- cell `a` gets `mult · u_a` from the loop and `−mult · v` at the end, `u_a, v ∈ [lo, hi]`
        obtain ⟨u, hu, e⟩ := vrecActs_self c hdr one i lo hi hD
          (if one then pc * p2 else -p1 * pc) (c.strat one i) ks pc p1 p2 d 0 0 0 hl
          ((hg.2 rfl).1 rfl) hk hp hd a
        obtain ⟨r1, r2, -⟩ := vrecActs_rng c hdr lo hi one i
          (if one then pc * p2 else -p1 * pc) (c.strat one i) ks pc p1 p2 d 0 0 0 hnn hl hk hp hd
        rw [hsum, mul_one, zero_add] at r1 r2
        rw [e, vrecActs_sub, hl]
        simp only [true_and, Nat.zero_le, zero_add, sub_zero]
        by_cases ha : a < ks.length
        · rw [if_pos ha, if_pos ha]
          exact cell_bound (abs_mult one h0 h1 h2) hu.1 hu.2 r1 r2
        · rw [if_neg ha, if_neg ha, add_zero, abs_zero]
          exact bnd_nonneg hD h0 h1 h2 _
      · rw [if_neg (fun h : _ ∧ _ ∧ _ => hI h.2.1), add_zero]
        exact vrecActs_bnd_own c hdr one I lo hi hD i hI _ _ ks pc p1 p2 d 0 0 0 h0 h1 h2 hnn hl
          ((hg.2 rfl).2 hI) hg.1 hk hp hd a
    · rw [if_neg (fun h : _ ∧ _ => ho h.1), add_zero]
      refine (vrecActs_bnd_opp c hdr me I lo hi hD one ho i _ _ ks pc p1 p2 d 0 0 0 h0 h1 h2 hnn
        hl hg.1 hk hp hd a).trans_eq ?_
      rw [hsum, mul_one]
theorem vrecNth_bnd (c : VCtx ℝ) (hdr : c.sampled = true → DrawLt c.draw) (me : Bool) (I : ℕ)
    (lo hi : ℝ) (hD : lo ≤ hi) :
    ∀ (ks : List (Node ℝ)) (k : ℕ) (pc p1 p2 : ℝ) (d : DrawSt ℝ), 0 ≤ pc → 0 ≤ p1 → 0 ≤ p2 →
      GoodL me I ks → TFitL c.ch c.strat ks → PayInL lo hi ks → DOK c.ch d →
      ∀ a, |effSum (vrecNth c ks k pc p1 p2 d).2.1 me I Slot.regret a|
        ≤ (hi - lo) * (pc * (if me then p2 else p1))
  | [], _ => by
    intro pc p1 p2 d h0 h1 h2 _ _ _ _ a
    rw [vrecNth, effSum_nil, abs_zero]
    exact bnd_nonneg hD h0 h1 h2 _
  | k :: _, 0 => by
    intro pc p1 p2 d h0 h1 h2 hg hf hp hd a
    exact vrec_bnd c hdr me I lo hi hD k pc p1 p2 d h0 h1 h2 hg.1 hf.1 hp.1 hd a
  | _ :: ks, n + 1 => by
    intro pc p1 p2 d h0 h1 h2 hg hf hp hd a
    exact vrecNth_bnd c hdr me I lo hi hD ks n pc p1 p2 d h0 h1 h2 hg.2 hf.2 hp.2 hd a
theorem vrecChance_bnd (c : VCtx ℝ) (hdr : c.sampled = true → DrawLt c.draw) (me : Bool) (I : ℕ)
    (lo hi : ℝ) (hD : lo ≤ hi) :
    ∀ (ps : List ℝ) (ks : List (Node ℝ)) (pc p1 p2 : ℝ) (d : DrawSt ℝ) (acc : ℝ),
      0 ≤ pc → 0 ≤ p1 → 0 ≤ p2 → (∀ p ∈ ps, 0 ≤ p) → ps.length = ks.length →
      GoodL me I ks → TFitL c.ch c.strat ks → PayInL lo hi ks → DOK c.ch d →
      ∀ a, |effSum (vrecChance c ps ks pc p1 p2 d acc).2.1 me I Slot.regret a|
        ≤ (hi - lo) * (pc * (if me then p2 else p1)) * ps.sum
  | p :: ps, k :: ks => by
    intro pc p1 p2 d acc h0 h1 h2 hnn hl hg hf hp hd a
    obtain ⟨hp0, hnn'⟩ := List.forall_mem_cons.mp hnn
    rw [vrecChance_cons]
    simp only [effSum_append, List.sum_cons]
    exact abs_add_le_mul
      ((vrec_bnd c hdr me I lo hi hD k (pc * p) p1 p2 d (mul_nonneg h0 hp0) h1 h2 hg.1 hf.1 hp.1
        hd a).trans_eq (by ring))
      (vrecChance_bnd c hdr me I lo hi hD ps ks pc p1 p2 _ _ h0 h1 h2 hnn' (Nat.succ.inj hl) hg.2
        hf.2 hp.2 (vrec_rng c hdr lo hi k (pc * p) p1 p2 d hf.1 hp.1 hd).2.2 a)
  | [], [] => by
    intros
    rw [vrecChance_nil_left, effSum_nil, abs_zero, List.sum_nil, mul_zero]
  | [], _ :: _ => fun _ _ _ _ _ _ _ _ _ hl => nomatch hl
  | _ :: _, [] => fun _ _ _ _ _ _ _ _ _ hl => nomatch hl
theorem vrecActs_bnd_opp (c : VCtx ℝ) (hdr : c.sampled = true → DrawLt c.draw) (me : Bool) (I : ℕ)
    (lo hi : ℝ) (hD : lo ≤ hi) (one : Bool) (hne : ¬ one = me) (i : ℕ) (mult : ℝ) :
    ∀ (ss : List ℝ) (ks : List (Node ℝ)) (pc p1 p2 : ℝ) (d : DrawSt ℝ) (k : ℕ) (eo ex : ℝ),
      0 ≤ pc → 0 ≤ p1 → 0 ≤ p2 → (∀ s ∈ ss, 0 ≤ s) → ss.length = ks.length →
      GoodL me I ks → TFitL c.ch c.strat ks → PayInL lo hi ks → DOK c.ch d →
      ∀ a, |effSum (vrecActs c one i mult ss ks pc p1 p2 d k eo ex).2.2.1 me I Slot.regret a|
        ≤ (hi - lo) * (pc * (if me then p2 else p1)) * ss.sum
  | s :: ss, n :: ks => by
    intro pc p1 p2 d k eo ex h0 h1 h2 hnn hl hg hf hp hd a
    obtain ⟨hs0, hnn'⟩ := List.forall_mem_cons.mp hnn
    rw [vrecActs_cons']
    simp only [effSum_append, List.sum_cons]
    rw [effSum_cons_ne _ _ _ _ _ _ (fun h => hne h.1)]
    refine abs_add_le_mul
      ((vrec_bnd c hdr me I lo hi hD n pc _ _ d h0 (ite_nonneg (mul_nonneg h1 hs0) h1)
        (ite_nonneg h2 (mul_nonneg h2 hs0)) hg.1 hf.1 hp.1 hd a).trans_eq ?_)
      (vrecActs_bnd_opp c hdr me I lo hi hD one hne i mult ss ks pc p1 p2 _ _ _ _ h0 h1 h2 hnn'
        (Nat.succ.inj hl) hg.2 hf.2 hp.2 (vrec_rng c hdr lo hi n pc _ _ d hf.1 hp.1 hd).2.2 a)
    rw [reach_step, if_neg hne]
    ring
  | [], [] => by
    intros
    rw [vrecActs_nil_left, effSum_nil, abs_zero, List.sum_nil, mul_zero]
  | [], _ :: _ => fun _ _ _ _ _ _ _ _ _ _ _ hl => nomatch hl
  | _ :: _, [] => fun _ _ _ _ _ _ _ _ _ _ _ hl => nomatch hl
theorem vrecActs_bnd_own (c : VCtx ℝ) (hdr : c.sampled = true → DrawLt c.draw) (me : Bool) (I : ℕ)
    (lo hi : ℝ) (hD : lo ≤ hi) (i : ℕ) (hi' : ¬ i = I) (mult : ℝ) :
    ∀ (ss : List ℝ) (ks : List (Node ℝ)) (pc p1 p2 : ℝ) (d : DrawSt ℝ) (k : ℕ) (eo ex : ℝ),
      0 ≤ pc → 0 ≤ p1 → 0 ≤ p2 → (∀ s ∈ ss, 0 ≤ s) → ss.length = ks.length →
      Uniq me I ks → GoodL me I ks → TFitL c.ch c.strat ks → PayInL lo hi ks → DOK c.ch d →
      ∀ a, |effSum (vrecActs c me i mult ss ks pc p1 p2 d k eo ex).2.2.1 me I Slot.regret a|
        ≤ (hi - lo) * (pc * (if me then p2 else p1))
  | s :: ss, n :: ks => by
    intro pc p1 p2 d k eo ex h0 h1 h2 hnn hl hu hg hf hp hd a
    obtain ⟨hs0, hnn'⟩ := List.forall_mem_cons.mp hnn
    rw [vrecActs_cons']
    simp only [effSum_append]
    rw [effSum_cons_ne _ _ _ _ _ _ (fun h => hi' h.2)]
    -- at most one child contains nodes of `I`: that child or the later ones add nothing
    by_cases hn : Has me I n
    · rw [vrecActs_zero c me I a me i mult ss ks _ _ _ _ _ _ _ (fun h => hi' h.2) (hu.1 hn),
        add_zero]
      refine (vrec_bnd c hdr me I lo hi hD n pc _ _ d h0 (ite_nonneg (mul_nonneg h1 hs0) h1)
        (ite_nonneg h2 (mul_nonneg h2 hs0)) hg.1 hf.1 hp.1 hd a).trans_eq ?_
      rw [reach_step, if_pos rfl]
    · rw [vrec_zero c me I a n _ _ _ _ hn, zero_add]
      exact vrecActs_bnd_own c hdr me I lo hi hD i hi' mult ss ks pc p1 p2 _ _ _ _ h0 h1 h2 hnn'
        (Nat.succ.inj hl) hu.2 hg.2 hf.2 hp.2 (vrec_rng c hdr lo hi n pc _ _ d hf.1 hp.1 hd).2.2 a
  | [], [] => by
    intro pc p1 p2 d _ _ _ h0 h1 h2 _ _ _ _ _ _ _ a
    rw [vrecActs_nil_left, effSum_nil, abs_zero]
    exact bnd_nonneg hD h0 h1 h2 _
  | [], _ :: _ => fun _ _ _ _ _ _ _ _ _ _ _ hl => nomatch hl
  | _ :: _, [] => fun _ _ _ _ _ _ _ _ _ _ _ hl => nomatch hl
end

end Cfr
