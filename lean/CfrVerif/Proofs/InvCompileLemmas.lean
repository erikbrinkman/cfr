import CfrVerif.Proofs.TreeInd
import CfrVerif.Model.Eval
import CfrVerif.Proofs.CompileSteps
/-!
# Helper lemmas for `Proofs/InvCompile.lean` (C12, part 1)

Each change of presentation is followed through `compile`: a loop lemma for `compileOutcomes` and
one for `compileActions` under a hypothesis on the children, then one induction over the tree.

* rescaled chance weights: `compile_rescale`;
* payoffs: `compile` never looks at them (`compile_mapPay`);
* functions of the shape only: `optimalDeviations_sameShape`, `init_sameShape`;
* two runs from related builder states: `ExRel` (same error, or related results), `SimOK`, and the
  two child loops for any relation on the states (`compileOutcomes_sim`, `compileActions_sim`;
  also used for the named padding of `Proofs/InvChanceName.lean`);
* padding with degenerate nodes: the relation `PadRel` between the builder states of the original
  and of the padded tree, `compile_pad`;
* renaming: the renamed builder state `BState.rename`, equivariance of the registration steps and of
  `compile`.
-/
set_option linter.unusedSectionVars false
namespace Cfr
variable {α : Type} [Field α] [LinearOrder α] [IsStrictOrderedRing α]

/-! ## `compile` on degenerate input; laws of `Except.bind` and `Except.map`

`Proofs/CompileSteps.lean` chains every step of `compile` by `Except.bind`; where a run is compared
with its image under a map, `Except.bind_ok_comp` turns the last, infallible step into an
`Except.map`. -/

section except
variable {ε β γ δ : Type}

theorem Except.bind_ok_comp (a : Except ε β) (F : β → γ) :
    (a.bind fun x => .ok (F x)) = a.map F := by cases a <;> rfl
theorem Except.bind_map' (a : Except ε β) (F : β → γ) (g : γ → Except ε δ) :
    (a.map F).bind g = a.bind (fun x => g (F x)) := by cases a <;> rfl
theorem Except.map_bind' (a : Except ε β) (g : β → Except ε γ) (F : γ → δ) :
    (a.bind g).map F = a.bind (fun x => (g x).map F) := by cases a <;> rfl
theorem Except.map_map' (a : Except ε β) (F : β → γ) (G : γ → δ) :
    (a.map F).map G = a.map (fun x => G (F x)) := by cases a <;> rfl
theorem Except.bind_congr' {a : Except ε β} {f g : β → Except ε γ} (h : ∀ x, f x = g x) :
    a.bind f = a.bind g := congrArg _ (funext h)

end except

theorem compile_player_nil (one : Bool) (info : Nat) (ks : List (Raw α)) (prev : Prev)
    (s : BState α) : compile (.player one info [] ks) prev s = .error .emptyPlayer := by
  simp only [compile]

theorem compile_player_childless (one : Bool) (info : Nat) (as : List Nat) (prev : Prev)
    (s : BState α) : compile (.player one info as []) prev s = .error .emptyPlayer := by
  cases as <;> simp only [compile]

theorem compileOutcomes_nil_right (ws : List α) (prev : Prev) (s : BState α) :
    compileOutcomes ws [] prev s = .ok ([], [], s) := by
  cases ws <;> simp only [compileOutcomes]

/-! ## rescaled chance weights -/

theorem lsum_map_mul (c : α) (ps : List α) : lsum (ps.map (fun w => c * w)) = c * lsum ps := by
  induction ps with
  | nil => exact (mul_zero c).symm
  | cons x l ih => rw [List.map_cons, lsum_cons, lsum_cons, ih, mul_add]

theorem registerChance_rescale (info : Option Nat) (c : α) (hc : 0 < c) (ps : List α)
    (nodes : List (Node α)) (s : BState α) :
    registerChance info (ps.map (fun w => c * w)) nodes s = registerChance info ps nodes s := by
  -- the normalised weights are the same
  have hn : (ps.map (fun w => c * w)).map (fun x => x / lsum (ps.map (fun w => c * w)))
      = ps.map (fun x => x / lsum ps) := by
    rw [lsum_map_mul, List.map_map]
    exact List.map_congr_left (fun w _ => mul_div_mul_left w (lsum ps) hc.ne')
  unfold registerChance
  simp only [hn]

section rescaleLoops
variable {ks : List (Raw α)}
  (h : ∀ k ∈ ks, ∀ k', Rescaled k k' → ∀ prev s, compile k' prev s = compile k prev s)
include h

theorem compileOutcomes_rescale_of (ws : List α) (ks' : List (Raw α)) (c : α) (prev : Prev)
    (s : BState α) (hc : 0 < c) (hk : RescaledL ks ks') :
    compileOutcomes (ws.map (fun w => c * w)) ks' prev s
      = (compileOutcomes ws ks prev s).map (fun x => (x.1.map (fun w => c * w), x.2.1, x.2.2)) := by
  induction ks generalizing ws ks' s with
  | nil =>
    cases ks' with
    | nil => rw [compileOutcomes_nil_right, compileOutcomes_nil_right]; rfl
    | cons => exact hk.elim
  | cons k ks ih =>
    rw [List.forall_mem_cons] at h
    cases ks' with
    | nil => exact hk.elim
    | cons k' ks' =>
      simp only [RescaledL] at hk
      cases ws with
      | nil => rw [List.map_nil, compileOutcomes_nil, compileOutcomes_nil]; rfl
      | cons w ws =>
        simp only [List.map_cons, compileOutcomes_cons, Except.bind_ok_comp, h.1 k' hk.1]
        by_cases hw : 0 < w
        · simp only [if_pos hw, if_pos (mul_pos hc hw), Except.map_bind', Except.map_map',
            ih h.2 ws ks' _ hk.2, List.map_cons]
        · rw [if_neg hw, if_neg (fun h' => hw ((mul_pos_iff_of_pos_left hc).mp h'))]; rfl

theorem compileActions_rescale_of (ks' : List (Raw α)) (one : Bool) (i a : Nat) (prev : Prev)
    (s : BState α) (hk : RescaledL ks ks') :
    compileActions ks' one i a prev s = compileActions ks one i a prev s := by
  induction ks generalizing ks' a s with
  | nil =>
    cases ks' with
    | nil => rfl
    | cons => exact hk.elim
  | cons k ks ih =>
    rw [List.forall_mem_cons] at h
    cases ks' with
    | nil => exact hk.elim
    | cons k' ks' =>
      simp only [RescaledL] at hk
      simp only [compileActions_cons, h.1 k' hk.1, ih h.2 ks' _ _ hk.2]
end rescaleLoops

theorem compile_rescale (r : Raw α) : ∀ (r' : Raw α) (prev : Prev) (s : BState α), Rescaled r r' →
    compile r' prev s = compile r prev s := by
  induction r using Raw.induct with
  | term p =>
    intro r' prev s h
    cases r' <;> simp only [Rescaled] at h
    rw [h]
  | chance i ws ks ih =>
    intro r' prev s h
    cases r' <;> simp only [Rescaled] at h
    obtain ⟨rfl, ⟨c, hc, rfl⟩, hk⟩ := h
    simp only [compile_chance, compileOutcomes_rescale_of (fun k hk k' h' prev s => ih k hk k' prev s h')
      ws _ c prev s hc hk, Except.bind_map', registerChance_rescale _ c hc]
  | player o i as ks ih =>
    intro r' prev s h
    cases r' <;> simp only [Rescaled] at h
    obtain ⟨rfl, rfl, rfl, hk⟩ := h
    rename_i ks'
    cases ks with
    | nil =>
      cases ks' with
      | nil => rfl
      | cons => exact hk.elim
    | cons k ks =>
      cases ks' with
      | nil => exact hk.elim
      | cons k' ks' =>
        match as with
        | [] => rw [compile_player_nil, compile_player_nil]
        | [a] =>
          simp only [RescaledL] at hk
          simp only [compile_single]
          exact Except.bind_congr' (fun x => ih k List.mem_cons_self k' prev x hk.1)
        | a :: b :: as =>
          simp only [compile_multi, compileActions_rescale_of
            (fun k hk k' h' prev s => ih k hk k' prev s h') (k' :: ks') _ _ _ _ _ hk]

theorem compileOutcomes_rescale : ∀ (ws : List α) (ks ks' : List (Raw α)) (c : α) (prev : Prev)
    (s : BState α), 0 < c → RescaledL ks ks' →
    compileOutcomes (ws.map (fun w => c * w)) ks' prev s
      = (compileOutcomes ws ks prev s).map (fun x => (x.1.map (fun w => c * w), x.2.1, x.2.2)) :=
  fun ws _ ks' c prev s hc hk =>
    compileOutcomes_rescale_of (fun k _ k' h' prev s => compile_rescale k k' prev s h') ws ks' c prev s
      hc hk

theorem compileActions_rescale : ∀ (ks ks' : List (Raw α)) (one : Bool) (i a : Nat) (prev : Prev)
    (s : BState α), RescaledL ks ks' →
    compileActions ks' one i a prev s = compileActions ks one i a prev s :=
  fun _ ks' one i a prev s hk =>
    compileActions_rescale_of (fun k _ k' h' prev s => compile_rescale k k' prev s h') ks' one i a prev
      s hk

/-! ## transformations of the children that commute with `compile` -/

section naturality
variable {T : Raw α → Raw α} {S : BState α → BState α} {N : Node α → Node α} {ks : List (Raw α)}
  (h : ∀ k ∈ ks, ∀ prev s, compile (T k) prev (S s) = (compile k prev s).map (fun x => (N x.1, S x.2)))
include h

/-- the child loop over the images `T k` of trees: if compiling `T k` from the image `S s` of a
state gives the image of the result (`N` on the node, `S` on the state), so does the loop -/
theorem compileOutcomes_map (ws : List α) (prev : Prev) (s : BState α) :
    compileOutcomes ws (ks.map T) prev (S s)
      = (compileOutcomes ws ks prev s).map (fun x => (x.1, x.2.1.map N, S x.2.2)) := by
  induction ks generalizing ws s with
  | nil => rw [List.map_nil, compileOutcomes_nil_right, compileOutcomes_nil_right]; rfl
  | cons k ks ih =>
    rw [List.forall_mem_cons] at h
    cases ws with
    | nil => rw [compileOutcomes_nil, compileOutcomes_nil]; rfl
    | cons w ws =>
      simp only [List.map_cons, compileOutcomes_cons, Except.bind_ok_comp, h.1]
      by_cases hw : 0 < w
      · simp only [if_pos hw, Except.bind_map', Except.map_bind', Except.map_map', ih h.2,
          List.map_cons]
      · simp only [if_neg hw]; rfl

theorem compileActions_map (one : Bool) (i a : Nat) (prev : Prev) (s : BState α) :
    compileActions (ks.map T) one i a prev (S s)
      = (compileActions ks one i a prev s).map (fun x => (x.1.map N, S x.2)) := by
  induction ks generalizing a s with
  | nil => rfl
  | cons k ks ih =>
    rw [List.forall_mem_cons] at h
    simp only [List.map_cons, compileActions_cons, Except.bind_ok_comp, h.1, Except.bind_map', Except.map_bind',
      Except.map_map', ih h.2]
end naturality

/-! ## payoffs -/

def mapRes (f : α → α) : Node α × BState α → Node α × BState α := fun x => (x.1.mapPay f, x.2)

theorem registerChance_mapPay (f : α → α) (info : Option Nat) (probs : List α) (kids : List (Node α))
    (s : BState α) :
    registerChance info probs (Node.mapPayL f kids) s
      = (registerChance info probs kids s).map (mapRes f) := by
  match kids with
  | [] => rfl
  | [k] =>
    simp only [Node.mapPayL, registerChance]
    split
    · rfl
    · split
      · split <;> rfl
      · rfl
  | k :: k' :: ks =>
    simp only [Node.mapPayL, registerChance]
    split
    · rfl
    · split
      · split <;> rfl
      · rfl

theorem compile_mapPay (f : α → α) (r : Raw α) : ∀ (prev : Prev) (s : BState α),
    compile (r.mapPay f) prev s = (compile r prev s).map (mapRes f) := by
  induction r using Raw.induct with
  | term p => intro prev s; simp only [Raw.mapPay, compile_term]; rfl
  | chance info ws ks ih =>
    intro prev s
    simp only [Raw.mapPay, Raw.mapPayL_eq_map, compile_chance, compileOutcomes_map (S := fun s => s) ih,
      Except.bind_map', Except.map_bind', ← Node.mapPayL_eq_map, registerChance_mapPay]
  | player one info as ks ih =>
    intro prev s
    rw [Raw.mapPay, Raw.mapPayL_eq_map]
    match as, ks, ih with
    | [], _, _ => rw [compile_player_nil, compile_player_nil]; rfl
    | _ :: _, [], _ => rw [List.map_nil, compile_player_childless]; rfl
    | [a], k :: ks, ih =>
      simp only [List.map_cons, compile_single, Except.map_bind']
      exact Except.bind_congr' (ih k List.mem_cons_self prev)
    | a :: b :: as, k :: ks, ih =>
      rw [List.map_cons, compile_multi, ← List.map_cons, compile_multi]
      simp only [Except.bind_ok_comp, compileActions_map (S := fun s => s) ih, Except.map_bind', Except.map_map', mapRes,
        Node.mapPay_player]

theorem compileOutcomes_mapPay (f : α → α) : ∀ (ws : List α) (ks : List (Raw α)) (prev : Prev) (s : BState α),
    compileOutcomes ws (Raw.mapPayL f ks) prev s
      = (compileOutcomes ws ks prev s).map (fun x => (x.1, Node.mapPayL f x.2.1, x.2.2)) := by
  intro ws ks
  simp only [Raw.mapPayL_eq_map, Node.mapPayL_eq_map]
  exact compileOutcomes_map (S := fun s => s) (fun k _ => compile_mapPay f k) ws

theorem compileActions_mapPay (f : α → α) : ∀ (ks : List (Raw α)) (one : Bool) (i a : Nat) (prev : Prev) (s : BState α),
    compileActions (Raw.mapPayL f ks) one i a prev s
      = (compileActions ks one i a prev s).map (fun x => (Node.mapPayL f x.1, x.2)) := by
  intro ks
  simp only [Raw.mapPayL_eq_map, Node.mapPayL_eq_map]
  exact compileActions_map (S := fun s => s) (fun k _ => compile_mapPay f k)
/-! ## the shape -/

theorem optimalDeviations_sameShape (g g' : Game α) (h : g.SameShape g') (me : Bool) (σo : Strat α) :
    optimalDeviations g me σo = optimalDeviations g' me σo := by
  obtain ⟨hc, hr, h1, h2⟩ := h
  have hi : (g.infos me).map (fun e => e.actions.length)
      = (g'.infos me).map (fun e => e.actions.length) := by
    cases me
    · exact h2
    · exact h1
  have hlen : (g.infos me).length = (g'.infos me).length := by
    rw [← List.length_map (f := fun e : PInfo => e.actions.length), hi, List.length_map]
  have hf : (fun i => ((g.infos me).getD i default).actions.length)
      = (fun i => ((g'.infos me).getD i default).actions.length) := by
    funext i
    rw [List.getD_eq_getElem?_getD, List.getD_eq_getElem?_getD,
      ← Option.getD_map (fun e : PInfo => e.actions.length),
      ← Option.getD_map (fun e : PInfo => e.actions.length), ← List.getElem?_map,
      ← List.getElem?_map, hi]
  unfold optimalDeviations
  simp only [hc, hr, hlen, hf]

theorem init_sameShape [Transc α] (g g' : Game α) (h : g.SameShape g') :
    SolveSt.init g = SolveSt.init g' := by
  obtain ⟨-, -, h1, h2⟩ := h
  have a1 := congrArg (List.map (fun n => (InfoSt.new n : InfoSt α))) h1
  have a2 := congrArg (List.map (fun n => (InfoSt.new n : InfoSt α))) h2
  simp only [List.map_map, Function.comp_def] at a1 a2
  simp only [SolveSt.init, a1, a2]

/-! ## padding with degenerate nodes -/

section pad

def ExRel {β β' : Type} (R : β → β' → Prop) : Except GameError β → Except GameError β' → Prop
  | .ok a, .ok b => R a b
  | .error e, .error e' => e = e'
  | _, _ => False

@[simp] theorem ExRel_ok {β β' : Type} (R : β → β' → Prop) (a : β) (b : β') :
    ExRel R (.ok a) (.ok b) = R a b := rfl
@[simp] theorem ExRel_error {β β' : Type} (R : β → β' → Prop) (e e' : GameError) :
    ExRel R (.error e : Except GameError β) (.error e' : Except GameError β') = (e = e') := rfl
@[simp] theorem ExRel_ok_error {β β' : Type} (R : β → β' → Prop) (a : β) (e' : GameError) :
    ExRel R (.ok a) (.error e' : Except GameError β') = False := rfl
@[simp] theorem ExRel_error_ok {β β' : Type} (R : β → β' → Prop) (e : GameError) (b : β') :
    ExRel R (.error e : Except GameError β) (.ok b) = False := rfl

section
variable {β β' γ γ' : Type} {R : β → β' → Prop} {Q : γ → γ' → Prop}
  {a : Except GameError β} {b : Except GameError β'}

@[elab_as_elim]
theorem ExRel.cases {P : Except GameError β → Except GameError β' → Prop} (h : ExRel R a b)
    (herr : ∀ e, P (.error e) (.error e)) (hok : ∀ x y, R x y → P (.ok x) (.ok y)) : P a b := by
  cases a <;> cases b
  · obtain rfl : _ = _ := h
    exact herr _
  · exact False.elim h
  · exact False.elim h
  · exact hok _ _ h

theorem ExRel.bind {f : β → Except GameError γ} {g : β' → Except GameError γ'} (h : ExRel R a b)
    (hfg : ∀ x y, R x y → ExRel Q (f x) (g y)) : ExRel Q (a.bind f) (b.bind g) :=
  h.cases (fun _ => rfl) hfg

theorem ExRel.mono {Q : β → β' → Prop} (h : ExRel R a b) (hRQ : ∀ x y, R x y → Q x y) :
    ExRel Q a b :=
  h.cases (fun _ => rfl) hRQ
end

/-! ### two runs of `compile` from related builder states -/

section sim
variable {St : BState α → BState α → Prop}
  {NR : BState α → Node α × BState α → Node α × BState α → Prop}
  {AR : BState α → List (Node α) × BState α → List (Node α) × BState α → Prop}

/-- the runs on `r` and `r'` from states related by `St` fail alike or give results related by `NR`,
which may refer to the state the second run starts from -/
def SimOK (St : BState α → BState α → Prop)
    (NR : BState α → Node α × BState α → Node α × BState α → Prop) (r r' : Raw α) : Prop :=
  ∀ (prev : Prev) (s s' : BState α), St s s' → ExRel (NR s') (compile r prev s) (compile r' prev s')

variable (hSt : ∀ {s' x y}, NR s' x y → St x.2 y.2)
  (hnil : ∀ {s s'}, St s s' → AR s' ([], s) ([], s'))
  (hcons : ∀ {s' x y u v}, NR s' x y → AR y.2 u v → AR s' (x.1 :: u.1, u.2) (y.1 :: v.1, v.2))
  {ks ks' : List (Raw α)} (h : List.Forall₂ (SimOK St NR) ks ks')
include hSt hnil hcons h

/-- the loop over the actions: the results are related by any `AR` that holds of the empty lists
and is kept when a pair of nodes related by `NR` is put in front of lists built after it -/
theorem compileActions_sim (one : Bool) (i a : Nat) (prev : Prev) (s s' : BState α) (hrel : St s s') :
    ExRel (AR s') (compileActions ks one i a prev s) (compileActions ks' one i a prev s') := by
  induction h generalizing a s s' with
  | nil => exact hnil hrel
  | @cons k k' ks ks' hk _ ih =>
    rw [compileActions_cons, compileActions_cons]
    exact (hk _ s s' hrel).bind fun x y hxy =>
      (ih (a + 1) x.2 y.2 (hSt hxy)).bind fun u v huv => hcons hxy huv

theorem compileOutcomes_sim (ws : List α) (prev : Prev) (s s' : BState α) (hrel : St s s') :
    ExRel (fun x y => x.1 = y.1 ∧ AR s' x.2 y.2) (compileOutcomes ws ks prev s)
      (compileOutcomes ws ks' prev s') := by
  induction h generalizing ws s s' with
  | nil => rw [compileOutcomes_nil_right, compileOutcomes_nil_right]; exact ⟨rfl, hnil hrel⟩
  | @cons k k' ks ks' hk _ ih =>
    cases ws with
    | nil => rw [compileOutcomes_nil, compileOutcomes_nil]; exact ⟨rfl, hnil hrel⟩
    | cons w ws =>
      rw [compileOutcomes_cons, compileOutcomes_cons]
      by_cases hw : 0 < w
      · rw [if_pos hw, if_pos hw]
        exact (hk prev s s' hrel).bind fun x y hxy =>
          (ih ws x.2 y.2 (hSt hxy)).bind fun u v huv => ⟨by rw [huv.1], hcons hxy huv.2⟩
      · rw [if_neg hw, if_neg hw]; rfl
end sim

/-- `s'` is the builder state of the padded tree, `s` that of the original -/
structure PadRel (fresh : Bool → Nat → Bool) (act : Bool → Nat → Nat) (s s' : BState α) : Prop where
  chance : s'.chance = s.chance
  infos : ∀ one, s'.infos one = s.infos one
  infosNF : ∀ one, ∀ e ∈ s.infos one, fresh one e.label = false
  sub : ∀ one, ∀ e ∈ s.singles one, e ∈ s'.singles one
  sup : ∀ one, ∀ e ∈ s'.singles one, e ∈ s.singles one ∨ (fresh one e.1 = true ∧ e.2 = act one e.1)
  singNF : ∀ one, ∀ e ∈ s.singles one, fresh one e.1 = false
  find : ∀ one l, fresh one l = false →
    (s'.singles one).find? (fun e => e.1 == l) = (s.singles one).find? (fun e => e.1 == l)

variable {fresh : Bool → Nat → Bool} {act : Bool → Nat → Nat}

theorem PadRel.any {s s' : BState α} (h : PadRel fresh act s s') (one : Bool) (l : Nat)
    (hl : fresh one l = false) :
    (s'.singles one).any (fun e => e.1 == l) = (s.singles one).any (fun e => e.1 == l) := by
  rw [← List.isSome_find?, ← List.isSome_find?, h.find one l hl]

theorem PadRel.setChance {s s' : BState α} (h : PadRel fresh act s s')
    (c : List (Option Nat × List α)) :
    PadRel fresh act ({ s with chance := c } : BState α) ({ s' with chance := c } : BState α) :=
  ⟨rfl, h.infos, h.infosNF, h.sub, h.sup, h.singNF, h.find⟩

theorem registerChance_pad (info : Option Nat) (probs : List α) (kids : List (Node α))
    {s s' : BState α} (h : PadRel fresh act s s') :
    ExRel (fun x y => x.1 = y.1 ∧ PadRel fresh act x.2 y.2)
      (registerChance info probs kids s) (registerChance info probs kids s') := by
  unfold registerChance
  rw [h.chance]
  split
  · rfl
  · split
    · exact ⟨rfl, h⟩
    · split
      · split_ifs
        · exact ⟨rfl, h⟩
        · rfl
      · exact ⟨rfl, h.setChance _⟩
  · dsimp only
    split
    · exact ⟨rfl, h.setChance _⟩
    · split
      · split_ifs
        · exact ⟨rfl, h⟩
        · rfl
      · exact ⟨rfl, h.setChance _⟩

theorem PadRel.setSingles {s s' : BState α} (h : PadRel fresh act s s') (one : Bool)
    {l l' : List (Nat × Nat)} (hsub : ∀ e ∈ l, e ∈ l')
    (hsup : ∀ e ∈ l', e ∈ l ∨ (fresh one e.1 = true ∧ e.2 = act one e.1))
    (hNF : ∀ e ∈ l, fresh one e.1 = false)
    (hfind : ∀ x, fresh one x = false → l'.find? (fun e => e.1 == x) = l.find? (fun e => e.1 == x)) :
    PadRel fresh act (s.setSingles one l) (s'.setSingles one l') where
  chance := by rw [BState.chance_setSingles, BState.chance_setSingles, h.chance]
  infos me := by rw [BState.infos_setSingles, BState.infos_setSingles, h.infos]
  infosNF me := by rw [BState.infos_setSingles]; exact h.infosNF me
  sub me := by
    rw [BState.singles_setSingles, BState.singles_setSingles]
    by_cases hm : one = me
    · rw [if_pos hm, if_pos hm]; exact hsub
    · rw [if_neg hm, if_neg hm]; exact h.sub me
  sup me := by
    rw [BState.singles_setSingles, BState.singles_setSingles]
    by_cases hm : one = me
    · rw [if_pos hm, if_pos hm]; exact hm ▸ hsup
    · rw [if_neg hm, if_neg hm]; exact h.sup me
  singNF me := by
    rw [BState.singles_setSingles]
    by_cases hm : one = me
    · rw [if_pos hm]; exact hm ▸ hNF
    · rw [if_neg hm]; exact h.singNF me
  find me := by
    rw [BState.singles_setSingles, BState.singles_setSingles]
    by_cases hm : one = me
    · rw [if_pos hm, if_pos hm]; exact hm ▸ hfind
    · rw [if_neg hm, if_neg hm]; exact h.find me

theorem registerSingle_pad (one : Bool) (info a : Nat) (hl : fresh one info = false)
    {s s' : BState α} (h : PadRel fresh act s s') :
    ExRel (PadRel fresh act) (registerSingle one info a s) (registerSingle one info a s') := by
  unfold registerSingle
  rw [h.infos, h.find one info hl]
  split_ifs
  · rfl
  · cases hf : (s.singles one).find? (fun e => e.1 == info) with
    | some e =>
      dsimp only
      split_ifs
      · rfl
      · exact h
    | none =>
      refine h.setSingles one ?_ ?_ ?_ ?_
      · intro e he
        rw [List.mem_append] at he ⊢
        exact he.imp_left (h.sub one e)
      · intro e he
        rw [List.mem_append] at he ⊢
        rcases he with he | he
        · exact (h.sup one e he).imp_left Or.inl
        · exact Or.inl (Or.inr he)
      · intro e he
        rcases List.mem_append.mp he with he | he
        · exact h.singNF one e he
        · rw [List.mem_singleton.mp he]; exact hl
      · intro x hx
        rw [List.find?_append, List.find?_append, h.find one x hx]

/-- a pad registers its label with the action reserved for it, at most once -/
theorem registerSingle_fresh (one : Bool) (l : Nat) (hl : fresh one l = true)
    {s s' : BState α} (h : PadRel fresh act s s') :
    ∃ t', registerSingle one l (act one l) s' = .ok t' ∧ PadRel fresh act s t' := by
  have hne : ∀ x, fresh one x = false → x ≠ l := fun x hx e => by rw [e, hl] at hx; cases hx
  obtain ⟨t', ht'⟩ := registerSingle_ok_of (s := s') (one := one) (info := l) (a := act one l)
    (fun e he => hne _ (h.infosNF one e (h.infos one ▸ he)))
    (fun e he he1 => (h.sup one e he).elim (fun h1 => absurd he1 (hne _ (h.singNF one e h1)))
      (fun h2 => by rw [h2.2, he1]))
  refine ⟨t', ht', ?_⟩
  rcases registerSingle_cases ht' with ⟨rfl, _⟩ | ⟨rfl, _, _⟩
  · exact h
  · have := h.setSingles one (l := s.singles one) (l' := s'.singles one ++ [(l, act one l)])
      (fun e he => List.mem_append_left _ (h.sub one e he))
      (fun e he => (List.mem_append.mp he).elim (h.sup one e)
        (fun he => Or.inr (by rw [List.mem_singleton.mp he]; exact ⟨hl, rfl⟩)))
      (h.singNF one)
      (fun x hx => by
        rw [List.find?_append, h.find one x hx, List.find?_cons,
          beq_eq_false_iff_ne.mpr (hne x hx).symm, List.find?_nil, Option.or_none])
    rwa [show s.setSingles one (s.singles one) = s by cases one <;> rfl] at this

theorem PadRel.addInfo {s s' : BState α} (h : PadRel fresh act s s') (one : Bool) (e : PInfo)
    (he : fresh one e.label = false) :
    PadRel fresh act (s.setInfos one (s.infos one ++ [e])) (s'.setInfos one (s.infos one ++ [e])) where
  chance := by rw [BState.chance_setInfos, BState.chance_setInfos, h.chance]
  infos me := by
    rw [BState.infos_setInfos, BState.infos_setInfos]
    by_cases hm : one = me
    · rw [if_pos hm, if_pos hm]
    · rw [if_neg hm, if_neg hm, h.infos]
  infosNF me x hx := by
    rw [BState.infos_setInfos] at hx
    by_cases hm : one = me
    · rw [if_pos hm, List.mem_append, List.mem_singleton] at hx
      subst hm
      exact hx.elim (h.infosNF one x) (fun e' => e' ▸ he)
    · rw [if_neg hm] at hx
      exact h.infosNF me x hx
  sub me := by rw [BState.singles_setInfos, BState.singles_setInfos]; exact h.sub me
  sup me := by rw [BState.singles_setInfos, BState.singles_setInfos]; exact h.sup me
  singNF me := by rw [BState.singles_setInfos]; exact h.singNF me
  find me := by rw [BState.singles_setInfos, BState.singles_setInfos]; exact h.find me

theorem registerPlayer_pad (one : Bool) (info : Nat) (acts : List Nat) (prev : Prev)
    (hl : fresh one info = false) {s s' : BState α} (h : PadRel fresh act s s') :
    ExRel (fun x y => x.1 = y.1 ∧ PadRel fresh act x.2 y.2)
      (registerPlayer one info acts prev s) (registerPlayer one info acts prev s') := by
  unfold registerPlayer
  rw [h.infos, h.any one info hl]
  split
  · split
    · split_ifs
      · rfl
      · rfl
      · exact ⟨rfl, h⟩
    · rfl
  · split_ifs
    · rfl
    · exact ⟨rfl, h.addInfo one _ hl⟩
    · rfl

/-- a chance node with a single outcome: the child, then the registration of the infoset -/
theorem compile_chance_single (info : Option Nat) (k' : Raw α) (w : α) (hw : 0 < w) (prev : Prev)
    (s : BState α) :
    compile (.chance info [w] [k']) prev s
      = (compile k' prev s).bind (fun y => registerChance info [w] [y.1] y.2) := by
  simp only [compile_chance, compileOutcomes_cons, if_pos hw, compileOutcomes_nil]
  cases compile k' prev s <;> rfl

def PadOK (fresh : Bool → Nat → Bool) (act : Bool → Nat → Nat) : Raw α → Raw α → Prop :=
  SimOK (PadRel fresh act) fun _ x y => x.1 = y.1 ∧ PadRel fresh act x.2 y.2

theorem compile_pad {r r' : Raw α} (hp : Padded fresh act r r') :
    r.AvoidsFresh fresh → PadOK fresh act r r' := by
  refine Padded.rec (motive_1 := fun r r' _ => r.AvoidsFresh fresh → PadOK fresh act r r')
    (motive_2 := fun ks ks' _ => Raw.AvoidsFreshL fresh ks → List.Forall₂ (PadOK fresh act) ks ks')
    ?_ ?_ ?_ ?_ ?_ ?_ ?_ hp
  · intro p _ prev s s' hrel
    rw [compile_term, compile_term]
    exact ⟨rfl, hrel⟩
  · intro i ws ks ks' _ hl hav prev s s' hrel
    simp only [Raw.AvoidsFresh] at hav
    rw [compile_chance, compile_chance]
    exact (compileOutcomes_sim (AR := fun _ x y => x.1 = y.1 ∧ PadRel fresh act x.2 y.2) And.right
      (fun h => ⟨rfl, h⟩) (fun hxy huv => ⟨by rw [hxy.1, huv.1], huv.2⟩) (hl hav) ws prev s s' hrel).bind fun x y hxy => by
        rw [hxy.1, hxy.2.1]; exact registerChance_pad i y.1 y.2.1 hxy.2.2
  · intro o i as ks ks' _ hl hav prev s s' hrel
    simp only [Raw.AvoidsFresh] at hav
    cases hl hav.2 with
    | nil => rw [compile_player_childless, compile_player_childless]; rfl
    | @cons k k' ks ks' hk hks =>
      match as with
      | [] => rw [compile_player_nil, compile_player_nil]; rfl
      | [a] =>
        rw [compile_single, compile_single]
        exact (registerSingle_pad (act := act) o i a hav.1 hrel).bind fun t t' ht => hk prev t t' ht
      | a :: b :: as =>
        rw [compile_multi, compile_multi]
        exact (registerPlayer_pad (act := act) o i (a :: b :: as) prev hav.1 hrel).bind fun x y hxy => by
          rw [hxy.1]
          exact (compileActions_sim (AR := fun _ x y => x.1 = y.1 ∧ PadRel fresh act x.2 y.2) And.right
            (fun h => ⟨rfl, h⟩) (fun hxy huv => ⟨by rw [hxy.1, huv.1], huv.2⟩) (.cons hk hks) o y.1 0 prev x.2 y.2 hxy.2).bind
              fun u v huv => ⟨by rw [huv.1], huv.2⟩
  · intro r k' w hw _ ih hav prev s s' hrel
    rw [compile_chance_single none k' w hw]
    exact (ih hav prev s s' hrel).cases (fun _ => rfl) fun _ _ hxy => hxy
  · intro r k' o l hl _ ih hav prev s s' hrel
    obtain ⟨t', ht', hrel'⟩ := registerSingle_fresh (act := act) o l hl hrel
    rw [compile_single, ht']
    exact ih hav prev s t' hrel'
  · exact fun _ => .nil
  · intro k k' ks ks' _ _ h1 h2 hav
    simp only [Raw.AvoidsFreshL] at hav
    exact .cons (h1 hav.1) (h2 hav.2)
end pad
/-! ## renaming -/

section rename

def BState.rename (ρ : Renaming) (s : BState α) : BState α :=
  { chance := s.chance.map (fun e => (e.1.map ρ.chance, e.2)),
    p1 := s.p1.map (PInfo.rename ρ true), p2 := s.p2.map (PInfo.rename ρ false),
    s1 := s.s1.map (fun e => (ρ.info true e.1, ρ.act e.2)),
    s2 := s.s2.map (fun e => (ρ.info false e.1, ρ.act e.2)) }

@[simp] theorem BState.rename_infos (ρ : Renaming) (s : BState α) (one : Bool) :
    (s.rename ρ).infos one = (s.infos one).map (PInfo.rename ρ one) := by cases one <;> rfl
@[simp] theorem BState.rename_singles (ρ : Renaming) (s : BState α) (one : Bool) :
    (s.rename ρ).singles one = (s.singles one).map (fun e => (ρ.info one e.1, ρ.act e.2)) := by
  cases one <;> rfl
@[simp] theorem BState.rename_chance (ρ : Renaming) (s : BState α) :
    (s.rename ρ).chance = s.chance.map (fun e => (e.1.map ρ.chance, e.2)) := rfl
theorem BState.rename_setInfos (ρ : Renaming) (s : BState α) (one : Bool) (l : List PInfo) :
    (s.rename ρ).setInfos one (l.map (PInfo.rename ρ one)) = (s.setInfos one l).rename ρ := by
  cases one <;> rfl
theorem BState.rename_setSingles (ρ : Renaming) (s : BState α) (one : Bool) (l : List (Nat × Nat)) :
    (s.rename ρ).setSingles one (l.map (fun e => (ρ.info one e.1, ρ.act e.2)))
      = (s.setSingles one l).rename ρ := by
  cases one <;> rfl

theorem inj_beq {β γ : Type} [BEq β] [LawfulBEq β] [BEq γ] [LawfulBEq γ] {f : β → γ}
    (hf : Function.Injective f) (a b : β) : (f a == f b) = (a == b) := by
  by_cases h : a = b
  · rw [h, beq_self_eq_true, beq_self_eq_true]
  · rw [beq_eq_false_iff_ne.mpr h, beq_eq_false_iff_ne.mpr (fun e => h (hf e))]

theorem eraseDups_map_inj {f : Nat → Nat} (hf : Function.Injective f) :
    ∀ (n : Nat) (l : List Nat), l.length ≤ n → (l.map f).eraseDups = l.eraseDups.map f
  | _, [], _ => rfl
  | 0, a :: l, h => nomatch h
  | n + 1, a :: l, h => by
    have hp : ((fun b => !b == f a) ∘ f) = (fun b => !b == a) := by
      funext b; simp only [Function.comp, inj_beq hf]
    rw [List.map_cons, List.eraseDups_cons, List.eraseDups_cons, List.map_cons, List.filter_map, hp,
      eraseDups_map_inj hf n]
    exact (List.length_filter_le _ l).trans (Nat.le_of_succ_le_succ h)

variable (ρ : Renaming) (hρ : ρ.Injective)
include hρ

theorem registerChance_rename (info : Option Nat) (probs : List α) (kids : List (Node α))
    (s : BState α) :
    registerChance (info.map ρ.chance) probs kids (s.rename ρ)
      = (registerChance info probs kids s).map (fun x => (x.1, x.2.rename ρ)) := by
  have hfun : ∀ l : Nat, ((fun e : Option Nat × List α => e.1 == some (ρ.chance l)) ∘
      (fun e : Option Nat × List α => (e.1.map ρ.chance, e.2)))
      = (fun e : Option Nat × List α => e.1 == some l) := fun l =>
    funext fun e => inj_beq (Option.map_injective hρ.2.2) e.1 (some l)
  unfold registerChance
  match kids, info with
  | [], _ => rfl
  | [k], none => rfl
  | [k], some l =>
    simp only [Option.map_some, BState.rename_chance, List.find?_map, hfun]
    cases hf : s.chance.find? (fun e => e.1 == some l) with
    | none => simp [Except.map, BState.rename]
    | some e =>
      simp only [Option.map_some]
      split_ifs <;> rfl
  | _ :: _ :: _, none =>
    simp [Except.map, BState.rename]
  | _ :: _ :: _, some l =>
    simp only [Option.map_some, BState.rename_chance, List.findIdx?_map, hfun, List.length_map,
      List.getElem?_map, Option.map_map]
    cases hf : s.chance.findIdx? (fun e => e.1 == some l) with
    | none => simp [Except.map, BState.rename]
    | some i =>
      simp only [Function.comp_def]
      split_ifs <;> rfl


theorem labelTest_rename (one : Bool) (info : Nat) :
    ((fun e : PInfo => e.label == ρ.info one info) ∘ PInfo.rename ρ one)
      = (fun e : PInfo => e.label == info) :=
  funext fun e => inj_beq (hρ.1 one) e.label info

theorem singleTest_rename (one : Bool) (info : Nat) :
    ((fun e : Nat × Nat => e.1 == ρ.info one info) ∘
      (fun e : Nat × Nat => (ρ.info one e.1, ρ.act e.2))) = (fun e : Nat × Nat => e.1 == info) :=
  funext fun e => inj_beq (hρ.1 one) e.1 info

theorem registerSingle_rename (one : Bool) (info a : Nat) (s : BState α) :
    registerSingle one (ρ.info one info) (ρ.act a) (s.rename ρ)
      = (registerSingle one info a s).map (BState.rename ρ) := by
  unfold registerSingle
  simp only [BState.rename_infos, BState.rename_singles, List.any_map, List.find?_map,
    labelTest_rename ρ hρ, singleTest_rename ρ hρ]
  by_cases hany : (s.infos one).any (fun e => e.label == info) = true
  · simp [hany, Except.map]
  · simp only [hany, if_false, Bool.false_eq_true]
    cases hf : (s.singles one).find? (fun e => e.1 == info) with
    | none =>
      simp only [Option.map_none, Except.map]
      rw [← BState.rename_setSingles]
      simp
    | some e =>
      simp only [Option.map_some]
      have : (ρ.act e.2 != ρ.act a) = (e.2 != a) := by
        simp only [bne, inj_beq hρ.2.1]
      rw [this]
      split_ifs <;> rfl

theorem registerPlayer_rename (one : Bool) (info : Nat) (acts : List Nat) (prev : Prev)
    (s : BState α) :
    registerPlayer one (ρ.info one info) (acts.map ρ.act) prev (s.rename ρ)
      = (registerPlayer one info acts prev s).map (fun x => (x.1, x.2.rename ρ)) := by
  have hmi : Function.Injective (List.map ρ.act) := List.map_injective_iff.mpr hρ.2.1
  unfold registerPlayer
  simp only [BState.rename_infos, BState.rename_singles, List.any_map, List.findIdx?_map,
    labelTest_rename ρ hρ, singleTest_rename ρ hρ, List.getElem?_map, List.length_map]
  cases hf : (s.infos one).findIdx? (fun e => e.label == info) with
  | some i =>
    simp only
    cases he : (s.infos one)[i]? with
    | none => rfl
    | some e =>
      simp only [Option.map_some]
      have : ((PInfo.rename ρ one e).actions != acts.map ρ.act) = (e.actions != acts) := by
        simp only [PInfo.rename, bne, inj_beq hmi]
      rw [this]
      have : (PInfo.rename ρ one e).prev = e.prev := rfl
      rw [this]
      split_ifs <;> rfl
  | none =>
    rw [eraseDups_map_inj hρ.2.1 acts.length acts (Nat.le_refl _), List.length_map]
    by_cases hany : (s.singles one).any (fun e => e.1 == info) = true
    · simp [hany, Except.map]
    · simp only [hany, if_false, Bool.false_eq_true]
      split_ifs
      · simp only [Except.map]
        rw [← BState.rename_setInfos]
        simp [PInfo.rename]
      · rfl

theorem compile_rename (r : Raw α) : ∀ (prev : Prev) (s : BState α),
    compile (r.rename ρ) prev (s.rename ρ)
      = (compile r prev s).map (fun x => (x.1, x.2.rename ρ)) := by
  induction r using Raw.induct with
  | term p => intro prev s; simp only [Raw.rename, compile_term]; rfl
  | chance i ws ks ih =>
    intro prev s
    simp only [Raw.rename, Raw.renameL_eq_map, compile_chance, compileOutcomes_map (N := fun n => n) ih,
      List.map_id', Except.bind_map', Except.map_bind', registerChance_rename ρ hρ]
  | player o i as ks ih =>
    intro prev s
    rw [Raw.rename, Raw.renameL_eq_map]
    match as, ks, ih with
    | [], _, _ => rw [List.map_nil, compile_player_nil, compile_player_nil]; rfl
    | _ :: _, [], _ => rw [List.map_nil, compile_player_childless, compile_player_childless]; rfl
    | [a], k :: ks, ih =>
      simp only [List.map_cons, List.map_nil, compile_single, registerSingle_rename ρ hρ,
        Except.bind_map', Except.map_bind', ih k List.mem_cons_self prev]
    | a :: b :: as, k :: ks, ih =>
      have hr := registerPlayer_rename ρ hρ o i (a :: b :: as) prev s
      simp only [List.map_cons] at hr ⊢
      rw [compile_multi, compile_multi, hr, ← List.map_cons (f := Raw.rename ρ)]
      simp only [Except.bind_ok_comp, compileActions_map (N := fun n => n) ih, List.map_id', Except.bind_map',
        Except.map_bind', Except.map_map']

theorem compileOutcomes_rename : ∀ (ws : List α) (ks : List (Raw α)) (prev : Prev) (s : BState α),
    compileOutcomes ws (Raw.renameL ρ ks) prev (s.rename ρ)
      = (compileOutcomes ws ks prev s).map (fun x => (x.1, x.2.1, x.2.2.rename ρ)) := by
  intro ws ks prev s
  rw [Raw.renameL_eq_map, compileOutcomes_map (N := fun n => n) (fun k _ => compile_rename ρ hρ k)]
  simp only [List.map_id']

theorem compileActions_rename : ∀ (ks : List (Raw α)) (one : Bool) (i a : Nat) (prev : Prev)
    (s : BState α),
    compileActions (Raw.renameL ρ ks) one i a prev (s.rename ρ)
      = (compileActions ks one i a prev s).map (fun x => (x.1, x.2.rename ρ)) := by
  intro ks one i a prev s
  rw [Raw.renameL_eq_map, compileActions_map (N := fun n => n) (fun k _ => compile_rename ρ hρ k)]
  simp only [List.map_id']

end rename

end Cfr
