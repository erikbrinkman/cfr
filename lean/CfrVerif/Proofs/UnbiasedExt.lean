import CfrVerif.Proofs.Unbiased
import CfrVerif.Model.External
/-!
# External sampling is unbiased for the updating player's regrets

One external-sampling pass of player `first` draws one outcome per chance infoset (declared
probabilities) and one action per infoset of the other player (that player's current strategy),
all independently.  The expectation over both families of draws of what the pass adds to a regret
accumulator of the updating player equals what the unsampled traversal adds: the exact
instantaneous counterfactual regret.

Proof outline (`Cfr.UnbE`, imitating `Cfr.Unb`): `EE` is the double expectation (chance draws
outside, the other player's draws inside); it is linear and the draw of one chance infoset
(`expectDraws_draw`, the inner expectation being part of what reads the result) or of one infoset
of the other player (`EE_drawP`) can be integrated first, given that nothing else reads it.  `em`
is a pure mirror of `erec` (draws as functions, no caches) that `erec` agrees with from any cache
consistent with the draws (`erec_em`).  A subtree only reads the draws of its own chance infosets
and of its own infosets of the other player (`em_congr`); perfect recall of the other player
(`GameWF.recall`) gives that none of that player's infosets occurs twice on a path
(`pr_noRepeat`), so the draw at a node of the other player is independent of everything below it.
The induction `unbE` proves jointly, for every subtree `n` and all reaches `pc p1 p2`,
`E[value_ext n] = ± value_full n` and `E[cell_ext n] * w = cell_full n` where `w` is the
rest-of-the-world reach (`pc * p2` for `first = true`, `p1 * pc` otherwise).
-/
set_option linter.unusedSectionVars false
namespace Cfr
variable {α : Type} [Field α] [LinearOrder α] [IsStrictOrderedRing α]

/-- the context of an external-sampling pass of player `first` whose chance draws are `kc` and
whose draws at the other player's infosets are `kp` -/
def extCtx (g : Game α) (first : Bool) (strat : Bool → Nat → List α) (kc kp : Draws) : ECtx α :=
  ⟨g.chance, first, strat, fun kind i _ _ => if kind = 0 then kc i else kp i, 0, 0⟩

/-- the current strategies of the non-updating player, one distribution per infoset -/
def oppTable (g : Game α) (first : Bool) (strat : Bool → Nat → List α) : List (List α) :=
  (List.range (g.infos (!first)).length).map (fun j => strat (!first) j)

theorem extCtx_strat (g : Game α) (first : Bool) (strat : Bool → Nat → List α)
    (kc kp : Draws) : (extCtx g first strat kc kp).strat = strat := rfl

namespace UnbE
open Unb

/-- a decision node belongs to the updating player or to the other one -/
theorem own_or_opp (first one : Bool) : first = one ∨ (!first) = one := by decide +revert

/-- expectation over the chance draws (outer) and the other player's draws (inner) -/
def EE (ch opp : List (List α)) (k0 k0' : Draws) (F : Draws → Draws → α) : α :=
  expectDraws ch 0 k0 (fun kc => expectDraws opp 0 k0' (fun kp => F kc kp))

section
variable (ch opp : List (List α)) (k0 k0' : Draws)

theorem EE_add (F G : Draws → Draws → α) :
    EE ch opp k0 k0' (fun kc kp => F kc kp + G kc kp) = EE ch opp k0 k0' F + EE ch opp k0 k0' G := by
  simp only [EE, expectDraws_add]

theorem EE_mul_left (c : α) (F : Draws → Draws → α) :
    EE ch opp k0 k0' (fun kc kp => c * F kc kp) = c * EE ch opp k0 k0' F := by
  simp only [EE, expectDraws_mul_left]

theorem EE_zero : EE ch opp k0 k0' (fun _ _ => (0 : α)) = 0 := by
  simp only [EE, expectDraws_zero]

theorem EE_neg (F : Draws → Draws → α) :
    EE ch opp k0 k0' (fun kc kp => - F kc kp) = - EE ch opp k0 k0' F := by
  simp only [EE, expectDraws_neg]

theorem expectDraws_expectOne (s : Nat) (k : Draws) (σ : List α) (G : Draws → Nat → α) :
    expectDraws ch s k (fun kc => expectOne σ (fun j => G kc j))
      = expectOne σ (fun j => expectDraws ch s k (fun kc => G kc j)) := by
  induction σ generalizing G with
  | nil => simp only [expectOne_nil, expectDraws_zero]
  | cons p σ ih => simp only [expectOne_cons, expectDraws_add, expectDraws_mul_left, ih]

/-- the draw of infoset `i` of the other player is independent of whatever does not read it -/
theorem EE_drawP {β : Type} (i : Nat) (σ : List α) (h : opp[i]? = some σ) (h1 : σ.sum = 1)
    (φ : β → α) (F : Draws → Draws → Nat → β) (hF : ∀ kc kp j, F kc (upd kp i j) j = F kc kp j) :
    EE ch opp k0 k0' (fun kc kp => φ (F kc kp (kp i)))
      = expectOne σ (fun j => EE ch opp k0 k0' (fun kc kp => φ (F kc kp j))) := by
  unfold EE
  rw [← expectDraws_expectOne]
  exact congrArg _ (funext fun kc => expectDraws_draw opp k0' i σ h h1 φ (F kc) (hF kc))

end

/-! ## a pure mirror of the external-sampling traversal -/

mutual
def em (first : Bool) (strat : Bool → Nat → List α) (kc kp : Draws) : Node α → α × List (Eff α)
  | .term p => (if first then p else -p, [])
  | .chance i ks => emNth first strat kc kp ks (kc i)
  | .player one i ks =>
    if one = first then
      let r := emActs first strat kc kp one i (strat one i) ks 0
      (r.1, r.2 ++ subEffsE one i r.1 (strat one i).length)
    else
      let r := emNth first strat kc kp ks (kp i)
      (r.1, extStratEffs one i (strat one i) 0 ++ r.2)
def emNth (first : Bool) (strat : Bool → Nat → List α) (kc kp : Draws) :
    List (Node α) → Nat → α × List (Eff α)
  | [], _ => (0, [])
  | n :: _, 0 => em first strat kc kp n
  | _ :: ks, j + 1 => emNth first strat kc kp ks j
def emActs (first : Bool) (strat : Bool → Nat → List α) (kc kp : Draws) (one : Bool) (i : Nat) :
    List α → List (Node α) → Nat → α × List (Eff α)
  | s :: σ, n :: ks, a =>
    let r := em first strat kc kp n
    let r' := emActs first strat kc kp one i σ ks (a + 1)
    (s * r.1 + r'.1, r.2 ++ ⟨one, i, .regret, a, r.1⟩ :: r'.2)
  | _, _, _ => (0, [])
end

section
variable (first : Bool) (strat : Bool → Nat → List α) (kc kp : Draws)

theorem em_term (p : α) : em first strat kc kp (.term p) = (if first then p else -p, []) := rfl
theorem em_chance (i : Nat) (ks : List (Node α)) :
    em first strat kc kp (.chance i ks) = emNth first strat kc kp ks (kc i) := rfl
theorem em_own (i : Nat) (ks : List (Node α)) :
    em first strat kc kp (.player first i ks) =
      (let r := emActs first strat kc kp first i (strat first i) ks 0
       (r.1, r.2 ++ subEffsE first i r.1 (strat first i).length)) := if_pos rfl
theorem em_opp (i : Nat) (ks : List (Node α)) :
    em first strat kc kp (.player (!first) i ks) =
      (let r := emNth first strat kc kp ks (kp i)
       (r.1, extStratEffs (!first) i (strat (!first) i) 0 ++ r.2)) := if_neg first.not_ne_self
theorem emNth_nil (j : Nat) : emNth first strat kc kp [] j = (0, []) := rfl
theorem emNth_zero (n : Node α) (ks : List (Node α)) :
    emNth first strat kc kp (n :: ks) 0 = em first strat kc kp n := rfl
theorem emNth_succ (n : Node α) (ks : List (Node α)) (j : Nat) :
    emNth first strat kc kp (n :: ks) (j + 1) = emNth first strat kc kp ks j := rfl
theorem emActs_cons (one : Bool) (i : Nat) (s : α) (σ : List α) (n : Node α) (ks : List (Node α))
    (a : Nat) :
    emActs first strat kc kp one i (s :: σ) (n :: ks) a =
      (let r := em first strat kc kp n
       let r' := emActs first strat kc kp one i σ ks (a + 1)
       (s * r.1 + r'.1, r.2 ++ ⟨one, i, .regret, a, r.1⟩ :: r'.2)) := rfl
theorem emActs_nil_left (one : Bool) (i : Nat) (ks : List (Node α)) (a : Nat) :
    emActs first strat kc kp one i [] ks a = (0, []) := by cases ks <;> rfl

end

theorem emActs_nil_right (first : Bool) (strat : Bool → Nat → List α) (kc kp : Draws) (one : Bool)
    (i : Nat) (σ : List α) (a : Nat) : emActs first strat kc kp one i σ [] a = (0, []) := by
  cases σ <;> rfl

/-! ### the traversal of the model agrees with the mirror from any consistent cache -/

/-- every cached sample is the draw `kc` (chance) resp. `kp` (other player) -/
def ConsE (kc kp : Draws) (d : DrawSt α) : Prop :=
  (∀ i v, assocGet d.chance i = some v → v = kc i) ∧
  (∀ i v, assocGet d.player i = some v → v = kp i)

theorem ConsE_empty (kc kp : Draws) : ConsE kc kp ({} : DrawSt α) :=
  ⟨fun _ _ h => (nomatch h), fun _ _ h => nomatch h⟩

mutual
theorem erec_em (g : Game α) (first : Bool) (strat : Bool → Nat → List α) (kc kp : Draws) :
    ∀ (n : Node α) (d : DrawSt α), ConsE kc kp d →
      (erec (extCtx g first strat kc kp) n d).1 = (em first strat kc kp n).1 ∧
      (erec (extCtx g first strat kc kp) n d).2.1 = (em first strat kc kp n).2 ∧
      ConsE kc kp (erec (extCtx g first strat kc kp) n d).2.2
  | .term p => fun d hd => ⟨rfl, rfl, hd⟩
  | .chance i ks => fun d hd => by
    obtain ⟨h1, h2, h3⟩ := sampleChance_inv (P := fun j v => v = kc j)
      (extCtx g first strat kc kp).draw 0 (g.chance.getD i []) i d hd.1 rfl
    rw [erec_chance_eq, em_chance]
    exact h1 ▸ erecNth_em g first strat kc kp ks _ _ ⟨h2, h3.symm ▸ hd.2⟩
  | .player one i ks => fun d hd => by
    rcases own_or_opp first one with rfl | rfl
    · obtain ⟨h1, h2, h3⟩ := erecActs_em g first strat kc kp first i (strat first i) ks d 0 0 hd
      simp only [erec_own_eq (extCtx g first strat kc kp) _ _ _ _ (beq_self_eq_true first), em_own,
        extCtx_strat, h1, h2, zero_add, true_and]
      exact h3
    · obtain ⟨h1, h2, h3⟩ := samplePlayer_inv (P := fun j v => v = kp j)
        (extCtx g first strat kc kp).draw (if (!first) then 1 else 2)
        (extCtx g first strat kc kp).playerPass (strat (!first) i) i d hd.2 (by cases first <;> rfl)
      obtain ⟨g1, g2, g3⟩ := erecNth_em g first strat kc kp ks (kp i) _ ⟨h3.symm ▸ hd.1, h2⟩
      simp only [erec_opp_eq (extCtx g first strat kc kp) _ _ _ _
        (ne_true_of_eq_false (beq_eq_false_iff_ne.mpr first.not_ne_self)), em_opp, extCtx_strat, h1,
        g1, g2, true_and]
      exact g3
theorem erecNth_em (g : Game α) (first : Bool) (strat : Bool → Nat → List α) (kc kp : Draws) :
    ∀ (ks : List (Node α)) (j : Nat) (d : DrawSt α), ConsE kc kp d →
      (erecNth (extCtx g first strat kc kp) ks j d).1 = (emNth first strat kc kp ks j).1 ∧
      (erecNth (extCtx g first strat kc kp) ks j d).2.1 = (emNth first strat kc kp ks j).2 ∧
      ConsE kc kp (erecNth (extCtx g first strat kc kp) ks j d).2.2
  | [], _ => fun _ hd => ⟨rfl, rfl, hd⟩
  | n :: _, 0 => erec_em g first strat kc kp n
  | _ :: ks, j + 1 => erecNth_em g first strat kc kp ks j
theorem erecActs_em (g : Game α) (first : Bool) (strat : Bool → Nat → List α) (kc kp : Draws)
    (one : Bool) (i : Nat) :
    ∀ (σ : List α) (ks : List (Node α)) (d : DrawSt α) (a : Nat) (ex : α), ConsE kc kp d →
      (erecActs (extCtx g first strat kc kp) one i σ ks d a ex).1
        = ex + (emActs first strat kc kp one i σ ks a).1 ∧
      (erecActs (extCtx g first strat kc kp) one i σ ks d a ex).2.1
        = (emActs first strat kc kp one i σ ks a).2 ∧
      ConsE kc kp (erecActs (extCtx g first strat kc kp) one i σ ks d a ex).2.2
  | s :: σ, n :: ks => fun d a ex hd => by
    obtain ⟨h1, h2, h3⟩ := erec_em g first strat kc kp n d hd
    have ih := fun a ex => erecActs_em g first strat kc kp one i σ ks _ a ex h3
    simp only [erecActs_cons_eq, emActs_cons, ih, h1, h2, add_assoc, and_self]
  | [], _ :: _ => fun _ _ ex hd => ⟨(add_zero ex).symm, rfl, hd⟩
  | _, [] => fun d a ex hd => by
    rw [erecActs_nil_right, emActs_nil_right]; exact ⟨(add_zero ex).symm, rfl, hd⟩
end

/-! ## no infoset of a player with perfect recall occurs twice on a path -/

mutual
/-- no infoset of player `opp` occurs twice on a root-to-leaf path -/
def NoOppRepeat (opp : Bool) : List Nat → Node α → Prop
  | _, .term _ => True
  | seen, .chance _ ks => NoOppRepeatL opp seen ks
  | seen, .player one i ks =>
    if one = opp then i ∉ seen ∧ NoOppRepeatL opp (i :: seen) ks else NoOppRepeatL opp seen ks
def NoOppRepeatL (opp : Bool) : List Nat → List (Node α) → Prop
  | _, [] => True
  | seen, k :: ks => NoOppRepeat opp seen k ∧ NoOppRepeatL opp seen ks
end

theorem NoOppRepeat.of_opp {opp : Bool} {seen : List Nat} {i : Nat} {ks : List (Node α)}
    (h : NoOppRepeat opp seen (.player opp i ks)) : i ∉ seen ∧ NoOppRepeatL opp (i :: seen) ks :=
  (if_pos rfl).mp h
theorem NoOppRepeat.of_ne {opp one : Bool} {seen : List Nat} {i : Nat} {ks : List (Node α)}
    (h : NoOppRepeat opp seen (.player one i ks)) (ho : one ≠ opp) : NoOppRepeatL opp seen ks :=
  (if_neg ho).mp h

mutual
theorem pr_noRepeat (me : Bool) (hist : Nat → Hist) :
    ∀ (n : Node α) (H : Hist) (seen : List Nat), PR me hist H n →
      (∀ x ∈ seen, (hist x).length < H.length) → NoOppRepeat me seen n
  | .term _ => fun _ _ _ _ => trivial
  | .chance _ ks => fun H seen h hs => prl_noRepeat me hist ks H seen h hs
  | .player one i ks => fun H seen h hs => by
    by_cases ho : one = me
    · obtain ⟨hH, hD⟩ : hist i = H ∧ PRD me hist H i 0 ks := (if_pos ho).mp h
      refine (if_pos ho).mpr ⟨fun hi => absurd (hH ▸ hs i hi) (lt_irrefl _),
        prd_noRepeat me hist ks H i 0 (i :: seen) hD fun x hx => ?_⟩
      rcases List.mem_cons.mp hx with rfl | hx
      · exact hH ▸ Nat.lt_succ_self _
      · exact Nat.lt_succ_of_lt (hs x hx)
    · exact (if_neg ho).mpr (prl_noRepeat me hist ks H seen ((if_neg ho).mp h) hs)
theorem prl_noRepeat (me : Bool) (hist : Nat → Hist) :
    ∀ (ks : List (Node α)) (H : Hist) (seen : List Nat), PRL me hist H ks →
      (∀ x ∈ seen, (hist x).length < H.length) → NoOppRepeatL me seen ks
  | [] => fun _ _ _ _ => trivial
  | k :: ks => fun H seen h hs =>
    ⟨pr_noRepeat me hist k H seen h.1 hs, prl_noRepeat me hist ks H seen h.2 hs⟩
theorem prd_noRepeat (me : Bool) (hist : Nat → Hist) :
    ∀ (ks : List (Node α)) (H : Hist) (i a : Nat) (seen : List Nat), PRD me hist H i a ks →
      (∀ x ∈ seen, (hist x).length < H.length + 1) → NoOppRepeatL me seen ks
  | [] => fun _ _ _ _ _ _ => trivial
  | k :: ks => fun H i a seen h hs =>
    ⟨pr_noRepeat me hist k (H ++ [(i, a)]) seen h.1 (fun x hx => by
        rw [List.length_append]; exact hs x hx),
      prd_noRepeat me hist ks H i (a + 1) seen h.2 hs⟩
end

/-! ## a subtree only reads the draws of its own chance infosets and opponent infosets -/

section
variable (first : Bool) (strat : Bool → Nat → List α)

mutual
theorem em_congr (kc kc' kp kp' : Draws) : ∀ (n : Node α) (sc sp : List Nat),
    NoChanceRepeat sc n → NoOppRepeat (!first) sp n →
    (∀ x, x ∉ sc → kc x = kc' x) → (∀ x, x ∉ sp → kp x = kp' x) →
    em first strat kc kp n = em first strat kc' kp' n
  | .term _ => fun _ _ _ _ _ _ => rfl
  | .chance i ks => fun sc sp ⟨hi, hks⟩ hps hkc hkp => by
    rw [em_chance, em_chance, hkc i hi]
    exact emNth_congr kc kc' kp kp' ks _ (i :: sc) sp hks hps
      (fun x hx => hkc x (mt (List.mem_cons_of_mem _) hx)) hkp
  | .player one i ks => fun sc sp hks hp hkc hkp => by
    rcases own_or_opp first one with rfl | rfl
    · rw [em_own, em_own, emActs_congr kc kc' kp kp' first i _ ks 0 sc sp hks
        (hp.of_ne first.not_ne_self.symm) hkc hkp]
    · obtain ⟨hi, hps⟩ := hp.of_opp
      rw [em_opp, em_opp, hkp i hi, emNth_congr kc kc' kp kp' ks _ sc (i :: sp) hks hps hkc
        (fun x hx => hkp x (mt (List.mem_cons_of_mem _) hx))]
theorem emNth_congr (kc kc' kp kp' : Draws) : ∀ (ks : List (Node α)) (j : Nat) (sc sp : List Nat),
    NoChanceRepeatL sc ks → NoOppRepeatL (!first) sp ks →
    (∀ x, x ∉ sc → kc x = kc' x) → (∀ x, x ∉ sp → kp x = kp' x) →
    emNth first strat kc kp ks j = emNth first strat kc' kp' ks j
  | [], _ => fun _ _ _ _ _ _ => rfl
  | n :: _, 0 => fun sc sp hc hp => em_congr kc kc' kp kp' n sc sp hc.1 hp.1
  | _ :: ks, j + 1 => fun sc sp hc hp => emNth_congr kc kc' kp kp' ks j sc sp hc.2 hp.2
theorem emActs_congr (kc kc' kp kp' : Draws) (one : Bool) (i : Nat) :
    ∀ (σ : List α) (ks : List (Node α)) (b : Nat) (sc sp : List Nat),
    NoChanceRepeatL sc ks → NoOppRepeatL (!first) sp ks →
    (∀ x, x ∉ sc → kc x = kc' x) → (∀ x, x ∉ sp → kp x = kp' x) →
    emActs first strat kc kp one i σ ks b = emActs first strat kc' kp' one i σ ks b
  | s :: σ, n :: ks => fun b sc sp hc hp hkc hkp => by
    rw [emActs_cons, emActs_cons, em_congr kc kc' kp kp' n sc sp hc.1 hp.1 hkc hkp,
      emActs_congr kc kc' kp kp' one i σ ks (b + 1) sc sp hc.2 hp.2 hkc hkp]
  | [], _ :: _ => fun _ _ _ _ _ _ _ => rfl
  | _, [] => fun _ _ _ _ _ _ _ => by rw [emActs_nil_right, emActs_nil_right]
end

end

/-- the value to the updating player is `sgn *` the value to player one -/
def sgn (first : Bool) : α := if first then 1 else -1

/-- the reach of the rest of the world (chance and the other player) -/
def wOf (first : Bool) (pc p1 p2 : α) : α := if first then pc * p2 else p1 * pc

theorem sgn_mul (first : Bool) (p : α) : sgn first * p = if first then p else -p := by
  rw [sgn, ite_mul, one_mul, neg_one_mul]

theorem mult_eq (first : Bool) (pc p1 p2 : α) :
    (if first then pc * p2 else -p1 * pc) = sgn first * wOf first pc p1 p2 := by
  cases first <;> simp [sgn, wOf]

theorem wOf_chance (first : Bool) (pc p p1 p2 : α) :
    wOf first (pc * p) p1 p2 = wOf first pc p1 p2 * p := by
  rw [wOf, wOf, ite_mul, mul_right_comm, mul_assoc p1]

/-- below a node of the updating player the rest-of-the-world reach is unchanged -/
theorem wOf_own (first : Bool) (pc p1 p2 s : α) :
    wOf first pc (if first then p1 * s else p1) (if first then p2 else p2 * s)
      = wOf first pc p1 p2 := by
  cases first <;> rfl

/-- below a node of the other player it is multiplied by the action probability -/
theorem wOf_opp (first : Bool) (pc p1 p2 s : α) :
    wOf first pc (if (!first) then p1 * s else p1) (if (!first) then p2 else p2 * s)
      = wOf first pc p1 p2 * s := by
  cases first
  exacts [mul_right_comm p1 s pc, (mul_assoc pc p2 s).symm]

/-! ## the expectation of the external-sampling pass is the unsampled traversal -/

section
variable (g : Game α) (hch : ∀ ps ∈ g.chance, ps.sum = 1) (first : Bool)
  (strat : Bool → Nat → List α) (opp : List (List α)) (hopp : ∀ σ ∈ opp, σ.sum = 1)
  (hoppi : ∀ i e, (g.infos (!first))[i]? = some e → opp[i]? = some (strat (!first) i))
  (k0 k0' : Draws) (I a : Nat)
include hch hopp hoppi

mutual
theorem unbE : ∀ (n : Node α) (sc sp : List Nat) (pc p1 p2 : α),
    NodeOK g n → NoChanceRepeat sc n → NoOppRepeat (!first) sp n →
    EE g.chance opp k0 k0' (fun kc kp => (em first strat kc kp n).1)
      = sgn first * (pm g.chance false strat k0 n pc p1 p2).1 ∧
    EE g.chance opp k0 k0' (fun kc kp => rg first I a (em first strat kc kp n).2)
        * wOf first pc p1 p2
      = rg first I a (pm g.chance false strat k0 n pc p1 p2).2
  | .term p => fun _ _ _ _ _ _ _ _ => by
    simp only [em_term, pm_term, rg_nil, zero_mul, EE, expectDraws_const _ hopp,
      expectDraws_const _ hch, sgn_mul, and_self]
  | .chance i ks => fun sc sp pc p1 p2 ⟨⟨ps, hps, _⟩, _, hoks⟩ ⟨_, hncs⟩ hnps => by
    obtain ⟨e1, e2⟩ := unbE_ch ps ks (i :: sc) sp pc p1 p2 hoks hncs hnps
    -- the draw at `i` first; below it nothing reads that draw
    -- (the inner expectation is part of what reads the result)
    have pull := fun φ : α × List (Eff α) → α =>
      expectDraws_draw g.chance k0 i ps hps (hch ps (List.mem_of_getElem? hps))
        (fun G : Draws → _ => expectDraws opp 0 k0' (fun kp => φ (G kp)))
        (fun kc j kp => emNth first strat kc kp ks j) fun kc j => funext fun kp =>
          emNth_congr first strat (upd kc i j) kc kp kp ks j (i :: sc) sp hncs hnps
            (upd_of_not_mem kc i j sc) (fun _ _ => rfl)
    simp only [em_chance, pm_chance _ _ _ _ rfl, List.getD_eq_getElem?_getD, hps, Option.getD_some,
      ← e1, ← e2]
    exact ⟨pull Prod.fst, congrArg (· * _) (pull (rg first I a ·.2))⟩
  | .player one i ks => fun sc sp pc p1 p2 ⟨⟨e, he, _⟩, _, hoks⟩ hncs hnp => by
    rcases own_or_opp first one with rfl | rfl
    · obtain ⟨h1, h2, h3⟩ := unbE_own i (strat first i) ks sc sp pc p1 p2 0 hoks hncs
        (hnp.of_ne first.not_ne_self.symm)
      simp only [em_own, pm_player, mult_eq, rg_append, rg_stratEffs, rg_subEffs, subEffsE_eq_subEffs,
        zero_add, EE_add, EE_neg, EE_mul_left]
      refine ⟨h1, ?_⟩
      rw [← h2, ← h3]
      ring
    · obtain ⟨_, hnps⟩ := hnp.of_opp
      have hσ : opp[i]? = some (strat (!first) i) := hoppi i e he
      obtain ⟨e1, e2⟩ := unbE_opp i (if (!first) = true then pc * p2 else -p1 * pc)
        (strat (!first) i) ks sc (i :: sp) pc p1 p2 0 hoks hncs hnps
      -- the draw at `i` first; perfect recall: below it nothing reads that draw
      have pull := fun φ => EE_drawP g.chance opp k0 k0' i _ hσ (hopp _ (List.mem_of_getElem? hσ)) φ
        (fun kc kp j => emNth first strat kc kp ks j) fun kc kp j =>
          emNth_congr first strat kc kc (upd kp i j) kp ks j sc (i :: sp) hncs hnps
            (fun _ _ => rfl) (upd_of_not_mem kp i j sp)
      simp only [em_opp, pm_player, rg_append, extStratEffs_eq_stratEffs, rg_stratEffs, rg_subEffs,
        Bool.not_eq_self, false_and, if_false, zero_mul, neg_zero, zero_add, add_zero, ← e1, ← e2]
      exact ⟨pull Prod.fst, congrArg (· * _) (pull (rg first I a ·.2))⟩
theorem unbE_ch : ∀ (ps : List α) (ks : List (Node α)) (sc sp : List Nat) (pc p1 p2 : α),
    NodeOKL g ks → NoChanceRepeatL sc ks → NoOppRepeatL (!first) sp ks →
    expectOne ps (fun j => EE g.chance opp k0 k0' (fun kc kp => (emNth first strat kc kp ks j).1))
      = sgn first * (pmCh g.chance false strat k0 ps ks pc p1 p2).1 ∧
    expectOne ps (fun j => EE g.chance opp k0 k0'
        (fun kc kp => rg first I a (emNth first strat kc kp ks j).2)) * wOf first pc p1 p2
      = rg first I a (pmCh g.chance false strat k0 ps ks pc p1 p2).2
  | p :: ps, n :: ks => fun sc sp pc p1 p2 hok hnc hnp => by
    obtain ⟨h1, h2⟩ := unbE_ch ps ks sc sp pc p1 p2 hok.2 hnc.2 hnp.2
    obtain ⟨g1, g2⟩ := unbE n sc sp (pc * p) p1 p2 hok.1 hnc.1 hnp.1
    rw [wOf_chance] at g2
    simp only [expectOne_cons, emNth_zero, emNth_succ, pmCh_cons, rg_append, g1, h1, ← g2, ← h2]
    constructor <;> ring
  | [], _ => fun _ _ _ _ _ _ _ _ => by
    simp only [expectOne_nil, pmCh_nil_left, rg_nil, zero_mul, mul_zero, and_self]
  | _ :: _, [] => fun _ _ _ _ _ _ _ _ => by
    simp only [emNth_nil, pmCh_nil_right, rg_nil, EE_zero, expectOne_const, zero_mul, mul_zero,
      and_self]
theorem unbE_own (i : Nat) :
    ∀ (σ : List α) (ks : List (Node α)) (sc sp : List Nat) (pc p1 p2 : α) (b : Nat),
    NodeOKL g ks → NoChanceRepeatL sc ks → NoOppRepeatL (!first) sp ks →
    EE g.chance opp k0 k0' (fun kc kp => (emActs first strat kc kp first i σ ks b).1)
      = sgn first * (pmActs g.chance false strat k0 first i (sgn first * wOf first pc p1 p2)
          σ ks pc p1 p2 b).1 ∧
    EE g.chance opp k0 k0' (fun kc kp => (emActs first strat kc kp first i σ ks b).1)
        * wOf first pc p1 p2
      = (pmActs g.chance false strat k0 first i (sgn first * wOf first pc p1 p2)
          σ ks pc p1 p2 b).2.1 ∧
    EE g.chance opp k0 k0' (fun kc kp => rg first I a (emActs first strat kc kp first i σ ks b).2)
        * wOf first pc p1 p2
      = rg first I a (pmActs g.chance false strat k0 first i (sgn first * wOf first pc p1 p2)
          σ ks pc p1 p2 b).2.2
  | s :: σ, n :: ks => fun sc sp pc p1 p2 b hok hnc hnp => by
    obtain ⟨r1, r2⟩ := unbE n sc sp pc (if first then p1 * s else p1) (if first then p2 else p2 * s)
      hok.1 hnc.1 hnp.1
    rw [wOf_own] at r2
    obtain ⟨a1, a2, a3⟩ := unbE_own i σ ks sc sp pc p1 p2 (b + 1) hok.2 hnc.2 hnp.2
    simp only [emActs_cons, pmActs_cons, rg_append, rg_cons, EE_add, EE_mul_left, r1, a1, ← a2,
      ← r2, ← a3]
    refine ⟨?_, ?_, ?_⟩ <;> ring
  | [], _ :: _ => fun _ _ _ _ _ _ _ _ _ => by
    simp only [emActs_nil_left, pmActs_nil_left, rg_nil, EE_zero, zero_mul, mul_zero, and_self]
  | _, [] => fun _ _ _ _ _ _ _ _ _ => by
    simp only [emActs_nil_right, pmActs_nil_right, rg_nil, EE_zero, zero_mul, mul_zero, and_self]
theorem unbE_opp (i : Nat) (mult : α) :
    ∀ (σ : List α) (ks : List (Node α)) (sc sp : List Nat) (pc p1 p2 : α) (b : Nat),
    NodeOKL g ks → NoChanceRepeatL sc ks → NoOppRepeatL (!first) sp ks →
    expectOne σ (fun j => EE g.chance opp k0 k0' (fun kc kp => (emNth first strat kc kp ks j).1))
      = sgn first * (pmActs g.chance false strat k0 (!first) i mult σ ks pc p1 p2 b).1 ∧
    expectOne σ (fun j => EE g.chance opp k0 k0'
        (fun kc kp => rg first I a (emNth first strat kc kp ks j).2)) * wOf first pc p1 p2
      = rg first I a (pmActs g.chance false strat k0 (!first) i mult σ ks pc p1 p2 b).2.2
  | s :: σ, n :: ks => fun sc sp pc p1 p2 b hok hnc hnp => by
    obtain ⟨r1, r2⟩ := unbE n sc sp pc (if (!first) then p1 * s else p1)
      (if (!first) then p2 else p2 * s) hok.1 hnc.1 hnp.1
    rw [wOf_opp] at r2
    obtain ⟨a1, a2⟩ := unbE_opp i mult σ ks sc sp pc p1 p2 (b + 1) hok.2 hnc.2 hnp.2
    simp only [expectOne_cons, emNth_zero, emNth_succ, pmActs_cons, rg_append, rg_cons,
      Bool.not_eq_self, false_and, if_false, zero_mul, zero_add, r1, a1, ← r2, ← a2]
    constructor <;> ring
  | [], _ => fun _ _ _ _ _ _ _ _ _ => by
    simp only [expectOne_nil, pmActs_nil_left, rg_nil, zero_mul, mul_zero, and_self]
  | _ :: _, [] => fun _ _ _ _ _ _ _ _ _ => by
    simp only [emNth_nil, pmActs_nil_right, rg_nil, EE_zero, expectOne_const, zero_mul, mul_zero,
      and_self]
end

end

end UnbE
open Unb UnbE

/-- **external sampling is unbiased for the regrets of the updating player** -/
theorem external_pass_unbiased (g : Game α) (hg : GameWF g) (hnr : NoChanceRepeat [] g.root)
    (first : Bool) (strat : Bool → Nat → List α)
    (hs : ∀ j e, (g.infos (!first))[j]? = some e →
      (strat (!first) j).length = e.actions.length ∧ (strat (!first) j).sum = 1)
    (I a : Nat) :
    expectDraws g.chance 0 (fun _ => 0) (fun kc =>
      expectDraws (oppTable g first strat) 0 (fun _ => 0) (fun kp =>
        effSum (erec (extCtx g first strat kc kp) g.root {}).2.1 first I Slot.regret a))
      = effSum (vrec (fullCtx g strat 0) g.root 1 1 1 {}).2.1 first I Slot.regret a := by
  have hopp : ∀ σ ∈ oppTable g first strat, σ.sum = 1 := by
    intro σ hσ
    obtain ⟨j, hj, rfl⟩ := List.mem_map.mp hσ
    exact (hs j _ (List.getElem?_eq_getElem (List.mem_range.mp hj))).2
  have hoppi : ∀ i e, (g.infos (!first))[i]? = some e →
      (oppTable g first strat)[i]? = some (strat (!first) i) := by
    intro i e hi
    rw [oppTable, List.getElem?_map, List.getElem?_range (List.getElem?_eq_some_iff.mp hi).1]
    rfl
  obtain ⟨hist, hpr, _⟩ := hg.recall (!first)
  have := (unbE g (fun ps h => (hg.chancePos ps h).2) first strat (oppTable g first strat) hopp
    hoppi (fun _ => 0) (fun _ => 0) I a g.root [] [] 1 1 1 hg.nodes hnr
    (pr_noRepeat (!first) hist g.root [] [] hpr (fun _ hx => nomatch hx))).2
  rw [wOf, mul_one, ite_self, mul_one] at this
  simp only [(erec_em g first strat _ _ g.root {} (ConsE_empty _ _)).2.1,
    (vrec_pm (fullCtx g strat 0) (fun _ => 0) (fun h => nomatch h) g.root 1 1 1 {}
      (ConsK_empty _)).2.1]
  exact this

namespace UnbE

/-! ## non-vacuity (closed examples over `ℚ`) -/

section Examples

/-- a chance root (odds `1/3 : 2/3`); on the left player two moves before player one, on the right
player one moves before player two -/
def ueGame : Game ℚ where
  chance := [[1/3, 2/3]]
  p1 := [⟨0, [0, 1], none⟩]
  p2 := [⟨0, [0, 1], none⟩]
  s1 := []
  s2 := []
  root := .chance 0 [
    .player false 0 [.player true 0 [.term 1, .term 3], .term 0],
    .player true 0 [.term 4, .player false 0 [.term (-2), .term 2]]]

def ueStrat : Bool → Nat → List ℚ := fun one _ => if one then [2/5, 3/5] else [1/4, 3/4]

theorem ueGame_wf : GameWF ueGame where
  chancePos := by decide +kernel
  -- along the tree: an interior node's infoset is declared with as many outcomes (actions) as the
  -- node has children, and these are at least two
  nodes := ⟨⟨_, rfl, rfl⟩, le_rfl,
    ⟨⟨_, rfl, rfl⟩, le_rfl, ⟨⟨_, rfl, rfl⟩, le_rfl, trivial, trivial, trivial⟩, trivial, trivial⟩,
    ⟨⟨_, rfl, rfl⟩, le_rfl, trivial, ⟨⟨_, rfl, rfl⟩, le_rfl, trivial, trivial, trivial⟩, trivial⟩,
    trivial⟩
  recall := fun me => ⟨fun _ => [], by cases me <;> simp [PR, PRL, PRD, ueGame], by simp⟩
  tables1 := ⟨by decide, by decide, by decide, by decide⟩
  tables2 := ⟨by decide, by decide, by decide, by decide⟩
  actsTwo := by decide

theorem ueGame_nr : NoChanceRepeat [] ueGame.root := by
  simp [NoChanceRepeat, NoChanceRepeatL, ueGame]

theorem ueStrat_ok (first : Bool) : ∀ j e, (ueGame.infos (!first))[j]? = some e →
    (ueStrat (!first) j).length = e.actions.length ∧ (ueStrat (!first) j).sum = 1
  | 0, _, h => by cases first <;> cases h <;> exact ⟨rfl, by decide +kernel⟩
  | _ + 1, _, h => by cases first <;> cases h

/-- the theorem applies to this game -/
example (first : Bool) (I a : Nat) :=
  external_pass_unbiased ueGame ueGame_wf ueGame_nr first ueStrat (ueStrat_ok first) I a

/-- player one updating: both sides are `1/3·1/4·(1 - 11/5) + 2/3·(4 - 11/5) = 11/10` -/
example :
    expectDraws ueGame.chance 0 (fun _ => 0) (fun kc =>
      expectDraws (oppTable ueGame true ueStrat) 0 (fun _ => 0) (fun kp =>
        effSum (erec (extCtx ueGame true ueStrat kc kp) ueGame.root {}).2.1 true 0 Slot.regret 0))
      = 11/10 ∧
    effSum (vrec (fullCtx ueGame ueStrat 0) ueGame.root 1 1 1 {}).2.1 true 0 Slot.regret 0
      = 11/10 := by
  decide +kernel

/-- player two updating: both sides are `1/3·(-11/5 + 11/20) + 2/3·3/5·(2 + 1) = 13/20` -/
example :
    expectDraws ueGame.chance 0 (fun _ => 0) (fun kc =>
      expectDraws (oppTable ueGame false ueStrat) 0 (fun _ => 0) (fun kp =>
        effSum (erec (extCtx ueGame false ueStrat kc kp) ueGame.root {}).2.1 false 0 Slot.regret 0))
      = 13/20 ∧
    effSum (vrec (fullCtx ueGame ueStrat 0) ueGame.root 1 1 1 {}).2.1 false 0 Slot.regret 0
      = 13/20 := by
  decide +kernel

/-- a single external-sampling pass is *not* the unsampled one -/
example : effSum (erec (extCtx ueGame true ueStrat (fun _ => 0) (fun _ => 0)) ueGame.root {}).2.1
    true 0 Slot.regret 0 ≠ 11/10 := by
  decide +kernel

end Examples

end UnbE

end Cfr
