import CfrVerif.Proofs.RateVanilla
/-!
# What one external-sampling pass (`erec`) adds to the regrets of one infoset

For every infoset `I`, with `δ a := effSum es me I .regret a`:

* `erec_zero` : `δ = 0` for the player who does not update in this pass (and for infosets the
  tree does not contain);
* `erec_orth` : `Σ_a σ(I,a)·δ a = 0`;
* `erec_bnd`  : `|δ a| ≤ hi − lo` for the updating player under perfect recall, for payoffs in
  `[lo, hi]` and in-range draws.
-/
set_option linter.unusedSectionVars false
namespace Cfr
open Finset

/-- every cached sample of the non-updating player is an index into that player's strategy -/
def POKc (c : ECtx ℝ) (d : DrawSt ℝ) : Prop :=
  ∀ i k, assocGet d.player i = some k → ∀ one, one ≠ c.first → k < (c.strat one i).length

def EOK (c : ECtx ℝ) (d : DrawSt ℝ) : Prop := DOK c.ch d ∧ POKc c d

theorem EOK.init (c : ECtx ℝ) (log : List (DrawRec ℝ)) : EOK c { log := log } :=
  ⟨DOK.init _ _, fun _ _ h => nomatch h⟩

theorem sampleChance_okE (c : ECtx ℝ) (hd : DrawLt c.draw) {i : ℕ} {ks : List (Node ℝ)}
    (hf : TFit c.ch c.strat (.chance i ks)) (d : DrawSt ℝ) (h : EOK c d) :
    (sampleChance c.draw c.chancePass (c.ch.getD i []) i d).1 < ks.length ∧
      EOK c (sampleChance c.draw c.chancePass (c.ch.getD i []) i d).2 := by
  obtain ⟨s1, s2, s3⟩ := sampleChance_ok c.draw hd hf c.chancePass d h.1
  exact ⟨s1, s2, fun j k hj => h.2 j k (s3 ▸ hj)⟩

theorem samplePlayer_okE (c : ECtx ℝ) (hd : DrawLt c.draw) {one : Bool} (hone : one ≠ c.first)
    {i : ℕ} {ks : List (Node ℝ)} (hf : TFit c.ch c.strat (.player one i ks)) (kind : ℕ)
    (d : DrawSt ℝ) (h : EOK c d) :
    (samplePlayer c.draw kind c.playerPass (c.strat one i) i d).1 < ks.length ∧
      EOK c (samplePlayer c.draw kind c.playerPass (c.strat one i) i d).2 := by
  have hne : c.strat one i ≠ [] :=
    List.ne_nil_of_length_pos (hf.1 ▸ List.length_pos_of_ne_nil hf.2.1)
  have s := samplePlayer_inv (P := fun j k => ∀ one', one' ≠ c.first → k < (c.strat one' j).length)
    c.draw kind c.playerPass (c.strat one i) i d h.2 fun one' hone' => by
      rw [(Bool.eq_not_of_ne hone').trans (Bool.eq_not_of_ne hone).symm]
      exact hd _ _ _ _ hne
  exact ⟨hf.1 ▸ s.1 one hone, fun j k hj => h.1 j k (s.2.2 ▸ hj), s.2.1⟩

mutual
theorem erec_zero (c : ECtx ℝ) (me : Bool) (I a : ℕ) :
    ∀ (n : Node ℝ) (d : DrawSt ℝ), (me = c.first → ¬ Has me I n) →
      effSum (erec c n d).2.1 me I Slot.regret a = 0
  | .term p => by
    intros
    rw [erec, effSum_nil]
  | .chance i ks => by
    intro d h
    rw [erec_chance_eq]
    exact erecNth_zero c me I a ks _ _ h
  | .player one i ks => by
    intro d h
    by_cases ho : (one == c.first) = true
    · have h1 : ¬ (one = me ∧ i = I) := fun h' => h (h'.1 ▸ beq_iff_eq.mp ho) (.inl h')
      rw [erec_own_eq c one i ks d ho]
      simp only [effSum_append, subEffsE_eq_subEffs, effSum_subEffs_regret]
      rw [erecActs_zero c me I a one i _ ks d 0 0 h1 (fun hm hk => h hm (.inr hk)),
        if_neg (fun h' : _ ∧ _ ∧ _ => h1 ⟨h'.1, h'.2.1⟩), add_zero]
    · rw [erec_opp_eq c one i ks d ho]
      simp only [effSum_append, extStratEffs_eq_stratEffs, effSum_stratEffs_regret, zero_add]
      exact erecNth_zero c me I a ks _ _ (fun hm hk => h hm (.inr hk))
theorem erecNth_zero (c : ECtx ℝ) (me : Bool) (I a : ℕ) :
    ∀ (ks : List (Node ℝ)) (k : ℕ) (d : DrawSt ℝ), (me = c.first → ¬ HasL me I ks) →
      effSum (erecNth c ks k d).2.1 me I Slot.regret a = 0
  | [], _ => by
    intros
    rw [erecNth, effSum_nil]
  | k :: _, 0 => by
    intro d h
    exact erec_zero c me I a k d (fun hm hk => h hm (.inl hk))
  | _ :: ks, n + 1 => by
    intro d h
    exact erecNth_zero c me I a ks n d (fun hm hk => h hm (.inr hk))
theorem erecActs_zero (c : ECtx ℝ) (me : Bool) (I a : ℕ) (one : Bool) (i : ℕ) :
    ∀ (ss : List ℝ) (ks : List (Node ℝ)) (d : DrawSt ℝ) (k : ℕ) (ex : ℝ),
      ¬ (one = me ∧ i = I) → (me = c.first → ¬ HasL me I ks) →
      effSum (erecActs c one i ss ks d k ex).2.1 me I Slot.regret a = 0
  | s :: ss, n :: ks => by
    intro d k ex h1 h
    rw [erecActs_cons_eq]
    simp only [effSum_append]
    rw [effSum_cons_ne _ _ _ _ _ _ h1,
      erec_zero c me I a n d (fun hm hk => h hm (.inl hk)),
      erecActs_zero c me I a one i ss ks _ _ _ h1 (fun hm hk => h hm (.inr hk)), add_zero]
  | [], _ => by
    intros
    rw [erecActs_nil_left, effSum_nil]
  | _ :: _, [] => by
    intros
    rw [erecActs_nil_right, effSum_nil]
end

mutual
theorem erec_rng (c : ECtx ℝ) (hdr : DrawLt c.draw) (lo hi lo' hi' : ℝ)
    (hterm : ∀ p, lo ≤ p → p ≤ hi →
      lo' ≤ (if c.first then p else -p) ∧ (if c.first then p else -p) ≤ hi') :
    ∀ (n : Node ℝ) (d : DrawSt ℝ), TFit c.ch c.strat n → PayIn lo hi n → EOK c d →
      lo' ≤ (erec c n d).1 ∧ (erec c n d).1 ≤ hi' ∧ EOK c (erec c n d).2.2
  | .term p => by
    intro d _ hp hd
    rw [erec]
    exact ⟨(hterm p hp.1 hp.2).1, (hterm p hp.1 hp.2).2, hd⟩
  | .chance i ks => by
    intro d hf hp hd
    rw [erec_chance_eq]
    obtain ⟨s1, s2⟩ := sampleChance_okE c hdr hf d hd
    exact erecNth_rng c hdr lo hi lo' hi' hterm ks _ _ hf.2.2.2 hp s2 s1
  | .player one i ks => by
    intro d hf hp hd
    by_cases ho : (one == c.first) = true
    · obtain ⟨hl, -, ⟨hnn, hsum⟩, hk⟩ := hf
      rw [erec_own_eq c one i ks d ho]
      obtain ⟨r1, r2, r3⟩ := erecActs_rng c hdr lo hi lo' hi' hterm one i (c.strat one i) ks d 0 0
        hnn hl hk hp hd
      rw [hsum, mul_one, zero_add] at r1 r2
      exact ⟨r1, r2, r3⟩
    · rw [erec_opp_eq c one i ks d ho]
      obtain ⟨s1, s2⟩ := samplePlayer_okE c hdr (mt beq_iff_eq.mpr ho) hf (if one then 1 else 2)
        d hd
      exact erecNth_rng c hdr lo hi lo' hi' hterm ks _ _ hf.2.2.2 hp s2 s1
theorem erecNth_rng (c : ECtx ℝ) (hdr : DrawLt c.draw) (lo hi lo' hi' : ℝ)
    (hterm : ∀ p, lo ≤ p → p ≤ hi →
      lo' ≤ (if c.first then p else -p) ∧ (if c.first then p else -p) ≤ hi') :
    ∀ (ks : List (Node ℝ)) (k : ℕ) (d : DrawSt ℝ), TFitL c.ch c.strat ks → PayInL lo hi ks →
      EOK c d → k < ks.length →
      lo' ≤ (erecNth c ks k d).1 ∧ (erecNth c ks k d).1 ≤ hi' ∧ EOK c (erecNth c ks k d).2.2
  | [], _ => fun _ _ _ _ hlt => absurd hlt (Nat.not_lt_zero _)
  | k :: _, 0 => by
    intro d hf hp hd _
    exact erec_rng c hdr lo hi lo' hi' hterm k d hf.1 hp.1 hd
  | _ :: ks, n + 1 => by
    intro d hf hp hd hlt
    exact erecNth_rng c hdr lo hi lo' hi' hterm ks n d hf.2 hp.2 hd (Nat.lt_of_succ_lt_succ hlt)
theorem erecActs_rng (c : ECtx ℝ) (hdr : DrawLt c.draw) (lo hi lo' hi' : ℝ)
    (hterm : ∀ p, lo ≤ p → p ≤ hi →
      lo' ≤ (if c.first then p else -p) ∧ (if c.first then p else -p) ≤ hi')
    (one : Bool) (i : ℕ) :
    ∀ (ss : List ℝ) (ks : List (Node ℝ)) (d : DrawSt ℝ) (k : ℕ) (ex : ℝ),
      (∀ s ∈ ss, 0 ≤ s) → ss.length = ks.length → TFitL c.ch c.strat ks → PayInL lo hi ks →
      EOK c d →
      ex + lo' * ss.sum ≤ (erecActs c one i ss ks d k ex).1 ∧
        (erecActs c one i ss ks d k ex).1 ≤ ex + hi' * ss.sum ∧
        EOK c (erecActs c one i ss ks d k ex).2.2
  | s :: ss, n :: ks => by
    intro d k ex hnn hl hf hp hd
    obtain ⟨hs0, hnn'⟩ := List.forall_mem_cons.mp hnn
    obtain ⟨a1, a2, a3⟩ := erec_rng c hdr lo hi lo' hi' hterm n d hf.1 hp.1 hd
    rw [erecActs_cons_eq, List.sum_cons]
    exact wsum_step hs0 a1 a2
      (erecActs_rng c hdr lo hi lo' hi' hterm one i ss ks _ _ _ hnn' (Nat.succ.inj hl) hf.2 hp.2 a3)
  | [], [] => by
    intro d _ ex _ _ _ _ hd
    rw [erecActs_nil_left, List.sum_nil, mul_zero, mul_zero, add_zero]
    exact ⟨le_rfl, le_rfl, hd⟩
  | [], _ :: _ => fun _ _ _ _ hl => nomatch hl
  | _ :: _, [] => fun _ _ _ _ hl => nomatch hl
end

mutual
theorem erec_orth (c : ECtx ℝ) (me : Bool) (I : ℕ) (hsum : (c.strat me I).sum = 1) :
    ∀ (n : Node ℝ) (d : DrawSt ℝ),
      dotE (c.strat me I) (fun a => effSum (erec c n d).2.1 me I Slot.regret a) = 0
  | .term p => by
    intro d
    simp only [erec, effSum_nil, dotE_zero]
  | .chance i ks => by
    intro d
    rw [erec_chance_eq]
    exact erecNth_orth c me I hsum ks _ _
  | .player one i ks => by
    intro d
    by_cases ho : (one == c.first) = true
    · rw [erec_own_eq c one i ks d ho]
      refine dotE_subEffs _ hsum me I one i _ _ _ (fun h => by rw [h.1, h.2]) ?_
      rw [erecActs_orth c me I hsum one i _ ks d 0 0 (fun h => by rw [h.1, h.2]; rfl), sub_zero]
    · rw [erec_opp_eq c one i ks d ho]
      simp only [effSum_append, extStratEffs_eq_stratEffs, effSum_stratEffs_regret, zero_add]
      exact erecNth_orth c me I hsum ks _ _
theorem erecNth_orth (c : ECtx ℝ) (me : Bool) (I : ℕ) (hsum : (c.strat me I).sum = 1) :
    ∀ (ks : List (Node ℝ)) (k : ℕ) (d : DrawSt ℝ),
      dotE (c.strat me I) (fun a => effSum (erecNth c ks k d).2.1 me I Slot.regret a) = 0
  | [], _ => by
    intro d
    simp only [erecNth, effSum_nil, dotE_zero]
  | k :: _, 0 => by
    intro d
    exact erec_orth c me I hsum k d
  | _ :: ks, n + 1 => by
    intro d
    exact erecNth_orth c me I hsum ks n d
theorem erecActs_orth (c : ECtx ℝ) (me : Bool) (I : ℕ) (hsum : (c.strat me I).sum = 1)
    (one : Bool) (i : ℕ) :
    ∀ (ss : List ℝ) (ks : List (Node ℝ)) (d : DrawSt ℝ) (k : ℕ) (ex : ℝ),
      (one = me ∧ i = I → ss = (c.strat me I).drop k) →
      dotE (c.strat me I)
        (fun a => effSum (erecActs c one i ss ks d k ex).2.1 me I Slot.regret a)
        = if one = me ∧ i = I then (erecActs c one i ss ks d k ex).1 - ex else 0
  | s :: ss, n :: ks => by
    intro d k ex hss
    rw [erecActs_cons_eq]
    rw [dotE_regret_cons _ me I one i k _ _ _ _ hss (erec_orth c me I hsum n _)
      (erecActs_orth c me I hsum one i ss ks _ _ _ (fun h => (drop_eq_cons (hss h)).2.2))]
    exact if_congr Iff.rfl (by ring) rfl
  | [], _ => by
    intros
    simp only [erecActs_nil_left, effSum_nil, dotE_zero, sub_self, ite_self]
  | _ :: _, [] => by
    intros
    simp only [erecActs_nil_right, effSum_nil, dotE_zero, sub_self, ite_self]
end

/-- below an own node of `I` whose children contain no further node of `I`, the action loop adds
the value of child `a` to cell `a` -/
theorem erecActs_self (c : ECtx ℝ) (hdr : DrawLt c.draw) (lo hi lo' hi' : ℝ)
    (hterm : ∀ p, lo ≤ p → p ≤ hi →
      lo' ≤ (if c.first then p else -p) ∧ (if c.first then p else -p) ≤ hi')
    (hD : lo' ≤ hi') (I : ℕ) :
    ∀ (ss : List ℝ) (ks : List (Node ℝ)) (d : DrawSt ℝ) (k : ℕ) (ex : ℝ),
      ss.length = ks.length → ¬ HasL c.first I ks → TFitL c.ch c.strat ks → PayInL lo hi ks →
      EOK c d →
      ∀ a, ∃ u, (lo' ≤ u ∧ u ≤ hi') ∧
        effSum (erecActs c c.first I ss ks d k ex).2.1 c.first I Slot.regret a
          = if k ≤ a ∧ a < k + ks.length then u else 0
  | s :: ss, n :: ks => by
    intro d k ex hl hh hf hp hd a
    obtain ⟨a1, a2, a3⟩ := erec_rng c hdr lo hi lo' hi' hterm n d hf.1 hp.1 hd
    obtain ⟨u, hu, e⟩ := erecActs_self c hdr lo hi lo' hi' hterm hD I ss ks _ (k + 1)
      (ex + s * (erec c n d).1) (Nat.succ.inj hl) (fun hk => hh (.inr hk)) hf.2 hp.2 a3 a
    refine ⟨if k = a then _ else u,
      iteInduction (motive := fun u => lo' ≤ u ∧ u ≤ hi') (fun _ => ⟨a1, a2⟩) fun _ => hu, ?_⟩
    rw [erecActs_cons_eq]
    simp only [effSum_append, effSum_cons_regret, true_and]
    rw [erec_zero c c.first I a n d (fun _ hk => hh (.inl hk)), e, zero_add, ite_range_succ]
    rfl
  | [], [] => by
    intro d k _ _ _ _ _ _ a
    refine ⟨lo', ⟨le_rfl, hD⟩, ?_⟩
    rw [erecActs_nil_left, effSum_nil, if_neg (by simp)]
  | [], _ :: _ => fun _ _ _ hl => nomatch hl
  | _ :: _, [] => fun _ _ _ hl => nomatch hl

mutual
theorem erec_bnd (c : ECtx ℝ) (hdr : DrawLt c.draw) (lo hi lo' hi' : ℝ)
    (hterm : ∀ p, lo ≤ p → p ≤ hi →
      lo' ≤ (if c.first then p else -p) ∧ (if c.first then p else -p) ≤ hi')
    (hD : lo' ≤ hi') (I : ℕ) :
    ∀ (n : Node ℝ) (d : DrawSt ℝ), GoodR c.first I n → TFit c.ch c.strat n → PayIn lo hi n →
      EOK c d → ∀ a, |effSum (erec c n d).2.1 c.first I Slot.regret a| ≤ hi' - lo'
  | .term p => by
    intros
    rw [erec, effSum_nil, abs_zero]
    exact sub_nonneg.mpr hD
  | .chance i ks => by
    intro d hg hf hp hd a
    rw [erec_chance_eq]
    exact erecNth_bnd c hdr lo hi lo' hi' hterm hD I ks _ _ hg hf.2.2.2 hp
      (sampleChance_okE c hdr hf d hd).2 a
  | .player one i ks => by
    intro d hg hf hp hd a
    by_cases ho : (one == c.first) = true
    · obtain ⟨hl, -, ⟨hnn, hsum⟩, hk⟩ := hf
      obtain rfl : c.first = one := (beq_iff_eq.mp ho).symm
      rw [erec_own_eq c c.first i ks d ho]
      simp only [effSum_append, subEffsE_eq_subEffs, effSum_subEffs_regret]
      by_cases hI : i = I
      · subst hI
        -- cell `a` gets `u_a` from the loop and `−v` at the end, `u_a, v ∈ [lo', hi']`
        obtain ⟨u, hu, e⟩ := erecActs_self c hdr lo hi lo' hi' hterm hD i (c.strat c.first i)
          ks d 0 0 hl ((hg.2 rfl).1 rfl) hk hp hd a
        obtain ⟨r1, r2, -⟩ := erecActs_rng c hdr lo hi lo' hi' hterm c.first i (c.strat c.first i)
          ks d 0 0 hnn hl hk hp hd
        rw [hsum, mul_one, zero_add] at r1 r2
        rw [e, hl]
        simp only [true_and, Nat.zero_le, zero_add]
        by_cases ha : a < ks.length
        · rw [if_pos ha, if_pos ha, ← sub_eq_add_neg]
          exact abs_sub_le_of_le_of_le hu.1 hu.2 r1 r2
        · rw [if_neg ha, if_neg ha, add_zero, abs_zero]
          exact sub_nonneg.mpr hD
      · rw [if_neg (fun h : _ ∧ _ ∧ _ => hI h.2.1), add_zero]
        exact erecActs_bnd_own c hdr lo hi lo' hi' hterm hD I i hI _ ks d 0 0 hnn hl
          ((hg.2 rfl).2 hI) hg.1 hk hp hd a
    · rw [erec_opp_eq c one i ks d ho]
      simp only [effSum_append, extStratEffs_eq_stratEffs, effSum_stratEffs_regret, zero_add]
      exact erecNth_bnd c hdr lo hi lo' hi' hterm hD I ks _ _ hg.1 hf.2.2.2 hp
        (samplePlayer_okE c hdr (mt beq_iff_eq.mpr ho) hf (if one then 1 else 2) d hd).2 a
theorem erecNth_bnd (c : ECtx ℝ) (hdr : DrawLt c.draw) (lo hi lo' hi' : ℝ)
    (hterm : ∀ p, lo ≤ p → p ≤ hi →
      lo' ≤ (if c.first then p else -p) ∧ (if c.first then p else -p) ≤ hi')
    (hD : lo' ≤ hi') (I : ℕ) :
    ∀ (ks : List (Node ℝ)) (k : ℕ) (d : DrawSt ℝ), GoodL c.first I ks → TFitL c.ch c.strat ks →
      PayInL lo hi ks → EOK c d →
      ∀ a, |effSum (erecNth c ks k d).2.1 c.first I Slot.regret a| ≤ hi' - lo'
  | [], _ => by
    intros
    rw [erecNth, effSum_nil, abs_zero]
    exact sub_nonneg.mpr hD
  | k :: _, 0 => by
    intro d hg hf hp hd a
    exact erec_bnd c hdr lo hi lo' hi' hterm hD I k d hg.1 hf.1 hp.1 hd a
  | _ :: ks, n + 1 => by
    intro d hg hf hp hd a
    exact erecNth_bnd c hdr lo hi lo' hi' hterm hD I ks n d hg.2 hf.2 hp.2 hd a
theorem erecActs_bnd_own (c : ECtx ℝ) (hdr : DrawLt c.draw) (lo hi lo' hi' : ℝ)
    (hterm : ∀ p, lo ≤ p → p ≤ hi →
      lo' ≤ (if c.first then p else -p) ∧ (if c.first then p else -p) ≤ hi')
    (hD : lo' ≤ hi') (I i : ℕ) (hi'' : ¬ i = I) :
    ∀ (ss : List ℝ) (ks : List (Node ℝ)) (d : DrawSt ℝ) (k : ℕ) (ex : ℝ),
      (∀ s ∈ ss, 0 ≤ s) → ss.length = ks.length → Uniq c.first I ks → GoodL c.first I ks →
      TFitL c.ch c.strat ks → PayInL lo hi ks → EOK c d →
      ∀ a, |effSum (erecActs c c.first i ss ks d k ex).2.1 c.first I Slot.regret a| ≤ hi' - lo'
  | s :: ss, n :: ks => by
    intro d k ex hnn hl hu hg hf hp hd a
    rw [erecActs_cons_eq]
    simp only [effSum_append]
    rw [effSum_cons_ne _ _ _ _ _ _ (fun h => hi'' h.2)]
    -- at most one child contains nodes of `I`: that child or the later ones add nothing
    by_cases hn : Has c.first I n
    · rw [erecActs_zero c c.first I a c.first i ss ks _ _ _ (fun h => hi'' h.2)
        (fun _ => hu.1 hn), add_zero]
      exact erec_bnd c hdr lo hi lo' hi' hterm hD I n d hg.1 hf.1 hp.1 hd a
    · rw [erec_zero c c.first I a n d (fun _ => hn), zero_add]
      exact erecActs_bnd_own c hdr lo hi lo' hi' hterm hD I i hi'' ss ks _ _ _
        (List.forall_mem_cons.mp hnn).2 (Nat.succ.inj hl) hu.2 hg.2 hf.2 hp.2
        (erec_rng c hdr lo hi lo' hi' hterm n d hf.1 hp.1 hd).2.2 a
  | [], [] => by
    intros
    rw [erecActs_nil_left, effSum_nil, abs_zero]
    exact sub_nonneg.mpr hD
  | [], _ :: _ => fun _ _ _ _ hl => nomatch hl
  | _ :: _, [] => fun _ _ _ _ hl => nomatch hl
end

end Cfr
