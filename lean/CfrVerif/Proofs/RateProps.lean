import CfrVerif.Proofs.RateSolve
import CfrVerif.Props.C02
import CfrVerif.Props.C06
import CfrVerif.Props.C05
/-!
# C03, first sentence: the CFR rate of the vanilla bounds (used by `Props/C03.lean`)

For every well-formed game with payoffs in `[lo, hi]` (`D = hi − lo`), `n_p` decision infosets of
player `p` and at most `A` actions per infoset, after `T` iterations of the unsampled method with
vanilla parameters each player's returned bound is at most `2·D·n_p·√A/√T ≤ 2·D·N·√A/√T`
(`N = n_one + n_two`) — for every budget and threshold (`T` = the number of iterations actually
run), every task target and fair schedule.  With C02 (the bound dominates the true regret) the
true regret of the returned profile obeys the same rate, hence tends to zero.

The second sentence of the property (the `6·D·N·(√A + 1/√T)/√T` envelope for every preset) is
proved in `Proofs/PresetFinal.lean`; `full_preset_rate_partial` below is its vanilla case.
-/
set_option linter.unusedSectionVars false
namespace Cfr

/-- **the CFR theorem for the returned bounds** (single thread) -/
theorem full_vanilla_rate (g : Game ℝ) (hg : GameWF g) (lo hi : ℝ) (hpay : PayIn lo hi g.root)
    (A : Nat) (hA : ActsLe g A) (draw : DrawFn ℝ) (T : Nat) (thr : Option (Ext ℝ)) :
    RateOK (hi - lo) g.p1.length A (solveVanillaSingle g false RegretParams.vanilla draw T thr).iters
      (solveVanillaSingle g false RegretParams.vanilla draw T thr).regOne ∧
    RateOK (hi - lo) g.p2.length A (solveVanillaSingle g false RegretParams.vanilla draw T thr).iters
      (solveVanillaSingle g false RegretParams.vanilla draw T thr).regTwo :=
  vanilla_rate g hg lo hi hpay A hA false draw (by intro h; cases h) T thr

/-- every thread count -/
theorem full_vanilla_rate_multi (sched : Sched ℝ) (hs : sched.Fair) (g : Game ℝ) (hg : GameWF g)
    (lo hi : ℝ) (hpay : PayIn lo hi g.root) (A : Nat) (hA : ActsLe g A) (draw : DrawFn ℝ) (T : Nat)
    (thr : Option (Ext ℝ)) (target : Nat) :
    RateOK (hi - lo) g.p1.length A
      (solveVanillaMultiS sched g false RegretParams.vanilla draw T thr target).iters
      (solveVanillaMultiS sched g false RegretParams.vanilla draw T thr target).regOne ∧
    RateOK (hi - lo) g.p2.length A
      (solveVanillaMultiS sched g false RegretParams.vanilla draw T thr target).iters
      (solveVanillaMultiS sched g false RegretParams.vanilla draw T thr target).regTwo := by
  rw [full_multi_eq_single sched hs]
  exact full_vanilla_rate g hg lo hi hpay A hA draw T thr

/-- the rate in the property's own constants: `N` = all decision infosets of both players -/
theorem rateOK_total (D : ℝ) (hD : 0 ≤ D) (n N A iters : Nat) (hn : n ≤ N) (b : ℝ)
    (h : RateOK D n A iters (.fin b)) :
    b ≤ 2 * D * N * Real.sqrt A / Real.sqrt iters := by
  simp only [RateOK] at h
  refine le_trans h ?_
  have hnN : (n : ℝ) ≤ N := by exact_mod_cast hn
  apply div_le_div_of_nonneg_right _ (Real.sqrt_nonneg _)
  apply mul_le_mul_of_nonneg_right _ (Real.sqrt_nonneg _)
  exact mul_le_mul_of_nonneg_left hnN (mul_nonneg (by norm_num) hD)

/-! ## the hypotheses are satisfiable (non-vacuity) -/

theorem C05.tinyGame_payIn : PayIn (-1) 1 C05.tinyGame.root := by
  simp only [C05.tinyGame, PayIn, PayInL]
  norm_num

theorem C05.tinyGame_actsLe : ActsLe C05.tinyGame 2 := by
  intro me e he
  cases me <;> simp only [C05.tinyGame, Game.infos, if_true, Bool.false_eq_true, if_false,
    List.mem_singleton] at he <;> subst he <;> simp

/-- the rate theorem applies to a concrete game (one infoset per player, two actions, payoffs in
`[-1, 1]`): for every oracle, budget, threshold, schedule and task target both returned bounds are
at most `2·2·1·√2/√iters` -/
example (sched : Sched ℝ) (hs : sched.Fair) (draw : DrawFn ℝ) (T : ℕ) (thr : Option (Ext ℝ))
    (target : ℕ) :
    RateOK (1 - -1) 1 2
      (solveVanillaMultiS sched C05.tinyGame false RegretParams.vanilla draw T thr target).iters
      (solveVanillaMultiS sched C05.tinyGame false RegretParams.vanilla draw T thr target).regOne ∧
    RateOK (1 - -1) 1 2
      (solveVanillaMultiS sched C05.tinyGame false RegretParams.vanilla draw T thr target).iters
      (solveVanillaMultiS sched C05.tinyGame false RegretParams.vanilla draw T thr target).regTwo :=
  full_vanilla_rate_multi sched hs C05.tinyGame C05.tinyGame_wf (-1) 1 C05.tinyGame_payIn 2
    C05.tinyGame_actsLe draw T thr target

/-- `RateOK` is a real constraint: a finite bound above the rate violates it, and `+∞` is only
allowed when no iteration ran -/
example : ¬ RateOK 2 1 2 4 (.fin 3) ∧ ¬ RateOK 2 1 2 4 .posInf ∧ RateOK 2 1 2 0 .posInf := by
  refine ⟨?_, Nat.succ_ne_zero 3, rfl⟩
  simp only [RateOK, not_le]
  have h4 : Real.sqrt ((4 : ℕ) : ℝ) = 2 := by
    rw [show ((4 : ℕ) : ℝ) = 2 ^ 2 by norm_num, Real.sqrt_sq (by norm_num)]
  have h2 : Real.sqrt ((2 : ℕ) : ℝ) < 3 / 2 := by
    rw [Real.sqrt_lt' (by norm_num)]; norm_num
  rw [h4]
  norm_num
  linarith

/-- **the true regret of the returned profile obeys the CFR rate** (the bound dominates it by
C02): after `T` iterations without early termination it is at most `2·D·N·√A/√T`, `N` the number
of decision infosets of both players -/
theorem full_vanilla_regret_rate (g : Game ℝ) (hg : GameWF g) (lo hi : ℝ) (hD : lo ≤ hi)
    (hpay : PayIn lo hi g.root) (A : Nat) (hA : ActsLe g A) (draw : DrawFn ℝ) (T : Nat) (hT : 0 < T) :
    (getInfo g (solveVanillaSingle g false RegretParams.vanilla draw T none).profile).regret
      ≤ 2 * (hi - lo) * ((g.p1.length + g.p2.length : Nat) : ℝ) * Real.sqrt A / Real.sqrt T := by
  obtain ⟨b1, b2, e1, e2, _, _, hle⟩ := full_vanilla_bound_dominates g hg draw T hT none
  obtain ⟨r1, r2⟩ := full_vanilla_rate g hg lo hi hpay A hA draw T none
  rw [show (solveVanillaSingle g false RegretParams.vanilla draw T none).iters = T from
    solveWith_none_iters g _ T] at r1 r2
  rw [e1] at r1
  rw [e2] at r2
  have hD' : 0 ≤ hi - lo := by linarith
  have h1 := rateOK_total (hi - lo) hD' g.p1.length (g.p1.length + g.p2.length) A T
    (by omega) b1 r1
  have h2 := rateOK_total (hi - lo) hD' g.p2.length (g.p1.length + g.p2.length) A T
    (by omega) b2 r2
  exact le_trans hle (max_le h1 h2)

theorem const_div_sqrt_eventually (C ε : ℝ) (hε : 0 < ε) :
    ∃ T0 : Nat, 0 < T0 ∧ ∀ T : Nat, T0 ≤ T → C / Real.sqrt T ≤ ε := by
  refine ⟨⌈(C / ε) ^ 2⌉₊ + 1, Nat.succ_pos _, fun T hT => ?_⟩
  have hs : 0 < Real.sqrt T :=
    Real.sqrt_pos.mpr (Nat.cast_pos.mpr (Nat.lt_of_lt_of_le (Nat.succ_pos _) hT))
  have h : C / ε ≤ Real.sqrt T :=
    Real.le_sqrt_of_sq_le ((Nat.le_ceil _).trans (Nat.cast_le.mpr (Nat.le_of_succ_le hT)))
  rw [div_le_iff₀ hs]
  calc C = C / ε * ε := (div_mul_cancel₀ C hε.ne').symm
    _ ≤ Real.sqrt T * ε := mul_le_mul_of_nonneg_right h hε.le
    _ = ε * Real.sqrt T := mul_comm _ _

/-- **in particular the regret tends to zero as the budget grows**, on every game -/
theorem full_vanilla_regret_tendsto_zero (g : Game ℝ) (hg : GameWF g) (lo hi : ℝ) (hD : lo ≤ hi)
    (hpay : PayIn lo hi g.root) (A : Nat) (hA : ActsLe g A) (draw : DrawFn ℝ) :
    ∀ ε : ℝ, 0 < ε → ∃ T0 : Nat, ∀ T : Nat, T0 ≤ T →
      (getInfo g (solveVanillaSingle g false RegretParams.vanilla draw T none).profile).regret ≤ ε := by
  intro ε hε
  obtain ⟨T0, hT0, h⟩ := const_div_sqrt_eventually
    (2 * (hi - lo) * ((g.p1.length + g.p2.length : Nat) : ℝ) * Real.sqrt A) ε hε
  refine ⟨T0, fun T hT => ?_⟩
  exact le_trans (full_vanilla_regret_rate g hg lo hi hD hpay A hA draw T (by omega)) (h T hT)

/-- the second sentence of the property for the vanilla preset: the envelope
`6·D·N·(√A + 1/√T)/√T` holds (it is weaker than the rate above) -/
theorem full_preset_rate_partial (g : Game ℝ) (hg : GameWF g) (lo hi : ℝ) (hD : lo ≤ hi)
    (hpay : PayIn lo hi g.root) (A : Nat) (hA : ActsLe g A) (draw : DrawFn ℝ) (T : Nat) (hT : 0 < T) :
    (getInfo g (solveVanillaSingle g false RegretParams.vanilla draw T none).profile).regret
      ≤ 6 * (hi - lo) * ((g.p1.length + g.p2.length : Nat) : ℝ)
          * (Real.sqrt A + 1 / Real.sqrt T) / Real.sqrt T := by
  refine le_trans (full_vanilla_regret_rate g hg lo hi hD hpay A hA draw T hT) ?_
  have hD' : 0 ≤ hi - lo := sub_nonneg.mpr hD
  have hN : (0 : ℝ) ≤ ((g.p1.length + g.p2.length : Nat) : ℝ) := Nat.cast_nonneg _
  -- factor by factor: `2·D·N ≤ 6·D·N` and `√A ≤ √A + 1/√T`
  exact div_le_div_of_nonneg_right
    (mul_le_mul
      (mul_le_mul_of_nonneg_right (mul_le_mul_of_nonneg_right (by norm_num) hD') hN)
      (le_add_of_nonneg_right (one_div_nonneg.mpr (Real.sqrt_nonneg _))) (Real.sqrt_nonneg _)
      (mul_nonneg (mul_nonneg (by norm_num) hD') hN))
    (Real.sqrt_nonneg _)

end Cfr
