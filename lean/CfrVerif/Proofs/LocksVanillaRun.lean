import CfrVerif.Proofs.LocksVanillaPerm
import CfrVerif.Proofs.TablesOK
/-!
# The mutex count of the multi-threaded full / chance-sampled solver, for actual runs

`vanilla_multi_locks_eq_visits` (`Proofs/LocksVanillaPerm.lean`) asks that every player node of the
tree finds a non-empty strategy vector in the context (`StratsNonempty`).  Here: on an accepted game
(`GameWF`) every well-formed solver state (`StOK`: the initial state and every state the solve loop
reaches) provides that, so the count holds for every iteration of an actual run.
-/
namespace Cfr

theorem stOK_strat_ne_nil (g : Game ℝ) (s : SolveSt ℝ) (h : StOK g s) (one : Bool) (i : ℕ)
    (e : PInfo) (he : (g.infos one)[i]? = some e) : s.strat one i ≠ [] := by
  obtain ⟨x, hx, hok⟩ := (tableOK_get (h one)).1 i e he
  rw [strat_of_get s one i x hx]
  -- `x.strat` has as many entries as the infoset has actions: at least one
  exact List.ne_nil_of_length_pos (by rw [hok.lenσ]; exact hok.pos)

mutual
theorem stratsNonempty_of_nodeOK (g : Game ℝ) (s : SolveSt ℝ) (hs : StOK g s) (c : VCtx ℝ)
    (hc : c.strat = s.strat) : ∀ (n : Node ℝ), NodeOK g n → StratsNonempty c n
  | .term _, _ => by simp only [StratsNonempty]
  | .chance _ ks, h => by
    simp only [NodeOK] at h
    simp only [StratsNonempty]
    exact stratsNonemptyL_of_nodeOKL g s hs c hc ks h.2.2
  | .player one i ks, h => by
    simp only [NodeOK] at h
    obtain ⟨⟨e, he, _⟩, _, hks⟩ := h
    simp only [StratsNonempty]
    refine ⟨?_, stratsNonemptyL_of_nodeOKL g s hs c hc ks hks⟩
    rw [hc]
    exact stOK_strat_ne_nil g s hs one i e he
theorem stratsNonemptyL_of_nodeOKL (g : Game ℝ) (s : SolveSt ℝ) (hs : StOK g s) (c : VCtx ℝ)
    (hc : c.strat = s.strat) : ∀ (ks : List (Node ℝ)), NodeOKL g ks → StratsNonemptyL c ks
  | [], _ => by simp only [StratsNonemptyL]
  | k :: ks, h => by
    simp only [NodeOKL] at h
    simp only [StratsNonemptyL]
    exact ⟨stratsNonempty_of_nodeOK g s hs c hc k h.1, stratsNonemptyL_of_nodeOKL g s hs c hc ks h.2⟩
end

/-- on an accepted game every reachable solver state gives every player node a non-empty strategy -/
theorem stratsNonempty_of_wf (g : Game ℝ) (hg : GameWF g) (s : SolveSt ℝ) (hs : StOK g s)
    (sampled : Bool) (draw : DrawFn ℝ) (it : Nat) :
    StratsNonempty (vanillaCtx g sampled draw it s) g.root :=
  stratsNonempty_of_nodeOK g s hs _ rfl g.root hg.nodes

/-- **for every accepted game and every well-formed solver state** (in particular the initial one
and every state the solve loop reaches), however the frontier splits the tree: the tasks and the
closing recursion of one multi-threaded iteration take each infoset's mutex exactly as often as the
plain traversal's trace acquires it -/
theorem vanilla_multi_locks_eq_visits_run (g : Game ℝ) (hg : GameWF g) (s : SolveSt ℝ) (hs : StOK g s)
    (sampled : Bool) (draw : DrawFn ℝ) (it target : Nat) (log : List (DrawRec ℝ)) (one : Bool) (i : Nat) :
    stratUpdates one i (vanillaMultiEffects g (vanillaCtx g sampled draw it s) target log).1
      = acqCount (.player one i) (vtrace (vanillaCtx g sampled draw it s) g.root { log := log }).1 :=
  vanilla_multi_locks_eq_visits g _ (stratsNonempty_of_wf g hg s hs sampled draw it) target log one i

/-- non-vacuity: the initial state of every accepted game qualifies -/
theorem vanilla_multi_locks_eq_visits_init (g : Game ℝ) (hg : GameWF g) (sampled : Bool) (draw : DrawFn ℝ)
    (target : Nat) (one : Bool) (i : Nat) :
    stratUpdates one i (vanillaMultiEffects g (vanillaCtx g sampled draw 1 (SolveSt.init g)) target []).1
      = acqCount (.player one i) (vtrace (vanillaCtx g sampled draw 1 (SolveSt.init g)) g.root { log := [] }).1 :=
  vanilla_multi_locks_eq_visits_run g hg _ (stOK_init g hg) sampled draw 1 target [] one i

end Cfr
