import CfrVerif.Proofs.SampledIter
import CfrVerif.Props.C02
import CfrVerif.Proofs.RateSolve
/-!
# The run of the unsampled solver with general (discounting) parameters, cell by cell

`run g p draw t` is the state (and draw log) after `t` iterations.  `cell_step` describes one
accumulator cell through one iteration: add the instantaneous counterfactual regrets / the
reach-weighted strategy masses of the profile the iteration read, then discount; the next strategy
is matched on the pre-discount regrets.  `trace` packs the regret side of one infoset as an
`RMTrace`; `cumStrat_closed` is the average-strategy accumulator in closed form.
-/
set_option linter.unusedSectionVars false
set_option linter.unusedVariables false
namespace Cfr.PG
noncomputable section

def run (g : Game ℝ) (p : RegretParams ℝ) (draw : DrawFn ℝ) : ℕ → SolveSt ℝ × List (DrawRec ℝ)
  | 0 => (SolveSt.init g, [])
  | t + 1 =>
    ((vanillaIter g false p draw (t + 1) (run g p draw t).1 (run g p draw t).2).1,
     (vanillaIter g false p draw (t + 1) (run g p draw t).1 (run g p draw t).2).2.2.2)

theorem run_zero (g : Game ℝ) (p : RegretParams ℝ) (draw : DrawFn ℝ) :
    run g p draw 0 = (SolveSt.init g, []) := rfl

theorem run_succ (g : Game ℝ) (p : RegretParams ℝ) (draw : DrawFn ℝ) (t : ℕ) :
    run g p draw (t + 1) =
      ((vanillaIter g false p draw (t + 1) (run g p draw t).1 (run g p draw t).2).1,
       (vanillaIter g false p draw (t + 1) (run g p draw t).1 (run g p draw t).2).2.2.2) := rfl

/-- without a threshold the loop performs all its iterations: from the `t`-th member of a sequence
`R` of states that `step` generates it returns the averages of the `(t + n)`-th -/
theorem solveLoop_none_avg (step : IterFn ℝ) (R : ℕ → SolveSt ℝ × List (DrawRec ℝ))
    (hR : ∀ t, R (t + 1)
      = ((step (t + 1) (R t).1 (R t).2).1, (step (t + 1) (R t).1 (R t).2).2.2.2)) :
    ∀ (n t : ℕ) (r1 r2 : Ext ℝ),
      (solveLoop step none n (t + 1) (R t).1 r1 r2 (R t).2).stratOne = (R (t + n)).1.avg true ∧
      (solveLoop step none n (t + 1) (R t).1 r1 r2 (R t).2).stratTwo = (R (t + n)).1.avg false
  | 0, t, r1, r2 => ⟨rfl, rfl⟩
  | n + 1, t, r1, r2 => by
    have ih := solveLoop_none_avg step R hR n (t + 1)
      (.fin (step (t + 1) (R t).1 (R t).2).2.1) (.fin (step (t + 1) (R t).1 (R t).2).2.2.1)
    rw [hR] at ih
    rw [solveLoop_succ, if_neg (by exact Bool.false_ne_true),
      show t + (n + 1) = t + 1 + n by omega]
    exact ih

theorem solve_profile (g : Game ℝ) (p : RegretParams ℝ) (draw : DrawFn ℝ) (T : ℕ) :
    (solveVanillaSingle g false p draw T none).profile = (run g p draw T).1.avg := by
  have := solveLoop_none_avg _ (run g p draw) (run_succ g p draw) T 0 .posInf .posInf
  rw [zero_add, zero_add] at this
  funext one
  cases one
  · exact this.2
  · exact this.1

/-- instantaneous counterfactual regrets of infoset `I` under the profile `σ` -/
def rvec (g : Game ℝ) (σ : Profile ℝ) (me : Bool) (I : ℕ) : List ℝ :=
  (List.range (nActsOf g me I)).map (fun a => regAdd (σ me) I a (viewOf g σ me) 1)

/-- reach-weighted strategy masses of infoset `I` under the profile `σ` -/
def svec (g : Game ℝ) (σ : Profile ℝ) (me : Bool) (I : ℕ) : List ℝ :=
  (List.range (nActsOf g me I)).map (fun a => stratAdd (σ me) I a (viewOf g σ me) 1)

theorem effSum_regret_eq (g : Game ℝ) (hg : GameWF g) (draw : DrawFn ℝ) (pass : ℕ) (s : SolveSt ℝ)
    (log : List (DrawRec ℝ)) (hs : StOK g s) (me : Bool) (I : ℕ) (x : InfoSt ℝ)
    (hx : (s.get me)[I]? = some x) (a : ℕ) (ha : a < nActsOf g me I) :
    effSum (vrec ⟨g.chance, false, s.strat, draw, pass⟩ g.root 1 1 1 { log := log }).2.1
        me I Slot.regret a
      = regAdd (s.profile me) I a (viewOf g s.profile me) 1 := by
  have hσ : ProfileOK g s.profile := stOK_profile g s hs
  rw [vrec_full_regret ⟨g.chance, false, s.strat, draw, pass⟩ rfl s.profile
    (ctxOf_profile g s false draw pass) me g.root 1 1 1 { log := log } I a
    (by rw [profile_at s me I x hx, (stOK_get g s hs me I x hx).2.lenσ]; exact ha)
    (VOK.ownFits _ _ _ (profile_stratOK g _ hσ me).2.1 _ (viewOf_ok g hg _ hσ me)),
    ite_self, mul_one]

theorem effSum_strat_eq (g : Game ℝ) (hg : GameWF g) (draw : DrawFn ℝ) (pass : ℕ) (s : SolveSt ℝ)
    (log : List (DrawRec ℝ)) (hs : StOK g s) (me : Bool) (I : ℕ) (a : ℕ) :
    effSum (vrec ⟨g.chance, false, s.strat, draw, pass⟩ g.root 1 1 1 { log := log }).2.1
        me I Slot.strat a
      = stratAdd (s.profile me) I a (viewOf g s.profile me) 1 := by
  rw [vrec_full_strat ⟨g.chance, false, s.strat, draw, pass⟩ rfl s.profile
    (ctxOf_profile g s false draw pass) me g.root 1 1 1 { log := log } I a
    (VOK.natFits _ _ _ (viewOf_ok g hg _ (stOK_profile g s hs) me)), ite_self]

theorem cell_step (g : Game ℝ) (hg : GameWF g) (p : RegretParams ℝ) (draw : DrawFn ℝ) (it : ℕ)
    (s : SolveSt ℝ) (log : List (DrawRec ℝ)) (hs : StOK g s) (me : Bool) (I : ℕ) (x : InfoSt ℝ)
    (hx : (s.get me)[I]? = some x) :
    ∃ x'', ((vanillaIter g false p draw it s log).1.get me)[I]? = some x'' ∧
      x''.cumRegret = discountCumRegret p it (vadd x.cumRegret (rvec g s.profile me I)) ∧
      x''.cumStrat = discountAverageStrat p it (vadd x.cumStrat (svec g s.profile me I)) ∧
      x''.strat = regretMatch p.noPositive (vadd x.cumRegret (rvec g s.profile me I)) := by
  obtain ⟨_, hinfo⟩ := stOK_get g s hs me I x hx
  have eR : incVec (vrec ⟨g.chance, false, s.strat, draw, it - 1⟩ g.root 1 1 1 { log := log }).2.1
      me I Slot.regret x.cumRegret.length = rvec g s.profile me I := by
    rw [hinfo.lenR]
    exact List.map_congr_left fun a ha =>
      effSum_regret_eq g hg draw (it - 1) s log hs me I x hx a (List.mem_range.mp ha)
  have eS : incVec (vrec ⟨g.chance, false, s.strat, draw, it - 1⟩ g.root 1 1 1 { log := log }).2.1
      me I Slot.strat x.cumStrat.length = svec g s.profile me I := by
    rw [hinfo.lenS]
    exact List.map_congr_left fun a _ => effSum_strat_eq g hg draw (it - 1) s log hs me I a
  obtain ⟨x'', h, h1, h2, h3⟩ := vanillaIter_cell g false p draw it s log me I x hx
  rw [eR] at h1 h3
  rw [eS] at h2
  exact ⟨x'', h, h1, h2, h3⟩

theorem max_discount (r f g : ℝ) (hf : 0 ≤ f) (hg : 0 ≤ g) :
    max (if 0 < r then r * f else if r < 0 then r * g else r) 0 = max r 0 * f := by
  rcases lt_trichotomy 0 r with h | rfl | h
  · rw [if_pos h, max_eq_left (mul_nonneg h.le hf), max_eq_left h.le]
  · rw [if_neg (lt_irrefl _), if_neg (lt_irrefl _), max_self, zero_mul]
  · rw [if_neg h.not_gt, if_pos h, max_eq_right (mul_nonpos_of_nonpos_of_nonneg h.le hg),
      max_eq_right h.le, zero_mul]

theorem discount_pos_part (p : RegretParams ℝ) (it : ℕ) (hit : 1 ≤ it) (Q : List ℝ) :
    (discountCumRegret p it Q).map (fun v => max v 0)
      = Q.map (fun r => max r 0 * genDiscount it p.posRegret) := by
  rw [discountCumRegret, List.map_map]
  exact List.map_congr_left fun r _ => max_discount r _ _
    (genDiscount_mem_unit it hit p.posRegret).1 (genDiscount_mem_unit it hit p.negRegret).1

theorem dot_map_mul (h : ℝ → ℝ) (c : ℝ) : ∀ (Q δ : List ℝ),
    dot (Q.map (fun r => h r * c)) δ = dot (Q.map h) δ * c
  | [], δ => by simp
  | q :: Q, [] => by simp
  | q :: Q, d :: δ => by
    simp only [List.map_cons, dot_cons_cons, dot_map_mul h c Q δ]; ring

theorem dot_map_zero (h : ℝ → ℝ) : ∀ (Q δ : List ℝ), (∀ x ∈ Q, h x = 0) → dot (Q.map h) δ = 0
  | [], δ, _ => by simp
  | q :: Q, [], _ => by simp
  | q :: Q, d :: δ, hq => by
    rw [List.map_cons, dot_cons_cons, hq q List.mem_cons_self,
      dot_map_zero h Q δ (fun x hx => hq x (List.mem_cons_of_mem _ hx)), zero_mul, add_zero]

theorem orth_advance (p : RegretParams ℝ) (it : ℕ) (hit : 1 ≤ it) (Q δ : List ℝ)
    (h : dot (regretMatch p.noPositive Q) δ = 0) :
    dot ((discountCumRegret p it Q).map (fun v => max v 0)) δ = 0 := by
  rw [discount_pos_part p it hit, dot_map_mul (fun r => max r 0)]
  by_cases hpos : ∃ x ∈ Q, 0 < x
  · -- the matched strategy is the positive part divided by its (positive) sum
    rw [regretMatch_positive _ Q hpos] at h
    simp only [div_eq_mul_inv] at h
    rw [dot_map_mul pos] at h
    rw [show (fun r : ℝ => max r 0) = pos from rfl,
      (mul_eq_zero.mp h).resolve_right (inv_ne_zero (sum_map_pos_pos Q hpos).ne'), zero_mul]
  · rw [dot_map_zero _ Q δ fun x hx => max_eq_right (not_lt.mp fun hc => hpos ⟨x, hx, hc⟩),
      zero_mul]

/-- the invariant of one cell that yields `RMTrace.horth` -/
def OrthOK (x : InfoSt ℝ) : Prop :=
  ∀ δ, dot x.strat δ = 0 → dot (x.cumRegret.map (fun v => max v 0)) δ = 0

/-- stored cumulative regrets of infoset `I` after `t` iterations -/
def Qof (g : Game ℝ) (p : RegretParams ℝ) (draw : DrawFn ℝ) (me : Bool) (I t : ℕ) : List ℝ :=
  crOf ((run g p draw t).1.get me) I

/-- instantaneous regrets of infoset `I` in iteration `t ≥ 1` -/
def rof (g : Game ℝ) (p : RegretParams ℝ) (draw : DrawFn ℝ) (me : Bool) (I t : ℕ) : List ℝ :=
  rvec g (run g p draw (t - 1)).1.profile me I

theorem rof_length (g : Game ℝ) (p : RegretParams ℝ) (draw : DrawFn ℝ) (me : Bool) (I t : ℕ) :
    (rof g p draw me I t).length = nActsOf g me I := by
  rw [rof, rvec, List.length_map, List.length_range]

theorem nActsOf_ge (g : Game ℝ) (me : Bool) (I : ℕ) (h : (g.infos me).length ≤ I) :
    nActsOf g me I = 0 := by
  simp [nActsOf, List.getD_eq_getElem?_getD, h]
  rfl

/-- the weight `(k+1)^γ` with which iteration `k + 1` enters the average -/
def wgt (p : RegretParams ℝ) (k : ℕ) : ℝ := ((k + 1 : ℕ) : ℝ) ^ p.strat

theorem wgt_pos (p : RegretParams ℝ) (k : ℕ) : 0 < wgt p k :=
  Real.rpow_pos_of_pos (by positivity) _

/-- `(t/(t+1))^γ · (t+1)^γ = t^γ`, also at `t = 0` -/
theorem ratio_rpow (γ : ℝ) (t : ℕ) :
    ((t : ℝ) / ((t : ℝ) + 1)) ^ γ * ((t + 1 : ℕ) : ℝ) ^ γ = (t : ℝ) ^ γ := by
  have h : (0 : ℝ) ≤ (t : ℝ) + 1 := by positivity
  rw [Nat.cast_succ, Real.div_rpow (Nat.cast_nonneg t) h,
    div_mul_cancel₀ _ (Real.rpow_pos_of_pos (by positivity) γ).ne']

theorem ratio_wgt (p : RegretParams ℝ) (t : ℕ) :
    (((t + 1 : ℕ) : ℝ) / (((t + 1 : ℕ) : ℝ) + 1)) ^ p.strat * wgt p (t + 1) = wgt p t :=
  ratio_rpow p.strat (t + 1)

theorem init_cumStrat (g : Game ℝ) (me : Bool) (I : ℕ) (x : InfoSt ℝ)
    (hx : ((SolveSt.init g).get me)[I]? = some x) (a : ℕ) : x.cumStrat.getD a 0 = 0 := by
  obtain ⟨n, rfl⟩ := init_get g me I x hx
  simp only [InfoSt.new, List.getD_eq_getElem?_getD, List.getElem?_replicate]
  split_ifs <;> rfl

section
variable (g : Game ℝ) (hg : GameWF g) (p : RegretParams ℝ) (hp : 0 ≤ p.strat)
include hg hp

section
variable (draw : DrawFn ℝ)

theorem run_ok : ∀ t, StOK g (run g p draw t).1
  | 0 => stOK_init g hg
  | t + 1 => (vanillaIter_ok g false p hp draw (t + 1) _ _ (run_ok t)).1

theorem run_length (t : ℕ) (me : Bool) :
    ((run g p draw t).1.get me).length = (g.infos me).length :=
  stOK_length g _ (run_ok g hg p hp draw t) me

theorem run_step (t : ℕ) (me : Bool) (I : ℕ) (x'' : InfoSt ℝ)
    (hx'' : ((run g p draw (t + 1)).1.get me)[I]? = some x'') :
    ∃ x, ((run g p draw t).1.get me)[I]? = some x ∧
      x''.cumRegret = discountCumRegret p (t + 1)
        (vadd x.cumRegret (rvec g (run g p draw t).1.profile me I)) ∧
      x''.cumStrat = discountAverageStrat p (t + 1)
        (vadd x.cumStrat (svec g (run g p draw t).1.profile me I)) ∧
      x''.strat = regretMatch p.noPositive
        (vadd x.cumRegret (rvec g (run g p draw t).1.profile me I)) := by
  have hI : I < ((run g p draw t).1.get me).length := by
    rw [run_length g hg p hp draw t me, ← run_length g hg p hp draw (t + 1) me]
    exact (List.getElem?_eq_some_iff.mp hx'').1
  have hx := List.getElem?_eq_getElem hI
  obtain ⟨y, hy, e⟩ := cell_step g hg p draw (t + 1) (run g p draw t).1 (run g p draw t).2
    (run_ok g hg p hp draw t) me I _ hx
  obtain rfl : y = x'' := Option.some.inj (hy.symm.trans hx'')
  exact ⟨_, hx, e⟩

theorem run_orth : ∀ (t : ℕ) (me : Bool) (I : ℕ) (x : InfoSt ℝ),
      ((run g p draw t).1.get me)[I]? = some x → OrthOK x
  | 0, me, I, x, hx => by
    obtain ⟨n, rfl⟩ := init_get g me I x hx
    intro δ _
    exact dot_map_zero _ _ δ fun v hv => by rw [List.eq_of_mem_replicate hv, max_self]
  | t + 1, me, I, x'', hx'' => by
    obtain ⟨x, _, e1, _, e3⟩ := run_step g hg p hp draw t me I x'' hx''
    intro δ hδ
    rw [e1]
    rw [e3] at hδ
    exact orth_advance p (t + 1) (by omega) _ δ hδ

theorem Qof_get (me : Bool) (I t : ℕ) (hI : I < (g.infos me).length) :
    ∃ x, ((run g p draw t).1.get me)[I]? = some x ∧ Qof g p draw me I t = x.cumRegret ∧
      InfoOK (nActsOf g me I) x := by
  have hx := List.getElem?_eq_getElem (run_length g hg p hp draw t me ▸ hI)
  exact ⟨_, hx, crOf_get _ _ _ hx, (stOK_get g _ (run_ok g hg p hp draw t) me I _ hx).2⟩

theorem Qof_ge (me : Bool) (I t : ℕ) (hI : (g.infos me).length ≤ I) :
    Qof g p draw me I t = [] := by
  simp [Qof, crOf, List.getD_eq_getElem?_getD, run_length g hg p hp draw t me, hI]

theorem Qof_length (me : Bool) (I t : ℕ) :
    (Qof g p draw me I t).length = nActsOf g me I := by
  rcases lt_or_ge I (g.infos me).length with hI | hI
  · obtain ⟨x, _, hQ, hinfo⟩ := Qof_get g hg p hp draw me I t hI
    rw [hQ, hinfo.lenR]
  · rw [Qof_ge g hg p hp draw me I t hI, nActsOf_ge g me I hI]
    rfl

theorem Qof_zero (me : Bool) (I : ℕ) :
    Qof g p draw me I 0 = List.replicate (nActsOf g me I) 0 := by
  rcases lt_or_ge I (g.infos me).length with hI | hI
  · obtain ⟨x, hx, hQ, hinfo⟩ := Qof_get g hg p hp draw me I 0 hI
    obtain ⟨n, rfl⟩ := init_get g me I x hx
    rw [hQ, ← hinfo.lenR]
    simp [InfoSt.new]
  · rw [Qof_ge g hg p hp draw me I 0 hI, nActsOf_ge g me I hI]
    rfl

theorem Qof_step (me : Bool) (I t : ℕ) (ht : 1 ≤ t) :
    Qof g p draw me I t
      = discountCumRegret p t (vadd (Qof g p draw me I (t - 1)) (rof g p draw me I t)) := by
  obtain ⟨k, rfl⟩ : ∃ k, t = k + 1 := ⟨t - 1, by omega⟩
  rw [Nat.add_sub_cancel]
  rcases lt_or_ge I (g.infos me).length with hI | hI
  · obtain ⟨x'', hx'', hQ'', _⟩ := Qof_get g hg p hp draw me I (k + 1) hI
    obtain ⟨x, hx, e1, _⟩ := run_step g hg p hp draw k me I x'' hx''
    rw [hQ'', e1, Qof, crOf_get _ _ _ hx]
    rfl
  · rw [Qof_ge g hg p hp draw me I _ hI, Qof_ge g hg p hp draw me I _ hI]
    rfl

theorem cumStrat_closed : ∀ (t : ℕ) (me : Bool) (I : ℕ) (x : InfoSt ℝ),
      ((run g p draw t).1.get me)[I]? = some x → ∀ a, a < nActsOf g me I →
      x.cumStrat.getD a 0 * wgt p t
        = ((List.range t).map (fun k => wgt p k *
            stratAdd ((run g p draw k).1.profile me) I a
              (viewOf g (run g p draw k).1.profile me) 1)).sum
  | 0, me, I, x, hx, a, ha => by
    rw [init_cumStrat g me I x hx a, zero_mul]
    rfl
  | t + 1, me, I, x'', hx'', a, ha => by
    obtain ⟨x, hx, _, e2, _⟩ := run_step g hg p hp draw t me I x'' hx''
    obtain ⟨_, hinfo⟩ := stOK_get g _ (run_ok g hg p hp draw t) me I x hx
    have hsl : (svec g (run g p draw t).1.profile me I).length = nActsOf g me I := by
      rw [svec, List.length_map, List.length_range]
    have hvl : a < (vadd x.cumStrat (svec g (run g p draw t).1.profile me I)).length := by
      rw [vadd_length, hsl, hinfo.lenS, min_self]; exact ha
    rw [e2, discountAverageStrat_entry p hp, getD_map_lt _ _ a hvl,
      vadd_getD _ _ a (hinfo.lenS.symm ▸ ha) (hsl.symm ▸ ha), svec,
      SI.getD_range_map _ _ a ha, List.sum_range_succ,
      ← cumStrat_closed t me I x hx a ha, mul_assoc, ratio_wgt]
    ring

end

section
variable (lo hi : ℝ) (hpay : PayIn lo hi g.root) (draw : DrawFn ℝ)
include hpay

theorem rof_bnd (me : Bool) (I t : ℕ) : ∀ x ∈ rof g p draw me I t, |x| ≤ hi - lo := by
  intro v hv
  obtain ⟨a, ha, rfl⟩ := List.mem_map.mp hv
  have ha := List.mem_range.mp ha
  have hI : I < (g.infos me).length := by
    by_contra hc
    rw [nActsOf_ge g me I (not_lt.mp hc)] at ha
    exact absurd ha (Nat.not_lt_zero a)
  obtain ⟨x, hx, _, _⟩ := Qof_get g hg p hp draw me I (t - 1) hI
  have hs := run_ok g hg p hp draw (t - 1)
  have := (vanilla_traversal g hg lo hi hpay false draw (by intro h; cases h) 0
    (run g p draw (t - 1)).1 hs [] me I _ hx).2 a
  rwa [effSum_regret_eq g hg draw 0 _ [] hs me I _ hx a ha] at this

theorem rof_orth (me : Bool) (I t : ℕ) :
    dot ((Qof g p draw me I (t - 1)).map (fun x => max x 0)) (rof g p draw me I t) = 0 := by
  rcases lt_or_ge I (g.infos me).length with hI | hI
  · obtain ⟨x, hx, hQ, hinfo⟩ := Qof_get g hg p hp draw me I (t - 1) hI
    have hs := run_ok g hg p hp draw (t - 1)
    rw [hQ]
    apply run_orth g hg p hp draw (t - 1) me I _ hx
    -- the traversal's regret increments are orthogonal to the strategy it reads
    have hl : x.strat.length = (rof g p draw me I t).length := by rw [rof_length, hinfo.lenσ]
    rw [← sum_range_dot _ _ hl, ← hl]
    refine Eq.trans (Finset.sum_congr rfl ?_) (vanilla_traversal g hg lo hi hpay false draw
      (by intro h; cases h) 0 (run g p draw (t - 1)).1 hs [] me I _ hx).1
    intro a ha
    have ha' : a < nActsOf g me I := hinfo.lenσ ▸ Finset.mem_range.mp ha
    rw [effSum_regret_eq g hg draw 0 _ [] hs me I _ hx a ha', rof, rvec,
      SI.getD_range_map _ _ a ha']
  · rw [Qof_ge g hg p hp draw me I _ hI]
    rfl

end

end

def trace (g : Game ℝ) (hg : GameWF g) (p : RegretParams ℝ) (hp : 0 ≤ p.strat)
    (lo hi : ℝ) (hpay : PayIn lo hi g.root) (draw : DrawFn ℝ) (T : ℕ) (me : Bool) (I : ℕ) :
    RMTrace p (nActsOf g me I) (hi - lo) T where
  r := rof g p draw me I
  Q := Qof g p draw me I
  hr := rof_length g p draw me I
  hQ := Qof_length g hg p hp draw me I
  hQ0 := Qof_zero g hg p hp draw me I
  hstep := fun t ht _ => Qof_step g hg p hp draw me I t ht
  hbnd := fun t _ _ => rof_bnd g hg p hp lo hi hpay draw me I t
  horth := fun t _ _ => rof_orth g hg p hp lo hi hpay draw me I t

end
end Cfr.PG
