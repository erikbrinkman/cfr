import CfrVerif.Model.Scalar
import Mathlib.Analysis.SpecialFunctions.Pow.Real
import Mathlib.Analysis.SpecialFunctions.Log.Basic
/-!
# The model at `ℝ` : `exp`, `ln`, `ln_1p`, `powf` are the real functions
-/
namespace Cfr

noncomputable instance : Transc ℝ where
  exp := Real.exp
  log := Real.log
  log1p := fun x => Real.log (1 + x)
  pow := fun x y => x ^ y
  ln2 := Real.log 2

@[simp] theorem transc_exp (x : ℝ) : Transc.exp x = Real.exp x := rfl
@[simp] theorem transc_log (x : ℝ) : Transc.log x = Real.log x := rfl
@[simp] theorem transc_log1p (x : ℝ) : Transc.log1p x = Real.log (1 + x) := rfl
@[simp] theorem transc_pow (x y : ℝ) : Transc.pow x y = x ^ y := rfl
@[simp] theorem transc_ln2 : (Transc.ln2 : ℝ) = Real.log 2 := rfl

end Cfr
