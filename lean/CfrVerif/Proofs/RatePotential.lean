import CfrVerif.Proofs.ParamSemantics
import Mathlib.Algebra.BigOperators.Group.Finset.Basic
import Mathlib.Algebra.BigOperators.Ring.Finset
import Mathlib.Algebra.Order.BigOperators.Group.Finset
/-!
# The potential argument of regret matching (pure real analysis on lists)

`Phi R = Σ_a (max R_a 0)²`.  If `R' = R + δ` entrywise, the increment `δ` is orthogonal to the
strategy matched on `R` (`Σ_a σ_a δ_a = 0`, `σ = regretMatch (.fin 0) R`) and `|δ_a| ≤ D`, then
`Phi R' ≤ Phi R + n·D²` (`phi_step`).  Hence `max (max_a R_a) 0 ≤ √(Phi R)` stays below
`D·√(A·t)` after `t` steps (`bound_of_phi`).
-/
set_option linter.unusedSectionVars false
namespace Cfr
open Finset

noncomputable def Phi (l : List ℝ) : ℝ := ∑ a ∈ range l.length, (max (l.getD a 0) 0) ^ 2

theorem Phi_nonneg (l : List ℝ) : 0 ≤ Phi l :=
  Finset.sum_nonneg (fun _ _ => sq_nonneg _)

/-- the positive parts of `R` are orthogonal to any increment orthogonal to the matched strategy -/
theorem pos_orth (R : List ℝ) (δ : ℕ → ℝ)
    (horth : ∑ a ∈ range R.length, (regretMatch (.fin 0) R).getD a 0 * δ a = 0) :
    ∑ a ∈ range R.length, max (R.getD a 0) 0 * δ a = 0 := by
  by_cases h : ∃ x ∈ R, 0 < x
  · -- the matched strategy is the positive parts divided by their (positive) sum
    rw [regretMatch_positive _ R h] at horth
    have e : ∑ a ∈ range R.length, max (R.getD a 0) 0 * δ a
        = (R.map pos).sum * ∑ a ∈ range R.length,
            (R.map (fun r => pos r / (R.map pos).sum)).getD a 0 * δ a := by
      rw [Finset.mul_sum]
      refine Finset.sum_congr rfl fun a ha => ?_
      rw [getD_map_lt _ R a (Finset.mem_range.mp ha), ← mul_assoc,
        mul_div_cancel₀ _ (sum_map_pos_pos R h).ne']
      rfl
    rw [e, horth, mul_zero]
  · refine Finset.sum_eq_zero fun a ha => ?_
    have hm := getD_mem R a (Finset.mem_range.mp ha)
    rw [max_eq_right (not_lt.mp fun hc => h ⟨_, hm, hc⟩), zero_mul]

theorem phi_step (R R' : List ℝ) (δ : ℕ → ℝ) (D : ℝ) (hlen : R'.length = R.length)
    (hR' : ∀ a, a < R.length → R'.getD a 0 = R.getD a 0 + δ a)
    (horth : ∑ a ∈ range R.length, (regretMatch (.fin 0) R).getD a 0 * δ a = 0)
    (hbd : ∀ a, a < R.length → |δ a| ≤ D) :
    Phi R' ≤ Phi R + R.length * D ^ 2 := by
  have h1 : Phi R' ≤ ∑ a ∈ range R.length,
      ((max (R.getD a 0) 0) ^ 2 + 2 * (max (R.getD a 0) 0 * δ a) + D ^ 2) := by
    unfold Phi
    rw [hlen]
    refine Finset.sum_le_sum fun a ha => ?_
    have ha' := Finset.mem_range.mp ha
    rw [hR' a ha']
    refine (pos_step _ _).trans ?_
    rw [mul_assoc]
    exact add_le_add le_rfl (sq_le_sq' (abs_le.mp (hbd a ha')).1 (abs_le.mp (hbd a ha')).2)
  rw [Finset.sum_add_distrib, Finset.sum_add_distrib, ← Finset.mul_sum, pos_orth R δ horth,
    Finset.sum_const, Finset.card_range, nsmul_eq_mul, mul_zero, add_zero] at h1
  exact h1

theorem Phi_replicate_zero (n : ℕ) : Phi (List.replicate n (0 : ℝ)) = 0 := by
  refine Finset.sum_eq_zero fun a _ => ?_
  have : (List.replicate n (0 : ℝ)).getD a 0 = 0 := by
    rw [List.getD_eq_getElem?_getD, List.getElem?_replicate]
    split_ifs <;> rfl
  rw [this, max_self, zero_pow two_ne_zero]

theorem max_le_sqrt_phi (l : List ℝ) (m : ℝ) (hm : m ∈ l) : max m 0 ≤ Real.sqrt (Phi l) := by
  apply Real.le_sqrt_of_sq_le
  obtain ⟨a, ha, rfl⟩ := List.getElem_of_mem hm
  have := Finset.single_le_sum (f := fun a => (max (l.getD a 0) 0) ^ 2) (s := range l.length)
    (fun _ _ => sq_nonneg _) (Finset.mem_range.mpr ha)
  rwa [List.getD_eq_getElem?_getD, List.getElem?_eq_getElem ha] at this

/-- the bound an infoset reports is within the CFR rate once its potential is -/
theorem bound_of_phi (cr : List ℝ) (hne : cr ≠ []) (D : ℝ) (hD : 0 ≤ D) (A t : ℕ) (ht : 1 ≤ t)
    (h : Phi cr ≤ t * A * D ^ 2) :
    cumRegretBound t cr ≤ 2 * D * Real.sqrt A / Real.sqrt t := by
  obtain ⟨m, -, hm, e⟩ := cumRegretBound_closed t cr hne
  have h1 : max m 0 ≤ Real.sqrt (t * A * D ^ 2) :=
    le_trans (max_le_sqrt_phi cr m hm) (Real.sqrt_le_sqrt h)
  rw [Real.sqrt_mul (mul_nonneg t.cast_nonneg A.cast_nonneg), Real.sqrt_mul t.cast_nonneg,
    Real.sqrt_sq hD] at h1
  have ht' : (0 : ℝ) < t := Nat.cast_pos.mpr ht
  have hs : 0 < Real.sqrt t := Real.sqrt_pos.mpr ht'
  rw [e, div_le_div_iff₀ ht' hs]
  calc 2 * max m 0 * Real.sqrt t
      ≤ 2 * (Real.sqrt t * Real.sqrt A * D) * Real.sqrt t :=
        mul_le_mul_of_nonneg_right (mul_le_mul_of_nonneg_left h1 zero_le_two) hs.le
    _ = 2 * D * Real.sqrt A * (Real.sqrt t * Real.sqrt t) := by ring
    _ = 2 * D * Real.sqrt A * t := by rw [Real.mul_self_sqrt ht'.le]

end Cfr
