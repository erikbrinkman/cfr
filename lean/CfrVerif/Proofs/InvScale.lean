import CfrVerif.Proofs.InvCompileLemmas
import CfrVerif.Proofs.InvScaleLemmas
/-!
# C12, part 2: multiplying the payoffs by a positive constant
-/
set_option linter.unusedSectionVars false
namespace Cfr
variable {α : Type} [Field α] [LinearOrder α] [IsStrictOrderedRing α]

/-- payoffs do not influence construction (exact arithmetic: every payoff is finite) -/
theorem fromRoot_mapPay (f : α → α) (r : Raw α) :
    fromRoot (r.mapPay f) = (fromRoot r).map (Game.mapPay f) := by
  simp only [fromRoot, compile_mapPay]
  cases compile r {} {} <;> rfl

/-- the fall-back rule of regret matching is one of the three scale-free ones (uniform, best,
worst action): every preset and the default -/
def RegretParams.ScaleFree (p : RegretParams α) : Prop :=
  p.noPositive = .fin 0 ∨ p.noPositive = .posInf ∨ p.noPositive = .negInf

/-- **the unsampled solver is homogeneous**: same strategies, same number of iterations, bounds
multiplied by `c` (the early-termination threshold scaled along) -/
theorem solve_full_scale [Transc α] (c : α) (hc : 0 < c) (g : Game α) (p : RegretParams α)
    (hp : p.ScaleFree) (draw : DrawFn α) (T : Nat) (thr : Option (Ext α)) :
    solveVanillaSingle (g.mapPay (fun x => c * x)) false p draw T (thr.map (Ext.scale c))
      = (solveVanillaSingle g false p draw T thr).scale c :=
  solveWith_scale hc g _ _ (vanillaIter_scale hc g false p hp draw) T thr

/-- the same for the two sampled solvers under fixed draws -/
theorem solve_sampled_scale [Transc α] (c : α) (hc : 0 < c) (g : Game α) (p : RegretParams α)
    (hp : p.ScaleFree) (draw : DrawFn α) (T : Nat) (thr : Option (Ext α)) :
    solveVanillaSingle (g.mapPay (fun x => c * x)) true p draw T (thr.map (Ext.scale c))
      = (solveVanillaSingle g true p draw T thr).scale c ∧
    solveExternalSingle (g.mapPay (fun x => c * x)) p draw T (thr.map (Ext.scale c))
      = (solveExternalSingle g p draw T thr).scale c :=
  ⟨solveWith_scale hc g _ _ (vanillaIter_scale hc g true p hp draw) T thr,
   solveWith_scale hc g _ _ (externalIter_scale hc g p hp draw) T thr⟩

end Cfr
