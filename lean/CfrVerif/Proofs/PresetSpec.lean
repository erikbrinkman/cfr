import CfrVerif.Model.Params
import CfrVerif.Proofs.BestResponse
import CfrVerif.Proofs.RealInst
/-!
# Interface between the game-level and the scalar part of the discounted-preset analysis (C03)

`RMTrace p n D T` records what regret matching with the discount parameters `p` does at ONE
infoset with `n` actions during `T` iterations of the unsampled solver: the instantaneous
counterfactual regret vectors `r t` (`1 ≤ t ≤ T`), and the cumulative regrets `Q t` the solver
stores after iteration `t` (discounted).  `weightedRegret` is the `t^γ`-weighted sum of the
instantaneous regrets of one action, `weightTotal` the sum of the weights — the weights with which
iteration `t` enters the returned average strategy.
-/
set_option linter.unusedSectionVars false
namespace Cfr

/-- entrywise sum of two vectors -/
def vadd (x y : List ℝ) : List ℝ := List.zipWith (· + ·) x y

structure RMTrace (p : RegretParams ℝ) (n : Nat) (D : ℝ) (T : Nat) where
  /-- instantaneous regrets of iteration `t` -/
  r : Nat → List ℝ
  /-- stored (discounted) cumulative regrets after iteration `t`; `Q 0 = 0` -/
  Q : Nat → List ℝ
  hr : ∀ t, (r t).length = n
  hQ : ∀ t, (Q t).length = n
  hQ0 : Q 0 = List.replicate n 0
  /-- add the new regrets, then discount positive and negative entries (`discount_cum_regret`) -/
  hstep : ∀ t, 1 ≤ t → t ≤ T → Q t = discountCumRegret p t (vadd (Q (t - 1)) (r t))
  /-- every instantaneous regret is bounded by the payoff range -/
  hbnd : ∀ t, 1 ≤ t → t ≤ T → ∀ x ∈ r t, |x| ≤ D
  /-- the new regrets are orthogonal to the positive part of the stored regrets (the strategy of
  iteration `t` is proportional to it whenever it is non-zero) -/
  horth : ∀ t, 1 ≤ t → t ≤ T → dot ((Q (t - 1)).map (fun x => max x 0)) (r t) = 0

/-- `Σ_{t=1}^{T} t^γ · r_t(a)` -/
noncomputable def RMTrace.weightedRegret {p : RegretParams ℝ} {n : Nat} {D : ℝ} {T : Nat}
    (tr : RMTrace p n D T) (a : Nat) : ℝ :=
  ((List.range T).map (fun t => ((t + 1 : Nat) : ℝ) ^ p.strat * (tr.r (t + 1)).getD a 0)).sum

/-- `Σ_{t=1}^{T} t^γ` -/
noncomputable def weightTotal (γ : ℝ) (T : Nat) : ℝ :=
  ((List.range T).map (fun t => ((t + 1 : Nat) : ℝ) ^ γ)).sum

/-- the clamped maximum over the actions of the weighted regret of an infoset -/
noncomputable def RMTrace.clampedMax {p : RegretParams ℝ} {n : Nat} {D : ℝ} {T : Nat}
    (tr : RMTrace p n D T) : ℝ :=
  fmax (maxD 0 ((List.range n).map tr.weightedRegret)) 0

end Cfr
