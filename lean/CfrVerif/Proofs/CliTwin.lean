import CfrVerif.Proofs.CliLemmas
import CfrVerif.Proofs.InvCompile
import CfrVerif.Proofs.InvScale
import CfrVerif.Proofs.InvShiftSwap
/-!
# C16: a JSON and a Gambit encoding of the same game give the same solution

The two readers hand different trees to `from_root` for the same game: the Gambit reader names
chance infosets by number and player infosets by their resolved names, writes normalised
probabilities, and subtracts the constant-sum offset from every payoff; the JSON reader keeps the
file's own names, weights and payoffs.  `Twin` says exactly that about two trees: one is the other
renamed injectively, with payoffs shifted by `-sum`, and with chance weights rescaled.  For such
trees the program prints the same regrets, the same utility of player one and the same strategies
up to the renaming, with the deterministic method; player two's printed utility is `2 * sum` higher
on the Gambit side (a constant-sum file gives player two `2 * sum - u`, JSON can only say `-u`), so
the whole printed object agrees exactly when `sum = 0`.
-/
set_option linter.unusedSectionVars false
namespace Cfr

/-- `rg` (what the Gambit reader produces, offset `sum`) and `rj` (what the JSON reader produces)
describe the same game -/
def Twin (ρ : Renaming) (sum : ℝ) (rj rg : Raw ℝ) : Prop :=
  ρ.Injective ∧ Rescaled ((rj.rename ρ).mapPay (fun x => x + -sum)) rg


namespace Twn

theorem renameL_length (ρ : Renaming) : ∀ ks : List (Raw ℝ), (Raw.renameL ρ ks).length = ks.length
  | [] => rfl
  | k :: ks => by simp [Raw.renameL, renameL_length ρ ks]

mutual
theorem shape_rename (ρ : Renaming) : ∀ r : Raw ℝ, Raw.Shape r → Raw.Shape (r.rename ρ)
  | .term _, _ => by simp [Raw.rename, Raw.Shape]
  | .chance i ws ks, h => by
    simp only [Raw.rename, Raw.Shape] at h ⊢
    exact ⟨by rw [renameL_length]; exact h.1, shapeL_rename ρ ks h.2⟩
  | .player o i as ks, h => by
    simp only [Raw.rename, Raw.Shape] at h ⊢
    exact ⟨by rw [renameL_length, List.length_map]; exact h.1, shapeL_rename ρ ks h.2⟩
theorem shapeL_rename (ρ : Renaming) : ∀ ks : List (Raw ℝ), Raw.ShapeL ks → Raw.ShapeL (Raw.renameL ρ ks)
  | [], _ => by simp [Raw.renameL, Raw.ShapeL]
  | k :: ks, h => by
    simp only [Raw.renameL, Raw.ShapeL] at h ⊢
    exact ⟨shape_rename ρ k h.1, shapeL_rename ρ ks h.2⟩
end

/-- the game the Gambit-style tree compiles to -/
abbrev twinGame (ρ : Renaming) (sum : ℝ) (gj : Game ℝ) : Game ℝ :=
  (gj.rename ρ).mapPay (fun x => x + -sum)

theorem compile_twin (ρ : Renaming) (sum : ℝ) (rj rg : Raw ℝ) (ht : Twin ρ sum rj rg)
    (gj : Game ℝ) (hj : fromRoot rj = .ok gj) :
    fromRoot (rj.rename ρ) = .ok (gj.rename ρ) ∧ fromRoot rg = .ok (twinGame ρ sum gj) := by
  have h1 : fromRoot (rj.rename ρ) = .ok (gj.rename ρ) := by
    rw [rename_equivariant ρ ht.1 rj, hj]; rfl
  refine ⟨h1, ?_⟩
  rw [rescale_chance_weights _ _ ht.2, fromRoot_mapPay, h1]; rfl

theorem wf_rename (ρ : Renaming) (sum : ℝ) (rj rg : Raw ℝ) (ht : Twin ρ sum rj rg)
    (hs : Raw.Shape rj) (gj : Game ℝ) (hj : fromRoot rj = .ok gj) : GameWF (gj.rename ρ) :=
  compile_ok_wf (rj.rename ρ) (shape_rename ρ rj hs) _ (compile_twin ρ sum rj rg ht gj hj).1

theorem profileOK_rename (ρ : Renaming) (gj : Game ℝ) (σ : Profile ℝ) (h : ProfileOK gj σ) :
    ProfileOK (gj.rename ρ) σ := by
  intro me
  refine ⟨(h me).1, ?_⟩
  have := (h me).2
  cases me <;>
    simpa [FitsGame, Game.infos, Game.rename, PInfo.rename, List.map_map, Function.comp_def]
      using this

theorem eval_twin (ρ : Renaming) (sum : ℝ) (gj : Game ℝ) (hw : GameWF (gj.rename ρ))
    (σ : Profile ℝ) (hσ : ProfileOK gj σ) :
    (getInfo (twinGame ρ sum gj) σ).util + sum = (getInfo gj σ).util ∧
    (getInfo (twinGame ρ sum gj) σ).regretOne = (getInfo gj σ).regretOne ∧
    (getInfo (twinGame ρ sum gj) σ).regretTwo = (getInfo gj σ).regretTwo := by
  obtain ⟨a1, a2, a3⟩ := getInfo_shift (-sum) (gj.rename ρ) hw σ (profileOK_rename ρ gj σ hσ)
  obtain ⟨b1, b2, b3⟩ := getInfo_sameShape gj (gj.rename ρ) (sameShape_rename ρ gj) σ
  refine ⟨?_, ?_, ?_⟩
  · rw [a1, ← b1]; ring
  · rw [a2, ← b2]
  · rw [a3, ← b3]

def renNamed (ρ : Renaming) (o : Bool) (e : Nat × List (Nat × ℝ)) : Nat × List (Nat × ℝ) :=
  (ρ.info o e.1, e.2.map (fun a => (ρ.act a.1, a.2)))

theorem toList_rename (ρ : Renaming) (as : List Nat) (v : List ℝ) :
    (ActIter.data (as.map ρ.act) v).toList
      = (ActIter.data as v).toList.map (fun a => (ρ.act a.1, a.2)) := by
  simp only [ActIter.toList]
  rw [List.zip_map_left, List.filter_map]
  rfl

theorem asNamed_rename (ρ : Renaming) (o : Bool) (infos : List PInfo) (singles : List (Nat × Nat))
    (σ : Strat ℝ) :
    asNamed (infos.map (PInfo.rename ρ o)) (singles.map (fun e => (ρ.info o e.1, ρ.act e.2))) σ
      = (asNamed infos singles σ).map (renNamed ρ o) := by
  unfold asNamed
  rw [List.map_append, List.zip_map_left, List.map_map, List.map_map, List.map_map, List.map_map]
  congr 1
  · apply List.map_congr_left
    rintro ⟨i, v⟩ _
    simp only [Function.comp, Prod.map, id, PInfo.rename, renNamed, toList_rename]

theorem strategyOfNamed_rename (ρ : Renaming) (o : Bool) (hρ : Function.Injective (ρ.info o))
    (n s : Named ℝ) (h : strategyOfNamed n = some s) :
    strategyOfNamed (n.map (renNamed ρ o)) = some (s.map (renNamed ρ o)) := by
  unfold strategyOfNamed at h ⊢
  split_ifs at h with hd
  have hd' : hasDupNat (n.map (·.1)) = false := by simpa using hd
  have hn : ((n.map (renNamed ρ o)).map (·.1)).Nodup := by
    have := ((CliP.hasDupNat_eq_false _).mp hd').map hρ
    simpa [List.map_map, Function.comp_def, renNamed] using this
  rw [if_neg (by rw [(CliP.hasDupNat_eq_false _).mpr hn]; simp)]
  simp only [Option.some.injEq] at h
  subst h
  congr 1
  rw [List.map_map, List.map_map]
  apply List.map_congr_left
  rintro ⟨l, as⟩ _
  simp only [Function.comp, renNamed, List.filter_map]
  rfl

theorem assemble_twin (ρ : Renaming) (hρ : ρ.Injective) (sum : ℝ) (gj : Game ℝ)
    (ij ig : StrategiesInfo ℝ) (hu : ig.util + sum = ij.util) (e1 : ig.regretOne = ij.regretOne)
    (e2 : ig.regretTwo = ij.regretTwo) (one two : Strat ℝ) (oj og : CliOut ℝ)
    (h1 : assemble gj 0 ij one two = .ok oj)
    (h2 : assemble (twinGame ρ sum gj) sum ig one two = .ok og) :
    og.regret = oj.regret ∧ og.playerOneUtility = oj.playerOneUtility ∧
    og.playerTwoUtility = oj.playerTwoUtility + 2 * sum ∧
    og.playerOneRegret = oj.playerOneRegret ∧ og.playerTwoRegret = oj.playerTwoRegret ∧
    og.playerOneStrategy = oj.playerOneStrategy.map (renNamed ρ true) ∧
    og.playerTwoStrategy = oj.playerTwoStrategy.map (renNamed ρ false) := by
  obtain ⟨a1, a2, ha1, ha2, rfl⟩ := CliP.assemble_ok h1
  obtain ⟨b1, b2, hb1, hb2, rfl⟩ := CliP.assemble_ok h2
  have hb1' : strategyOfNamed (asNamed (gj.p1.map (PInfo.rename ρ true))
      (gj.s1.map (fun e => (ρ.info true e.1, ρ.act e.2))) one) = some b1 := hb1
  have hb2' : strategyOfNamed (asNamed (gj.p2.map (PInfo.rename ρ false))
      (gj.s2.map (fun e => (ρ.info false e.1, ρ.act e.2))) two) = some b2 := hb2
  rw [asNamed_rename, strategyOfNamed_rename ρ true (hρ.1 true) _ _ ha1] at hb1'
  rw [asNamed_rename, strategyOfNamed_rename ρ false (hρ.1 false) _ _ ha2] at hb2'
  simp only [Option.some.injEq] at hb1' hb2'
  refine ⟨?_, ?_, ?_, ?_, ?_, hb1'.symm, hb2'.symm⟩
  · simp only [StrategiesInfo.regret, e1, e2]
  · simp only [StrategiesInfo.playerUtility, if_true]
    rw [hu, add_zero]
  · simp only [StrategiesInfo.playerUtility, Bool.false_eq_true, if_false]
    rw [← hu]
    ring
  · simp only [StrategiesInfo.playerRegret, if_true, e1]
  · simp only [StrategiesInfo.playerRegret, Bool.false_eq_true, if_false, e2]

end Twn

/-- **same game, same solution** (deterministic method, one thread; other thread counts by C06):
if the JSON tree is accepted then so is the Gambit tree, the compiled games have the same decision
tables up to the renaming, the unsampled solver returns the same strategies, bounds and iteration
count on both, and every valid profile evaluates to the same regrets and to utilities that differ
by exactly the offset the program adds back -/
theorem json_gambit_same_solution (ρ : Renaming) (sum : ℝ) (rj rg : Raw ℝ) (ht : Twin ρ sum rj rg)
    (hs : Raw.Shape rj) (gj : Game ℝ) (hj : fromRoot rj = .ok gj) (p : RegretParams ℝ)
    (draw : DrawFn ℝ) (T : Nat) (thr : Option (Ext ℝ)) :
    ∃ gg, fromRoot rg = .ok gg ∧
      gg.p1 = gj.p1.map (PInfo.rename ρ true) ∧ gg.p2 = gj.p2.map (PInfo.rename ρ false) ∧
      solveVanillaSingle gg false p draw T thr = solveVanillaSingle gj false p draw T thr ∧
      ∀ σ : Profile ℝ, ProfileOK gj σ →
        (getInfo gg σ).util + sum = (getInfo gj σ).util ∧
        (getInfo gg σ).regretOne = (getInfo gj σ).regretOne ∧
        (getInfo gg σ).regretTwo = (getInfo gj σ).regretTwo := by
  obtain ⟨h1, h2⟩ := Twn.compile_twin ρ sum rj rg ht gj hj
  have hw := Twn.wf_rename ρ sum rj rg ht hs gj hj
  refine ⟨_, h2, rfl, rfl, ?_, fun σ hσ => Twn.eval_twin ρ sum gj hw σ hσ⟩
  rw [solve_full_shift (-sum) (gj.rename ρ) hw p draw T thr]
  exact (solve_sameShape gj (gj.rename ρ) (sameShape_rename ρ gj) p draw T thr false 0
    Sched.seq).1.symm

/-- the printed object is the same up to the renaming of the strategies' labels: same regrets,
same utility of player one (the Gambit run adds `sum` back, the JSON run adds `0`); player two's
utility is `2 * sum` higher on the Gambit side.

Player two's utilities agree only for `sum = 0` (`json_gambit_same_report`); `Twn.exNotSame` is an
instance with `sum = 1` where they differ. -/
theorem json_gambit_report_offset (ρ : Renaming) (sum : ℝ) (rj rg : Raw ℝ) (ht : Twin ρ sum rj rg)
    (hs : Raw.Shape rj) (gj gg : Game ℝ) (hj : fromRoot rj = .ok gj) (hg : fromRoot rg = .ok gg)
    (clip : ℝ) (one two : Strat ℝ)
    (hσ : ProfileOK gj (fun p => if p then one else two)) (oj og : CliOut ℝ)
    (h1 : report gj 0 clip one two = .ok oj) (h2 : report gg sum clip one two = .ok og) :
    og.regret = oj.regret ∧ og.playerOneUtility = oj.playerOneUtility ∧
    og.playerTwoUtility = oj.playerTwoUtility + 2 * sum ∧
    og.playerOneRegret = oj.playerOneRegret ∧
    og.playerTwoRegret = oj.playerTwoRegret ∧
    og.playerOneStrategy = oj.playerOneStrategy.map
      (fun e => (ρ.info true e.1, e.2.map (fun a => (ρ.act a.1, a.2)))) ∧
    og.playerTwoStrategy = oj.playerTwoStrategy.map
      (fun e => (ρ.info false e.1, e.2.map (fun a => (ρ.act a.1, a.2)))) := by
  have hgg : gg = Twn.twinGame ρ sum gj :=
    Except.ok.inj (hg.symm.trans (Twn.compile_twin ρ sum rj rg ht gj hj).2)
  subst hgg
  have hw := Twn.wf_rename ρ sum rj rg ht hs gj hj
  obtain ⟨u0, r0, s0⟩ := Twn.eval_twin ρ sum gj hw _ hσ
  obtain ⟨u1, r1, s1⟩ := Twn.eval_twin ρ sum gj hw
    (fun p => if p then truncate clip one else truncate clip two) fun me => by
      cases me
      exacts [CliP.truncate_fits clip (hσ false), CliP.truncate_fits clip (hσ true)]
  have hreg0 : (getInfo (Twn.twinGame ρ sum gj) (fun p => if p then one else two)).regret
      = (getInfo gj (fun p => if p then one else two)).regret := by
    simp only [StrategiesInfo.regret, r0, s0]
  have hreg1 : (getInfo (Twn.twinGame ρ sum gj)
        (fun p => if p then truncate clip one else truncate clip two)).regret
      = (getInfo gj (fun p => if p then truncate clip one else truncate clip two)).regret := by
    simp only [StrategiesInfo.regret, r1, s1]
  unfold report at h2
  dsimp only at h2
  rw [hreg0, hreg1] at h2
  -- so both runs test the same condition
  revert h1
  refine CliP.ite_elim (motive := fun r : Except CliError (CliOut ℝ) => r = .ok oj → _)
    (fun hc h1 => ?_) (fun hc h1 => ?_)
  · rw [if_pos hc] at h2
    exact Twn.assemble_twin ρ ht.1 sum gj _ _ u1 r1 s1 _ _ oj og h1 h2
  · rw [if_neg hc] at h2
    exact Twn.assemble_twin ρ ht.1 sum gj _ _ u0 r0 s0 _ _ oj og h1 h2

/-- hence, **for a zero-sum Gambit file** (`h0 : sum = 0`; without it the clause on player two's
utility fails), the printed object is the same up to the renaming of the strategies' labels: same
regrets, same utilities -/
theorem json_gambit_same_report (ρ : Renaming) (sum : ℝ) (rj rg : Raw ℝ) (ht : Twin ρ sum rj rg)
    (hs : Raw.Shape rj) (gj gg : Game ℝ) (hj : fromRoot rj = .ok gj) (hg : fromRoot rg = .ok gg)
    (clip : ℝ) (one two : Strat ℝ)
    (hσ : ProfileOK gj (fun p => if p then one else two)) (oj og : CliOut ℝ)
    (h1 : report gj 0 clip one two = .ok oj) (h2 : report gg sum clip one two = .ok og)
    (h0 : sum = 0) :
    og.regret = oj.regret ∧ og.playerOneUtility = oj.playerOneUtility ∧
    og.playerTwoUtility = oj.playerTwoUtility ∧ og.playerOneRegret = oj.playerOneRegret ∧
    og.playerTwoRegret = oj.playerTwoRegret ∧
    og.playerOneStrategy = oj.playerOneStrategy.map
      (fun e => (ρ.info true e.1, e.2.map (fun a => (ρ.act a.1, a.2)))) ∧
    og.playerTwoStrategy = oj.playerTwoStrategy.map
      (fun e => (ρ.info false e.1, e.2.map (fun a => (ρ.act a.1, a.2)))) := by
  obtain ⟨a, b, c, d⟩ :=
    json_gambit_report_offset ρ sum rj rg ht hs gj gg hj hg clip one two hσ oj og h1 h2
  refine ⟨a, b, ?_, d⟩
  rw [c, h0]; ring

namespace Twn

/-- JSON-style tree: chance weights `1 : 3`, its own infoset names, payoffs as written -/
noncomputable def exJ : Raw ℝ :=
  .chance (some 4) [1, 3]
    [.player true 5 [0, 1] [.term 2, .term 0],
     .player false 2 [0, 1] [.term 1, .term 3]]

/-- Gambit-style tree of the same game with offset `1`: normalised probabilities, other labels,
every payoff lowered by `1` -/
noncomputable def exG : Raw ℝ :=
  .chance (some 5) [1/4, 3/4]
    [.player true 7 [10, 11] [.term 1, .term (-1)],
     .player false 9 [10, 11] [.term 0, .term 2]]

def exR : Renaming := ⟨fun o n => if o then n + 2 else n + 7, fun a => a + 10, fun c => c + 1⟩

theorem exR_inj : exR.Injective := by
  refine ⟨fun o a b h => ?_, fun a b h => ?_, fun a b h => ?_⟩
  · cases o <;> simp only [exR] at h <;> simp at h <;> omega
  · simp only [exR] at h; omega
  · simp only [exR] at h; omega

theorem ex_twin : Twin exR 1 exJ exG := by
  refine ⟨exR_inj, ?_⟩
  simp only [exJ, exG, exR, Raw.rename, Raw.renameL, Raw.mapPay, Raw.mapPayL, Rescaled, RescaledL,
    Option.map, List.map]
  norm_num
  exact ⟨1/4, by norm_num, by norm_num⟩

noncomputable def exGJ : Game ℝ :=
  { chance := [[1/4, 3/4]], p1 := [⟨5, [0, 1], none⟩], p2 := [⟨2, [0, 1], none⟩], s1 := [], s2 := [],
    root := .chance 0 [.player true 0 [.term 2, .term 0], .player false 0 [.term 1, .term 3]] }

theorem exJ_ok : fromRoot exJ = .ok exGJ := by
  have e : ([0, 1] : List Nat).eraseDups = [0, 1] := by decide
  norm_num [fromRoot, exJ, exGJ, compile, compileOutcomes, compileActions, registerChance,
    registerPlayer, BState.infos, BState.singles, BState.setInfos, Prev.get, e]

theorem exJ_shape : Raw.Shape exJ := by simp [exJ, Raw.Shape, Raw.ShapeL]

theorem ex_profile : ProfileOK exGJ (fun p => if p then [[1, 0]] else [[1, 0]]) := by
  have h : IsStrat ([[1, 0]] : Strat ℝ) := by
    intro v hv
    rw [List.mem_singleton.1 hv]
    norm_num [IsDist]
  intro me
  cases me <;> exact ⟨h, rfl⟩

/-- all hypotheses of `json_gambit_report_offset` hold together for `exJ`, `exG`, offset `1`; and
on this instance player two's printed utilities differ (by `2`): the clause
`og.playerTwoUtility = oj.playerTwoUtility` of `json_gambit_same_report` is false for `sum ≠ 0` -/
theorem exNotSame : ∃ (gg : Game ℝ) (oj og : CliOut ℝ),
    Twin exR 1 exJ exG ∧ Raw.Shape exJ ∧ fromRoot exJ = .ok exGJ ∧ fromRoot exG = .ok gg ∧
    ProfileOK exGJ (fun p => if p then [[1, 0]] else [[1, 0]]) ∧
    report exGJ 0 0 [[1, 0]] [[1, 0]] = .ok oj ∧ report gg 1 0 [[1, 0]] [[1, 0]] = .ok og ∧
    og.playerTwoUtility = oj.playerTwoUtility + 2 ∧ og.playerTwoUtility ≠ oj.playerTwoUtility := by
  have hg2 := (compile_twin exR 1 exJ exG ex_twin exGJ exJ_ok).2
  have hw := wf_rename exR 1 exJ exG ex_twin exJ_shape exGJ exJ_ok
  have hwj : GameWF exGJ := compile_ok_wf exJ exJ_shape _ exJ_ok
  have hp := profileOK_rename exR exGJ _ ex_profile
  obtain ⟨oj, hoj⟩ : ∃ o, report exGJ 0 0 [[1, 0]] [[1, 0]] = .ok o :=
    CliP.report_succeeds hwj 0 0 (ex_profile true) (ex_profile false)
  obtain ⟨og, hog⟩ : ∃ o, report (twinGame exR 1 exGJ) 1 0 [[1, 0]] [[1, 0]] = .ok o :=
    CliP.report_succeeds (gameWF_mapPay _ _ hw) 1 0 (hp true) (hp false)
  have h := (json_gambit_report_offset exR 1 exJ exG ex_twin exJ_shape exGJ _ exJ_ok hg2 0 _ _
    ex_profile oj og hoj hog).2.2.1
  refine ⟨_, oj, og, ex_twin, exJ_shape, exJ_ok, hg2, ex_profile, hoj, hog, by rw [h]; ring, ?_⟩
  rw [h]
  intro hc
  linarith

example : ¬ ∀ (ρ : Renaming) (sum : ℝ) (rj rg : Raw ℝ), Twin ρ sum rj rg → Raw.Shape rj →
    ∀ (gj gg : Game ℝ), fromRoot rj = .ok gj → fromRoot rg = .ok gg →
    ∀ (clip : ℝ) (one two : Strat ℝ), ProfileOK gj (fun p => if p then one else two) →
    ∀ (oj og : CliOut ℝ), report gj 0 clip one two = .ok oj → report gg sum clip one two = .ok og →
    og.playerTwoUtility = oj.playerTwoUtility := by
  intro h
  obtain ⟨gg, oj, og, a, b, c, d, e, f, g, -, hne⟩ := exNotSame
  exact hne (h _ _ _ _ a b _ _ c d _ _ _ e _ _ f g)

end Twn

end Cfr
