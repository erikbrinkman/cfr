import CfrVerif.Proofs.WellFormed
/-!
# Reading a solver table by index; `advance` of a table with vanilla parameters
-/
namespace Cfr
noncomputable section

theorem strat_of_get {β : Type} (s : SolveSt β) (one : Bool) (i : ℕ) (x : InfoSt β)
    (h : (s.get one)[i]? = some x) : s.strat one i = x.strat := by
  simp only [SolveSt.strat, h]

theorem list_ext_getD {β : Type} [Zero β] (l l' : List β) (hlen : l'.length = l.length)
    (h : ∀ a, a < l.length → l'.getD a 0 = l.getD a 0) : l' = l := by
  apply List.ext_getElem hlen
  intro i h1 h2
  have := h i h2
  rw [List.getD_eq_getElem?_getD, List.getD_eq_getElem?_getD, List.getElem?_eq_getElem h1,
    List.getElem?_eq_getElem h2] at this
  simpa using this

theorem init_get (g : Game ℝ) (me : Bool) (I : ℕ) (x : InfoSt ℝ)
    (hx : ((SolveSt.init g).get me)[I]? = some x) : ∃ n, x = InfoSt.new n := by
  cases me <;>
    simp only [SolveSt.init, SolveSt.get, if_true, Bool.false_eq_true, if_false,
      List.getElem?_map] at hx <;>
    (obtain ⟨e, _, rfl⟩ := Option.map_eq_some_iff.mp hx
     exact ⟨_, rfl⟩)

theorem discountCumRegret_vanilla (it : ℕ) (R : List ℝ) :
    discountCumRegret RegretParams.vanilla it R = R := by
  simp only [discountCumRegret, RegretParams.vanilla, genDiscount, mul_one, ite_self]
  exact List.map_id R

theorem discountAverageStrat_vanilla (it : ℕ) (v : List ℝ) :
    discountAverageStrat RegretParams.vanilla it v = v := by
  simp [discountAverageStrat, RegretParams.vanilla]

/-- `advance` of one infoset with vanilla parameters: only the current strategy changes -/
def advV (x : InfoSt ℝ) : InfoSt ℝ := ⟨x.cumRegret, x.cumStrat, regretMatch (.fin 0) x.cumRegret⟩

theorem advance_vanilla (it itAvg : ℕ) (x : InfoSt ℝ) :
    x.advance RegretParams.vanilla it itAvg = (advV x, cumRegretBound it x.cumRegret) := by
  simp only [InfoSt.advance, discountCumRegret_vanilla, discountAverageStrat_vanilla]
  rfl

/-- the per-player bound: the per-infoset bounds summed over the table -/
def boundSum (it : ℕ) (xs : List (InfoSt ℝ)) : ℝ :=
  (xs.map (fun x => cumRegretBound it x.cumRegret)).sum

theorem advanceAll_vanilla (it itAvg : ℕ) (xs : List (InfoSt ℝ)) (acc : ℝ) :
    advanceAll RegretParams.vanilla it itAvg xs acc = (xs.map advV, acc + boundSum it xs) := by
  obtain ⟨h1, h2⟩ := advanceAll_spec RegretParams.vanilla it itAvg xs acc
  simp only [advance_vanilla] at h1 h2
  exact Prod.ext h1 h2

theorem boundSum_advV (it : ℕ) (xs : List (InfoSt ℝ)) :
    boundSum it (xs.map advV) = boundSum it xs := by
  simp [boundSum, List.map_map, Function.comp_def, advV]

theorem boundSum_nonneg (it : ℕ) (xs : List (InfoSt ℝ)) : 0 ≤ boundSum it xs := by
  unfold boundSum
  apply List.sum_nonneg
  intro v hv
  obtain ⟨x, _, rfl⟩ := List.mem_map.mp hv
  exact cumRegretBound_nonneg _ _

end
end Cfr
