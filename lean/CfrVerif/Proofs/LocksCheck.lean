import CfrVerif.Proofs.Locks
/-!
# The executable checker of the pool hypotheses is sound

`poolOKb` (Model/Locks.lean) is what the driver evaluates on the mutex traces *observed* in the
crate, one list per worker thread and pass.  It implies `Lk.PoolOK`, hence the conclusions of
`Proofs/Locks.lean` for every interleaving of the observed traces (`checked_traces_safe`).
-/
namespace Cfr
namespace Lk

theorem tryLocksOf_fun : tryLocksOf = tryLocks := by
  funext t
  induction t with
  | nil => rfl
  | cons e t ih => cases e <;> simp [tryLocksOf, ih]

theorem blockLocksOf_fun : blockLocksOf = blockLocks := by
  funext t
  induction t with
  | nil => rfl
  | cons e t ih => cases e <;> simp [blockLocksOf, ih]

theorem nodupb_iff (l : List LockId) : nodupb l = true ↔ l.Nodup := by
  induction l with
  | nil => simp [nodupb]
  | cons a l ih => simp [nodupb, ih, List.nodup_cons]

theorem leafCSb_iff (t : List LEv) : leafCSb t = true ↔ LeafCS t := by
  fun_induction leafCSb t with
  | case1 => simp
  | case2 l l' t ih => simp [ih]
  | case3 l t h =>
    constructor
    · intro h'; cases h'
    · intro h'
      obtain ⟨t', rfl, _⟩ := LeafCS_acq h'
      exact absurd rfl (h l t')
  | case4 e t h1 h2 ih =>
    cases e with
    | tryAcq l => simpa using ih
    | rel l => simpa using ih
    | acq l =>
      cases t with
      | nil => exact absurd rfl (h2 l)
      | cons e' t' =>
        cases e' with
        | rel l' => exact (h1 l l' t' rfl rfl).elim
        | tryAcq l' => exact absurd rfl (h2 l)
        | acq l' => exact absurd rfl (h2 l)

theorem relOKb_iff (t : List LEv) : relOKb t = true ↔ RelOK t := by
  induction t with
  | nil => simp [relOKb, RelOK]
  | cons e t ih => cases e <;> simp [relOKb, RelOK, ih]

theorem poolOKb_iff (ts : List (List LEv)) : poolOKb ts = true ↔ PoolOK ts := by
  simp only [poolOKb, tryLocksOf_fun, blockLocksOf_fun, Bool.and_eq_true, List.all_eq_true,
    nodupb_iff, leafCSb_iff, relOKb_iff, Bool.not_eq_true', List.contains_eq_mem,
    decide_eq_false_iff_not]
  constructor
  · rintro ⟨⟨⟨h1, h2⟩, h3⟩, h4⟩
    exact ⟨h1, h2, h3, fun t ht => (RelOK_iff t).mp (h4 t ht)⟩
  · intro h
    exact ⟨⟨⟨h.tryNodup, h.leaf⟩, h.disjoint⟩, fun t ht => (RelOK_iff t).mpr (h.released t ht)⟩

theorem poolOKb_sound (ts : List (List LEv)) (h : poolOKb ts = true) : PoolOK ts :=
  (poolOKb_iff ts).mp h

theorem poolOKb_complete (ts : List (List LEv)) (h : PoolOK ts) : poolOKb ts = true :=
  (poolOKb_iff ts).mpr h

end Lk

/-- **observed traces that pass the checker can neither panic on a `try_lock` nor deadlock**, under
any thread schedule; every schedule ends and leaves all mutexes free -/
theorem checked_traces_safe (ts : List (List LEv)) (h : poolOKb ts = true) {n : Nat} {cfg : LCfg}
    (hr : LReach (LCfg.init ts) n cfg) :
    (∀ j, lstep cfg j ≠ LOut.panic) ∧
    (cfg.finished = true ∨ ∃ j cfg', lstep cfg j = LOut.ok cfg') ∧
    n + cfg.remaining = (LCfg.init ts).remaining ∧
    (cfg.finished = true → cfg.held = []) :=
  ⟨Lk.no_panic (Lk.poolOKb_sound ts h) hr, Lk.no_deadlock (Lk.poolOKb_sound ts h) hr,
   Lk.steps_bounded ts hr, Lk.finished_all_free (Lk.poolOKb_sound ts h) hr⟩

/-- the pass context of `externalLockPasses` is the one `externalPass` uses -/
theorem externalPass_uses_externalCtx {α : Type} [Field α] [LinearOrder α] [IsStrictOrderedRing α]
    [Transc α] (g : Game α) (first : Bool) (p : RegretParams α) (draw : DrawFn α) (it : Nat)
    (s : SolveSt α) (log : List (DrawRec α)) :
    externalPass g first p draw it s log =
      (let c := externalCtx g first draw it s
       let r := erec c g.root { log := log }
       let s' := s.applyEffs r.2.1
       let a := advanceAll p it (if first then it - 1 else it) (s'.get first) 0
       (s'.set first a.1, a.2, r.2.2.log)) := by
  rfl

end Cfr
