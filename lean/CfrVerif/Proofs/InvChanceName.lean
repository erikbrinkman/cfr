import CfrVerif.Proofs.InvChanceNameLemmas
import CfrVerif.Proofs.CompileWF
/-!
# C12, part 4: a single-outcome chance node inserted WITH an infoset name

`Padded` (part 1) inserts single-outcome chance nodes without an infoset name: the compiled game
is then identical.  With a (fresh) name `from_root` registers the degenerate distribution `[1]`
under that name, which shifts the indices of the chance infosets registered afterwards: the
compiled games are not equal but *equal up to a renumbering of the chance infosets*
(`ChanceReindexed`), and neither evaluation nor the unsampled solver can tell the difference.
-/
set_option linter.unusedSectionVars false
namespace Cfr
variable {α : Type} [Field α] [LinearOrder α] [IsStrictOrderedRing α]

mutual
def Node.ReindexedBy (ι : Nat → Nat) : Node α → Node α → Prop
  | .term p, .term p' => p = p'
  | .chance i ks, .chance i' ks' => i' = ι i ∧ Node.ReindexedByL ι ks ks'
  | .player o i ks, .player o' i' ks' => o = o' ∧ i = i' ∧ Node.ReindexedByL ι ks ks'
  | _, _ => False
def Node.ReindexedByL (ι : Nat → Nat) : List (Node α) → List (Node α) → Prop
  | [], [] => True
  | k :: ks, k' :: ks' => Node.ReindexedBy ι k k' ∧ Node.ReindexedByL ι ks ks'
  | _, _ => False
end

/-- `g'` is `g` with renumbered chance infosets: same decision tables, the tree reindexed by `ι`,
and every chance infoset keeps its distribution under its new number -/
def Game.ChanceReindexed (g g' : Game α) : Prop :=
  ∃ ι : Nat → Nat, Node.ReindexedBy ι g.root g'.root ∧
    (∀ i, i < g.chance.length → g'.chance.getD (ι i) [] = g.chance.getD i []) ∧
    g'.p1 = g.p1 ∧ g'.p2 = g.p2

mutual
/-- `PaddedNamed fresh r r'` : `r'` is `r` with single-outcome chance nodes inserted anywhere, each
carrying an infoset name `l` with `fresh l = true` (and any positive weight) -/
inductive PaddedNamed (fresh : Nat → Bool) : Raw α → Raw α → Prop
  | term (p : α) : PaddedNamed fresh (.term p) (.term p)
  | chance (i : Option Nat) (ws : List α) (ks ks' : List (Raw α)) :
      PaddedNamedL fresh ks ks' → PaddedNamed fresh (.chance i ws ks) (.chance i ws ks')
  | player (o : Bool) (i : Nat) (as : List Nat) (ks ks' : List (Raw α)) :
      PaddedNamedL fresh ks ks' → PaddedNamed fresh (.player o i as ks) (.player o i as ks')
  | pad (r k' : Raw α) (l : Nat) (w : α) :
      fresh l = true → 0 < w → PaddedNamed fresh r k' → PaddedNamed fresh r (.chance (some l) [w] [k'])
inductive PaddedNamedL (fresh : Nat → Bool) : List (Raw α) → List (Raw α) → Prop
  | nil : PaddedNamedL fresh [] []
  | cons (k k' : Raw α) (ks ks' : List (Raw α)) :
      PaddedNamed fresh k k' → PaddedNamedL fresh ks ks' → PaddedNamedL fresh (k :: ks) (k' :: ks')
end

mutual
/-- no chance node of the tree uses a name reserved for padding -/
def Raw.AvoidsChanceName (fresh : Nat → Bool) : Raw α → Prop
  | .term _ => True
  | .chance i _ ks => (∀ l, i = some l → fresh l = false) ∧ Raw.AvoidsChanceNameL fresh ks
  | .player _ _ _ ks => Raw.AvoidsChanceNameL fresh ks
def Raw.AvoidsChanceNameL (fresh : Nat → Bool) : List (Raw α) → Prop
  | [] => True
  | k :: ks => Raw.AvoidsChanceName fresh k ∧ Raw.AvoidsChanceNameL fresh ks
end


namespace CN

mutual
theorem reindexedBy_iff (ι : Nat → Nat) :
    ∀ (n n' : Node α), Node.ReindexedBy ι n n' ↔ n' = reindex ι n
  | .term p, .term p' => by
    simp only [Node.ReindexedBy, reindex, Node.term.injEq]; exact eq_comm
  | .term _, .chance _ _ => by simp [Node.ReindexedBy, reindex]
  | .term _, .player _ _ _ => by simp [Node.ReindexedBy, reindex]
  | .chance _ _, .term _ => by simp [Node.ReindexedBy, reindex]
  | .chance _ _, .player _ _ _ => by simp [Node.ReindexedBy, reindex]
  | .player _ _ _, .term _ => by simp [Node.ReindexedBy, reindex]
  | .player _ _ _, .chance _ _ => by simp [Node.ReindexedBy, reindex]
  | .chance i ks, .chance i' ks' => by
    simp only [Node.ReindexedBy, reindex, Node.chance.injEq, reindexedByL_iff ι ks ks']
  | .player o i ks, .player o' i' ks' => by
    simp only [Node.ReindexedBy, reindex, Node.player.injEq, reindexedByL_iff ι ks ks']
    constructor
    · rintro ⟨rfl, rfl, rfl⟩; exact ⟨rfl, rfl, rfl⟩
    · rintro ⟨rfl, rfl, rfl⟩; exact ⟨rfl, rfl, rfl⟩
theorem reindexedByL_iff (ι : Nat → Nat) :
    ∀ (ks ks' : List (Node α)), Node.ReindexedByL ι ks ks' ↔ ks' = reindexL ι ks
  | [], [] => by simp [Node.ReindexedByL, reindexL]
  | [], _ :: _ => by simp [Node.ReindexedByL, reindexL]
  | _ :: _, [] => by simp [Node.ReindexedByL, reindexL]
  | k :: ks, k' :: ks' => by
    simp only [Node.ReindexedByL, reindexL, List.cons.injEq, reindexedBy_iff ι k k',
      reindexedByL_iff ι ks ks']
end

end CN

/-- **evaluation cannot tell renumbered chance infosets apart** -/
theorem getInfo_chanceReindexed (g g' : Game α) (h : g.ChanceReindexed g') (hn : NodeOK g g.root)
    (σ : Bool → Strat α) :
    (getInfo g σ).util = (getInfo g' σ).util ∧ (getInfo g σ).regretOne = (getInfo g' σ).regretOne ∧
    (getInfo g σ).regretTwo = (getInfo g' σ).regretTwo := by
  obtain ⟨ι, hr, hch, h1, h2⟩ := h
  have hr' := (CN.reindexedBy_iff ι _ _).mp hr
  have hlt := CN.chLt_of_nodeOK g g.root hn
  have hi : ∀ me, g'.infos me = g.infos me := fun me => by cases me <;> simp [Game.infos, h1, h2]
  have he : expected g'.chance σ g'.root = expected g.chance σ g.root := by
    rw [hr']; exact CN.expected_reindex g.chance g'.chance ι _ hch σ g.root hlt
  have hv : ∀ σo me, view g'.chance σo me g'.root = view g.chance σo me g.root := fun σo me => by
    rw [hr']; exact CN.view_reindex g.chance g'.chance ι _ hch σo me g.root hlt
  simp only [getInfo, optimalDeviations, he, hv, hi, and_self]

/-- **nor can the unsampled solver** (single-threaded; every thread count then by C06) -/
theorem solve_full_chanceReindexed [Transc α] (g g' : Game α) (h : g.ChanceReindexed g')
    (hn : NodeOK g g.root) (p : RegretParams α) (draw : DrawFn α) (T : Nat) (thr : Option (Ext α)) :
    solveVanillaSingle g false p draw T thr = solveVanillaSingle g' false p draw T thr := by
  obtain ⟨ι, hr, hch, h1, h2⟩ := h
  have hr' := (CN.reindexedBy_iff ι _ _).mp hr
  have hlt := CN.chLt_of_nodeOK g g.root hn
  have hi : SolveSt.init g' = SolveSt.init g := by simp only [SolveSt.init, h1, h2]
  have hv : vanillaIter g' false p draw = vanillaIter g false p draw := by
    funext it s log
    simp only [vanillaIter]
    rw [hr', CN.vrec_reindex g.chance g'.chance ι _ hch s.strat draw (it - 1) g.root 1 1 1 _ hlt]
  simp only [solveVanillaSingle, solveWith, hi, hv]


namespace CN

theorem compile_padNamed {fresh : Nat → Bool} {r r' : Raw α} (hp : PaddedNamed fresh r r') :
    r.AvoidsChanceName fresh → POK fresh r r' := by
  refine PaddedNamed.rec (motive_1 := fun r r' _ => r.AvoidsChanceName fresh → POK fresh r r')
    (motive_2 := fun ks ks' _ => Raw.AvoidsChanceNameL fresh ks → List.Forall₂ (POK fresh) ks ks')
    ?_ ?_ ?_ ?_ ?_ ?_ hp
  · intro p _ prev s s' hrel
    rw [compile_term, compile_term]
    exact res_same hrel (.term p) trivial
  · intro i ws ks ks' _ ih hav prev s s' hrel
    simp only [Raw.AvoidsChanceName] at hav
    rw [compile_chance, compile_chance]
    exact (compileOutcomes_sim And.left actRes_nil NodeRes.consAct (ih hav.2) ws prev s s' hrel).bind
      fun x y hxy => by
        obtain ⟨hps, ht, ⟨M, hM⟩, hns, hns'⟩ := hxy
        rw [← hps, hns']
        exact (registerChance_cn i hav.1 x.1 x.2.1 ht hns).mono fun u v huv => huv.trans hM
  · intro o i as ks ks' _ ih hav prev s s' hrel
    simp only [Raw.AvoidsChanceName] at hav
    cases ih hav with
    | nil => rw [compile_player_childless, compile_player_childless]; rfl
    | @cons k k' ks ks' hk hks =>
      match as with
      | [] => rw [compile_player_nil, compile_player_nil]; rfl
      | [a] =>
        rw [compile_single, compile_single]
        exact (registerSingle_cn o i a hrel).bind fun t t' ht =>
          (hk prev t t' ht.1).mono fun u v huv => huv.trans (M := []) (by rw [ht.2, List.append_nil])
      | a :: b :: as =>
        rw [compile_multi, compile_multi]
        exact (registerPlayer_cn o i (a :: b :: as) prev hrel).bind fun x y hxy => by
          rw [← hxy.1]
          exact (compileActions_sim And.left actRes_nil NodeRes.consAct (.cons hk hks) o x.1 0 prev x.2
              y.2 hxy.2.1).bind fun u v huv => by
            obtain ⟨hu, ⟨M, hM⟩, hn, hn'⟩ := huv
            exact ⟨hu, ⟨M, by rw [hM, hxy.2.2]⟩, hn, by show _ = Node.player _ _ _; rw [hn']⟩
  · intro r k' l w hl hw _ ih hav prev s s' hrel
    rw [compile_chance_single (some l) k' w hw]
    exact (ih hav prev s s' hrel).cases (fun _ => rfl) fun x y hxy => by
      obtain ⟨ht, ⟨M, hM⟩, hn, hn'⟩ := hxy
      obtain ⟨t'', M2, hreg, ht'', hM2⟩ := registerChance_padname l hl [w] y.1 ht
      show ExRel _ (.ok x) (registerChance (some l) [w] [y.1] y.2)
      rw [hreg]
      exact ⟨ht'', ⟨M ++ M2, by rw [hM2, hM, List.append_assoc]⟩, hn, by
        show y.1 = _; rw [hn', hM2, ht.lift M2 _ hn]⟩
  · intro _
    exact .nil
  · intro k k' ks ks' _ _ h1 h2 hav
    simp only [Raw.AvoidsChanceNameL] at hav
    exact .cons (h1 hav.1) (h2 hav.2)

end CN

/-- **padding with named single-outcome chance nodes** (names the tree does not use): the same
acceptance and errors; on success the compiled games are equal up to a renumbering of the chance
infosets -/
theorem named_chance_padding_transparent (fresh : Nat → Bool) (r r' : Raw α)
    (hp : PaddedNamed fresh r r') (hav : r.AvoidsChanceName fresh) (hs : Raw.Shape r) :
    match fromRoot r, fromRoot r' with
    | .ok g, .ok g' => g.ChanceReindexed g' ∧ g'.s1 = g.s1 ∧ g'.s2 = g.s2
    | .error e, .error e' => e = e'
    | _, _ => False := by
  have _ := hs
  have h0 : CN.Rel fresh ({} : BState α) ({} : BState α) :=
    ⟨rfl, fun e he => by simp at he, fun _ => rfl, fun _ => rfl⟩
  have h1 := CN.compile_padNamed hp hav {} {} {} h0
  unfold fromRoot
  cases ha : compile r {} ({} : BState α) <;> cases hb : compile r' {} ({} : BState α) <;>
    rw [ha, hb] at h1
  · exact h1
  · exact h1.elim
  · exact h1.elim
  · obtain ⟨ht, -, hn, hn'⟩ := h1
    refine ⟨⟨CN.nth (CN.keep fresh) _, (CN.reindexedBy_iff _ _ _).mpr hn', ?_,
      ht.infos true, ht.infos false⟩, ht.singles true, ht.singles false⟩
    intro i hi
    rw [List.length_map] at hi
    simp only [List.getD_eq_getElem?_getD, List.getElem?_map]
    rw [CN.nth_getElem? _ _ i (by rw [ht.len]; exact hi), ← ht.chance]

/-! ## non-vacuity -/

/-- two named chance infosets (`1` and `2`) below a decision of player one -/
def exCN : Raw ℚ :=
  .player true 5 [0, 1]
    [.chance (some 1) [1, 1] [.term 1, .term 2],
     .chance (some 2) [1, 3] [.term 0, .term 4]]

/-- chance names `≥ 90` are reserved for padding -/
def exFreshCN : Nat → Bool := fun l => decide (90 ≤ l)

/-- the first chance node below a single-outcome chance node named `90`: the name is registered
(after the infoset `1`, before the infoset `2`), which moves the infoset `2` from index `1` to `2` -/
def exCNpadded : Raw ℚ :=
  .player true 5 [0, 1]
    [.chance (some 90) [7] [.chance (some 1) [1, 1] [.term 1, .term 2]],
     .chance (some 2) [1, 3] [.term 0, .term 4]]

theorem exCN_padded : PaddedNamed exFreshCN exCN exCNpadded :=
  .player _ _ _ _ _ <|
    .cons _ _ _ _
      (.pad _ _ 90 7 rfl (by norm_num) <|
        .chance _ _ _ _ <| .cons _ _ _ _ (.term _) <| .cons _ _ _ _ (.term _) .nil) <|
    .cons _ _ _ _
      (.chance _ _ _ _ <| .cons _ _ _ _ (.term _) <| .cons _ _ _ _ (.term _) .nil)
      .nil

theorem exCN_avoids : exCN.AvoidsChanceName exFreshCN := by
  simp [exCN, exFreshCN, Raw.AvoidsChanceName, Raw.AvoidsChanceNameL]

theorem exCN_shape : Raw.Shape exCN := by
  simp [exCN, Raw.Shape, Raw.ShapeL]

example : (fromRoot exCN).toBool = true := by decide +kernel
example : (fromRoot exCNpadded).toBool = true := by decide +kernel

/-- the chance infoset index stored in the second child of the root -/
def exSecondIdx : Except GameError (Game ℚ) → Option Nat
  | .ok ⟨_, _, _, _, _, .player _ _ [_, .chance i _]⟩ => some i
  | _ => none

/-- the index of the second chance infoset shifts, and the chance table grows -/
example : exSecondIdx (fromRoot exCN) = some 1 ∧ exSecondIdx (fromRoot exCNpadded) = some 2 := by
  decide +kernel
example : (fromRoot exCN).toOption.map (·.chance.length) = some 2 ∧
    (fromRoot exCNpadded).toOption.map (·.chance.length) = some 3 := by
  decide +kernel

/-- the theorem applies to this pair -/
example :
    match fromRoot exCN, fromRoot exCNpadded with
    | .ok g, .ok g' => g.ChanceReindexed g' ∧ g'.s1 = g.s1 ∧ g'.s2 = g.s2
    | .error e, .error e' => e = e'
    | _, _ => False :=
  named_chance_padding_transparent exFreshCN exCN exCNpadded exCN_padded exCN_avoids exCN_shape

end Cfr
