import CfrVerif.Model.LocksVanilla
import CfrVerif.Proofs.Locks
/-!
# The mutexes of the multi-threaded full / chance-sampled solver (`src/solve/vanilla.rs`)

`Model/LocksVanilla.lean` has what a traversal does to the mutexes (`vtrace`).  Here:

* `vtrace_pairs`        : every trace is a sequence of `lock(); unlock()` pairs on one mutex each
                          (no `try_lock`, nothing held across another operation);
* `vanilla_tasks_poolOK`: hence the traces of *any* set of tasks (any split of the tree into
                          subtrees, any draw states) lie inside the hypotheses `Lk.PoolOK` of the
                          interleaving theorems;
* `vanilla_pool_never_deadlocks` : under every thread schedule no reachable configuration is a
                          deadlock or a panic, every schedule ends, all mutexes are free at the end;
* `vtrace_draws_eq_vrec`: the trace is that of the traversal the effect theorems are about: it
                          makes the same draws as `vrec`;
* `vtrace_acqCount`     : the mutex of a player infoset is taken exactly once per visited node of
                          that infoset (this is what the harness compares with the crate's log).
-/
set_option linter.unusedSectionVars false
namespace Cfr

/-- a sequence of leaf critical sections: `lock(l); unlock(l)` pairs -/
inductive LockPairs : List LEv → Prop where
  | nil : LockPairs []
  | cons (l : LockId) {t : List LEv} (h : LockPairs t) : LockPairs (.acq l :: .rel l :: t)

section
variable {α : Type} [Zero α] [One α] [Add α] [Sub α] [Mul α] [Div α] [Neg α]
  [LT α] [DecidableLT α] [BEq α] [NatCast α] [FloatLike α] [Transc α]

theorem LockPairs.append {s t : List LEv} (hs : LockPairs s) (ht : LockPairs t) : LockPairs (s ++ t) := by
  induction hs with
  | nil => exact ht
  | cons l _ ih => exact LockPairs.cons l ih

/-- leaf sections only: inside the hypotheses of the interleaving theorems -/
theorem LockPairs.ok {t : List LEv} (h : LockPairs t) :
    Lk.tryLocks t = [] ∧ Lk.LeafCS t ∧ Lk.RelOK t := by
  induction h with
  | nil => exact ⟨rfl, trivial, trivial⟩
  | cons l _ ih => exact ⟨ih.1, ⟨rfl, ih.2.1⟩, List.mem_cons_self, ih.2.2⟩

/-- the unsampled chance node visits its children as a player node does -/
theorem vtraceChance_eq (c : VCtx α) (ps : List α) (ks : List (Node α)) (d : DrawSt α) :
    vtraceChance c ps ks d = vtraceActs c ps ks d := by
  induction ks generalizing ps d with
  | nil => cases ps <;> rfl
  | cons k ks ih => cases ps with
    | nil => simp only [vtraceChance, vtraceActs]
    | cons p ps => simp only [vtraceChance, vtraceActs, ih]

theorem vvisitsChance_eq (c : VCtx α) (one : Bool) (i : Nat) (ps : List α) (ks : List (Node α))
    (d : DrawSt α) : vvisitsChance c one i ps ks d = vvisitsActs c one i ps ks d := by
  induction ks generalizing ps d with
  | nil => cases ps <;> rfl
  | cons k ks ih => cases ps with
    | nil => simp only [vvisitsChance, vvisitsActs]
    | cons p ps => simp only [vvisitsChance, vvisitsActs, ih]

mutual
theorem vtrace_pairs (c : VCtx α) (n : Node α) (d : DrawSt α) : LockPairs (vtrace c n d).1 := by
  cases n with
  | term _ => simp only [vtrace]; exact LockPairs.nil
  | chance i ks =>
    by_cases hs : c.sampled = true
    · simp only [vtrace, if_pos hs]
      exact LockPairs.cons _ (vtraceNth_pairs c ks _ _)
    · simp only [vtrace, if_neg hs, vtraceChance_eq]
      exact vtraceActs_pairs c _ ks d
  | player one i ks =>
    simp only [vtrace]
    exact LockPairs.cons _ (vtraceActs_pairs c _ ks d)
theorem vtraceNth_pairs (c : VCtx α) : ∀ (ks : List (Node α)) (k : Nat) (d : DrawSt α),
    LockPairs (vtraceNth c ks k d).1
  | [], _ => fun _ => LockPairs.nil
  | k :: _, 0 => vtrace_pairs c k
  | _ :: ks, n + 1 => vtraceNth_pairs c ks n
theorem vtraceActs_pairs (c : VCtx α) : ∀ (σ : List α) (ks : List (Node α)) (d : DrawSt α),
    LockPairs (vtraceActs c σ ks d).1
  | _ :: σ, k :: ks => fun d => by
    simp only [vtraceActs]
    exact (vtrace_pairs c k d).append (vtraceActs_pairs c σ ks _)
  | [], _ => fun _ => by simp only [vtraceActs]; exact LockPairs.nil
  | _ :: _, [] => fun _ => LockPairs.nil
end

theorem vtraceChance_pairs (c : VCtx α) : ∀ (ps : List α) (ks : List (Node α)) (d : DrawSt α),
    LockPairs (vtraceChance c ps ks d).1 :=
  fun ps ks d => vtraceChance_eq c ps ks d ▸ vtraceActs_pairs c ps ks d

theorem vanilla_tasks_poolOK (c : VCtx α) (tasks : List (Node α × DrawSt α)) :
    Lk.PoolOK (vTaskTraces c tasks) := by
  have hok : ∀ t ∈ vTaskTraces c tasks, Lk.tryLocks t = [] ∧ Lk.LeafCS t ∧ Lk.RelOK t := by
    intro t ht
    obtain ⟨x, _, rfl⟩ := List.mem_map.mp ht
    exact (vtrace_pairs c x.1 x.2).ok
  have htry : (vTaskTraces c tasks).flatMap Lk.tryLocks = [] :=
    List.flatMap_eq_nil_iff.mpr fun t ht => (hok t ht).1
  exact ⟨htry ▸ List.nodup_nil, fun t ht => (hok t ht).2.1, fun l hl => (nomatch htry ▸ hl),
    fun t ht => (Lk.RelOK_iff t).mp (hok t ht).2.2⟩

/-- **the multi-threaded full / chance-sampled solver can neither panic on a mutex nor deadlock**:
for every split of the work into tasks and every thread schedule, no reachable configuration
panics, a configuration that is not finished can move, the number of steps is bounded by the
number of events, and at the end every mutex is free -/
theorem vanilla_pool_never_deadlocks (c : VCtx α) (tasks : List (Node α × DrawSt α)) {n : Nat} {cfg : LCfg}
    (hr : LReach (LCfg.init (vTaskTraces c tasks)) n cfg) :
    (∀ j, lstep cfg j ≠ LOut.panic) ∧
    (cfg.finished = true ∨ ∃ j cfg', lstep cfg j = LOut.ok cfg') ∧
    n + cfg.remaining = (LCfg.init (vTaskTraces c tasks)).remaining ∧
    (cfg.finished = true → cfg.held = []) :=
  have h := vanilla_tasks_poolOK c tasks
  ⟨Lk.no_panic h hr, Lk.no_deadlock h hr, Lk.steps_bounded _ hr, Lk.finished_all_free h hr⟩

mutual
/-- the trace belongs to the traversal of `Model/Vanilla.lean`: same draws, same draw state -/
theorem vtrace_draws_eq_vrec (c : VCtx α) (n : Node α) (pc p1 p2 : α) (d : DrawSt α) :
    (vtrace c n d).2 = (vrec c n pc p1 p2 d).2.2 := by
  cases n with
  | term _ => simp only [vtrace, vrec]
  | chance i ks =>
    by_cases hs : c.sampled = true
    · simp only [vtrace, vrec, if_pos hs]
      exact vtraceNth_draws c ks _ pc p1 p2 _
    · simp only [vtrace, vrec, if_neg hs]
      exact vtraceChance_draws c _ ks pc p1 p2 d 0
  | player one i ks =>
    simp only [vtrace, vrec]
    exact vtraceActs_draws c one i _ _ ks pc p1 p2 d 0 0 0
theorem vtraceNth_draws (c : VCtx α) : ∀ (ks : List (Node α)) (k : Nat) (pc p1 p2 : α) (d : DrawSt α),
    (vtraceNth c ks k d).2 = (vrecNth c ks k pc p1 p2 d).2.2
  | [], _ => fun _ _ _ _ => rfl
  | k :: _, 0 => vtrace_draws_eq_vrec c k
  | _ :: ks, n + 1 => vtraceNth_draws c ks n
theorem vtraceChance_draws (c : VCtx α) : ∀ (ps : List α) (ks : List (Node α)) (pc p1 p2 : α)
    (d : DrawSt α) (acc : α),
    (vtraceChance c ps ks d).2 = (vrecChance c ps ks pc p1 p2 d acc).2.2
  | p :: ps, k :: ks => fun pc p1 p2 d acc => by
    simp only [vtraceChance, vrecChance]
    rw [vtrace_draws_eq_vrec c k (pc * p) p1 p2 d]
    exact vtraceChance_draws c ps ks pc p1 p2 _ _
  | [], _ => fun _ _ _ _ _ => by simp only [vtraceChance, vrecChance]
  | _ :: _, [] => fun _ _ _ _ _ => rfl
theorem vtraceActs_draws (c : VCtx α) (one : Bool) (i : Nat) (mult : α) : ∀ (σ : List α)
    (ks : List (Node α)) (pc p1 p2 : α) (d : DrawSt α) (a : Nat) (eo ex : α),
    (vtraceActs c σ ks d).2 = (vrecActs c one i mult σ ks pc p1 p2 d a eo ex).2.2.2
  | s :: σ, k :: ks => fun pc p1 p2 d a eo ex => by
    simp only [vtraceActs, vrecActs]
    -- the child is traversed with `p1 * s` or `p2 * s`, which the draws do not depend on
    rw [vtrace_draws_eq_vrec c k pc (if one then p1 * s else p1) (if one then p2 else p2 * s) d]
    cases one <;> exact vtraceActs_draws c _ i mult σ ks pc p1 p2 _ _ _ _
  | [], _ => fun _ _ _ _ _ _ _ => by simp only [vtraceActs, vrecActs]
  | _ :: _, [] => fun _ _ _ _ _ _ _ => rfl
end

theorem acqCount_append (l : LockId) (s t : List LEv) :
    acqCount l (s ++ t) = acqCount l s + acqCount l t := by
  induction s with
  | nil => exact (Nat.zero_add _).symm
  | cons e s ih => cases e <;> simp only [List.cons_append, acqCount, ih, Nat.add_assoc]

mutual
theorem vtrace_acq' (c : VCtx α) (one : Bool) (i : Nat) : ∀ (n : Node α) (d : DrawSt α),
    acqCount (.player one i) (vtrace c n d).1 = (vvisits c one i n d).1 ∧
    (vtrace c n d).2 = (vvisits c one i n d).2
  | .term _, d => by simp only [vtrace, vvisits, acqCount, and_self]
  | .chance j ks, d => by
    by_cases hs : c.sampled = true
    · simp only [vtrace, vvisits, if_pos hs, acqCount, reduceCtorEq, if_false, Nat.zero_add]
      exact vtraceNth_acq c one i ks _ _
    · simp only [vtrace, vvisits, if_neg hs, vtraceChance_eq, vvisitsChance_eq]
      exact vtraceActs_acq c one i _ ks d
  | .player o j ks, d => by
    obtain ⟨h1, h2⟩ := vtraceActs_acq c one i (c.strat o j) ks d
    simp only [vtrace, vvisits, acqCount, LockId.player.injEq, h1, h2, and_true]
    by_cases h : o = one ∧ j = i
    · rw [if_pos h, if_pos ⟨h.1.symm, h.2.symm⟩]
    · rw [if_neg h, if_neg (fun h' => h ⟨h'.1.symm, h'.2.symm⟩)]
theorem vtraceNth_acq (c : VCtx α) (one : Bool) (i : Nat) : ∀ (ks : List (Node α)) (k : Nat) (d : DrawSt α),
    acqCount (.player one i) (vtraceNth c ks k d).1 = (vvisitsNth c one i ks k d).1 ∧
    (vtraceNth c ks k d).2 = (vvisitsNth c one i ks k d).2
  | [], _ => fun _ => ⟨rfl, rfl⟩
  | k :: _, 0 => vtrace_acq' c one i k
  | _ :: ks, n + 1 => vtraceNth_acq c one i ks n
theorem vtraceActs_acq (c : VCtx α) (one : Bool) (i : Nat) : ∀ (σ : List α) (ks : List (Node α))
    (d : DrawSt α),
    acqCount (.player one i) (vtraceActs c σ ks d).1 = (vvisitsActs c one i σ ks d).1 ∧
    (vtraceActs c σ ks d).2 = (vvisitsActs c one i σ ks d).2
  | _ :: σ, k :: ks => fun d => by
    obtain ⟨h1, h2⟩ := vtrace_acq' c one i k d
    obtain ⟨h3, h4⟩ := vtraceActs_acq c one i σ ks (vtrace c k d).2
    simp only [vtraceActs, vvisitsActs, acqCount_append, h1, h3, h4, ← h2, and_self]
  | [], _ => fun _ => by simp only [vtraceActs, vvisitsActs, acqCount, and_self]
  | _ :: _, [] => fun _ => ⟨rfl, rfl⟩
end

theorem vtraceChance_acq (c : VCtx α) (one : Bool) (i : Nat) : ∀ (ps : List α) (ks : List (Node α))
    (d : DrawSt α),
    acqCount (.player one i) (vtraceChance c ps ks d).1 = (vvisitsChance c one i ps ks d).1 ∧
    (vtraceChance c ps ks d).2 = (vvisitsChance c one i ps ks d).2 :=
  fun ps ks d => vtraceChance_eq c ps ks d ▸ vvisitsChance_eq c one i ps ks d ▸
    vtraceActs_acq c one i ps ks d

/-- a player infoset's mutex is taken exactly once per visited node of the infoset -/
theorem vtrace_acqCount (c : VCtx α) (one : Bool) (i : Nat) (n : Node α) (d : DrawSt α) :
    acqCount (.player one i) (vtrace c n d).1 = (vvisits c one i n d).1 :=
  (vtrace_acq' c one i n d).1

end

/-! non-vacuity: a two-level tree, two tasks -/
example : vTaskTraces (α := Int) ⟨[], false, fun _ _ => [1, 1], fun _ _ _ _ => 0, 0⟩
    [(.player true 0 [.term 1, .player false 0 [.term 0, .term 2]], {}), (.player false 0 [.term 0, .term 2], {})]
    = [[.acq (.player true 0), .rel (.player true 0), .acq (.player false 0), .rel (.player false 0)],
       [.acq (.player false 0), .rel (.player false 0)]] := by
  decide

end Cfr
