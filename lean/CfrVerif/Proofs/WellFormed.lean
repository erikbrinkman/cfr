import CfrVerif.Proofs.ParamSemantics
import CfrVerif.Proofs.GameWF
import CfrVerif.Proofs.Effects
import CfrVerif.Proofs.Traversal
import CfrVerif.Proofs.NodeInd
import CfrVerif.Model.Vanilla
import CfrVerif.Model.External
import CfrVerif.Props.C09
import CfrVerif.Proofs.Dist
/-!
# The state invariant of a running solve (`StOK`, `TableOK`) and what preserves it

Used for C05 (well-formed results of the single-threaded solvers) and by the proofs that follow
the state of a solve through its iterations (`VanillaBound`, `RateSolve`, `PresetGameInv`,
`InvShiftSwap`, `LocksVanillaRun`, C08).

Everything is over `ℝ` (the `Transc ℝ` instance of `Proofs/RealInst.lean`).

* probability-vector facts for `regretMatch`, `avgStrat`, `oneHot`, uniform vectors;
* the state invariant `StOK g s` of a running solve, its preservation by `applyEffs` (for effects
  whose `.strat` deltas are non-negative) and by `advanceAll`;
* the `.strat` deltas of the vanilla and external-sampling traversals are non-negative, so one
  iteration of either solver preserves `StOK` and reports non-negative bounds.
-/
set_option linter.unusedSectionVars false
namespace Cfr

theorem isDist_replicate (n : ℕ) (hn : 1 ≤ n) : IsDist (List.replicate n (1 / (n : ℝ))) := by
  have hpos : (0 : ℝ) < n := Nat.cast_pos.mpr hn
  refine ⟨fun p hp => ?_, ?_⟩
  · rw [List.eq_of_mem_replicate hp]
    exact (one_div_pos.mpr hpos).le
  · rw [List.sum_replicate, nsmul_eq_mul, mul_one_div_cancel hpos.ne']

theorem isDist_oneHot (n k : ℕ) (hk : k < n) : IsDist (oneHot n k : List ℝ) := by
  refine ⟨fun p hp => ?_, ?_⟩
  · obtain ⟨i, _, rfl⟩ := List.mem_map.mp hp
    exact ite_nonneg zero_le_one le_rfl
  · rw [oneHot, List.sum_map_eq_nsmul_single k _ (fun i hi _ => if_neg (mt beq_iff_eq.mp hi)),
      List.count_range, if_pos hk, one_nsmul, if_pos (beq_self_eq_true k)]

theorem length_oneHot (n k : ℕ) : (oneHot n k : List ℝ).length = n := by
  rw [oneHot, List.length_map, List.length_range]

theorem isDist_map_div (v : List ℝ) (f : ℝ → ℝ) (hf : ∀ r ∈ v, 0 ≤ f r)
    (hS : 0 < (v.map f).sum) : IsDist (v.map (fun r => f r / (v.map f).sum)) := by
  refine ⟨fun p hp => ?_, ?_⟩
  · obtain ⟨r, hr, rfl⟩ := List.mem_map.mp hp
    exact div_nonneg (hf r hr) hS.le
  · simp only [div_eq_mul_inv]
    rw [sum_map_mul_right, mul_inv_cancel₀ hS.ne']

theorem regretMatch_isDist (np : Ext ℝ) (v : List ℝ) (hv : 1 ≤ v.length) :
    IsDist (regretMatch np v) ∧ (regretMatch np v).length = v.length := by
  have hne : v ≠ [] := List.ne_nil_of_length_pos hv
  by_cases h : ∃ x ∈ v, 0 < x
  · rw [regretMatch_positive np v h]
    exact ⟨isDist_map_div v pos (fun r _ => pos_nonneg r) (sum_map_pos_pos v h), List.length_map _⟩
  · have h0 : ∀ x ∈ v, x ≤ 0 := fun x hx => not_lt.mp fun hc => h ⟨x, hx, hc⟩
    cases np with
    | posInf =>
      obtain ⟨k, hk, -, he⟩ := regretMatch_best v hne h0
      exact he ▸ ⟨isDist_oneHot _ _ hk, length_oneHot _ _⟩
    | negInf =>
      obtain ⟨k, hk, -, he⟩ := regretMatch_worst v hne h0
      exact he ▸ ⟨isDist_oneHot _ _ hk, length_oneHot _ _⟩
    | fin w =>
      by_cases hw : w = 0
      · subst hw
        rw [regretMatch_uniform v h0]
        exact ⟨isDist_replicate _ hv, List.length_replicate⟩
      · rw [regretMatch_softmax w hw v h0]
        exact ⟨isDist_map_div v _ (fun r _ => (Real.exp_pos _).le)
          (sum_map_exp_pos v hne (fun s => w * s)), List.length_map _⟩

theorem length_discountCumRegret (p : RegretParams ℝ) (t : ℕ) (v : List ℝ) :
    (discountCumRegret p t v).length = v.length :=
  List.length_map _

theorem discountAverageStrat_ok (p : RegretParams ℝ) (hγ : 0 ≤ p.strat) (t : ℕ) (v : List ℝ)
    (hv : ∀ x ∈ v, 0 ≤ x) :
    (discountAverageStrat p t v).length = v.length ∧ ∀ x ∈ discountAverageStrat p t v, 0 ≤ x := by
  rw [discountAverageStrat_entry p hγ t v]
  refine ⟨List.length_map _, fun x hx => ?_⟩
  obtain ⟨r, hr, rfl⟩ := List.mem_map.mp hx
  exact mul_nonneg (hv r hr)
    (Real.rpow_nonneg (div_nonneg t.cast_nonneg (add_nonneg t.cast_nonneg zero_le_one)) _)

/-- every reported per-infoset bound is non-negative (also for `it = 0`, as `x / 0 = 0`) -/
theorem cumRegretBound_nonneg (it : ℕ) (v : List ℝ) : 0 ≤ cumRegretBound it v := by
  rw [cumRegretBound, fmax_eq_max]
  exact div_nonneg (mul_nonneg (add_nonneg zero_le_one zero_le_one) (le_max_right _ _))
    it.cast_nonneg

theorem avgStrat_isDist (cum : List ℝ) (hn : 1 ≤ cum.length) (h0 : ∀ x ∈ cum, 0 ≤ x) :
    IsDist (avgStrat cum) ∧ (avgStrat cum).length = cum.length := by
  simp only [avgStrat, lsum_eq_sum]
  by_cases h : cum.sum = 0
  · rw [if_pos (beq_iff_eq.mpr h)]
    exact ⟨isDist_replicate _ hn, List.length_replicate⟩
  · rw [if_neg (mt beq_iff_eq.mp h)]
    have hS : 0 < (cum.map id).sum := by
      rw [List.map_id]
      exact lt_of_le_of_ne (List.sum_nonneg h0) (Ne.symm h)
    have := isDist_map_div cum id h0 hS
    rw [List.map_id] at this
    exact ⟨this, List.length_map _⟩

/-- the invariant of one `RegretInfoset` of an infoset with `n` actions -/
structure InfoOK (n : ℕ) (x : InfoSt ℝ) : Prop where
  pos : 1 ≤ n
  lenR : x.cumRegret.length = n
  lenS : x.cumStrat.length = n
  lenσ : x.strat.length = n
  nonneg : ∀ v ∈ x.cumStrat, 0 ≤ v
  dist : IsDist x.strat

def TableOK : List PInfo → List (InfoSt ℝ) → Prop
  | [], [] => True
  | e :: es, x :: xs => InfoOK e.actions.length x ∧ TableOK es xs
  | [], _ :: _ => False
  | _ :: _, [] => False

/-- the invariant of a running solve -/
def StOK (g : Game ℝ) (s : SolveSt ℝ) : Prop := ∀ one, TableOK (g.infos one) (s.get one)

theorem infoOK_new (n : ℕ) (hn : 1 ≤ n) : InfoOK n (InfoSt.new n) :=
  ⟨hn, List.length_replicate, List.length_replicate, List.length_replicate,
    fun _ hv => (List.eq_of_mem_replicate hv).ge, isDist_replicate n hn⟩

theorem tableOK_iff (es : List PInfo) (xs : List (InfoSt ℝ)) :
    TableOK es xs ↔ List.Forall₂ (fun e x => InfoOK e.actions.length x) es xs := by
  induction es generalizing xs with
  | nil => cases xs <;> simp [TableOK]
  | cons e es ih =>
    cases xs with
    | nil => simp [TableOK]
    | cons x xs => rw [TableOK, ih, List.forall₂_cons]

theorem tableOK_length {es : List PInfo} {xs : List (InfoSt ℝ)} (h : TableOK es xs) :
    xs.length = es.length :=
  ((tableOK_iff es xs).mp h).length_eq.symm

theorem tableOK_get {es : List PInfo} {xs : List (InfoSt ℝ)} (h : TableOK es xs) :
    (∀ (i : ℕ) (e : PInfo), es[i]? = some e → ∃ x, xs[i]? = some x ∧ InfoOK e.actions.length x) ∧
    (∀ (i : ℕ) (x : InfoSt ℝ), xs[i]? = some x → ∃ e, es[i]? = some e ∧ InfoOK e.actions.length x) := by
  obtain ⟨hl, hget⟩ := List.forall₂_iff_get.mp ((tableOK_iff es xs).mp h)
  constructor
  · intro i e he
    obtain ⟨hi, rfl⟩ := List.getElem?_eq_some_iff.mp he
    exact ⟨_, List.getElem?_eq_getElem (hl ▸ hi), hget i hi (hl ▸ hi)⟩
  · intro i x hx
    obtain ⟨hi, rfl⟩ := List.getElem?_eq_some_iff.mp hx
    exact ⟨_, List.getElem?_eq_getElem (hl ▸ hi), hget i (hl ▸ hi) hi⟩

theorem stOK_length (g : Game ℝ) (s : SolveSt ℝ) (h : StOK g s) (me : Bool) :
    (s.get me).length = (g.infos me).length := tableOK_length (h me)

theorem tableOK_init (es : List PInfo) (h : ∀ e ∈ es, 1 ≤ e.actions.length) :
    TableOK es (es.map (fun i => InfoSt.new i.actions.length)) :=
  (tableOK_iff _ _).mpr <| List.forall₂_map_right_iff.mpr <|
    List.forall₂_same.mpr fun e he => infoOK_new _ (h e he)

theorem stOK_init (g : Game ℝ) (hg : GameWF g) : StOK g (SolveSt.init g) := by
  intro one
  have h : ∀ e ∈ g.infos one, 1 ≤ e.actions.length := fun e he =>
    le_trans (by norm_num) (hg.actsTwo one e he)
  cases one
  · exact tableOK_init g.p2 h
  · exact tableOK_init g.p1 h

theorem tableOK_modify (f : InfoSt ℝ → InfoSt ℝ) (hf : ∀ n x, InfoOK n x → InfoOK n (f x))
    {es : List PInfo} {xs : List (InfoSt ℝ)} (h : TableOK es xs) (i : ℕ) :
    TableOK es (xs.modify i f) := by
  rw [tableOK_iff] at h ⊢
  induction h generalizing i with
  | nil => rw [List.modify_nil]; exact .nil
  | cons h1 h2 ih =>
    cases i with
    | zero => exact .cons (hf _ _ h1) h2
    | succ i => exact .cons h1 (ih i)

theorem addAt_nonneg (l : List ℝ) (a : ℕ) (d : ℝ) (hd : 0 ≤ d) (hl : ∀ v ∈ l, 0 ≤ v) :
    ∀ v ∈ addAt l a d, 0 ≤ v := by
  intro v hv
  obtain ⟨i, hi⟩ := List.getElem?_of_mem hv
  rw [addAt, List.getElem?_modify] at hi
  cases hw : l[i]? with
  | none => rw [hw] at hi; cases hi
  | some w =>
    have hw0 : 0 ≤ w := hl w (List.mem_of_getElem? hw)
    rw [hw] at hi
    obtain rfl := Option.some.inj hi
    exact ite_nonneg (add_nonneg hw0 hd) hw0

theorem infoOK_apply (n : ℕ) (x : InfoSt ℝ) (slot : Slot) (a : ℕ) (d : ℝ)
    (hd : slot = .strat → 0 ≤ d) (h : InfoOK n x) : InfoOK n (x.apply slot a d) := by
  cases slot with
  | regret => exact ⟨h.pos, (addAt_length _ _ _).trans h.lenR, h.lenS, h.lenσ, h.nonneg, h.dist⟩
  | strat =>
    exact ⟨h.pos, h.lenR, (addAt_length _ _ _).trans h.lenS, h.lenσ,
      addAt_nonneg _ _ _ (hd rfl) h.nonneg, h.dist⟩

theorem stOK_mk (g : Game ℝ) (one two : List (InfoSt ℝ)) (h1 : TableOK g.p1 one)
    (h2 : TableOK g.p2 two) : StOK g ⟨one, two⟩ := fun b => by
  cases b
  · exact h2
  · exact h1

theorem stOK_set (g : Game ℝ) (s : SolveSt ℝ) (first : Bool) (xs : List (InfoSt ℝ))
    (h : StOK g s) (hx : TableOK (g.infos first) xs) : StOK g (s.set first xs) := by
  cases first
  · exact stOK_mk g _ _ (h true) hx
  · exact stOK_mk g _ _ hx (h false)

/-- the effects a traversal may produce: every `cum_strat` increment is non-negative -/
def EffsOK (es : List (Eff ℝ)) : Prop := ∀ e ∈ es, e.slot = .strat → 0 ≤ e.delta

theorem EffsOK.nil : EffsOK [] := fun _ h => absurd h List.not_mem_nil

theorem EffsOK.append {a b : List (Eff ℝ)} (ha : EffsOK a) (hb : EffsOK b) : EffsOK (a ++ b) :=
  List.forall_mem_append.mpr ⟨ha, hb⟩

theorem EffsOK.cons_regret {b : List (Eff ℝ)} (one : Bool) (i a : ℕ) (d : ℝ) (hb : EffsOK b) :
    EffsOK (⟨one, i, .regret, a, d⟩ :: b) :=
  List.forall_mem_cons.mpr ⟨nofun, hb⟩

structure EffClosed (P : List (Eff ℝ) → Prop) : Prop where
  nil : P []
  append : ∀ {a b}, P a → P b → P (a ++ b)
  cons_regret : ∀ {b} (one : Bool) (i a : ℕ) (d : ℝ), P b → P (⟨one, i, .regret, a, d⟩ :: b)

theorem EffsOK.closed : EffClosed EffsOK := ⟨.nil, .append, .cons_regret⟩

theorem EffClosed.of_subEffs {P : List (Eff ℝ) → Prop} (hP : EffClosed P) (one : Bool) (i : ℕ)
    (sub : ℝ) (n : ℕ) : P (subEffs one i sub n) := by
  unfold subEffs
  induction List.range n with
  | nil => exact hP.nil
  | cons a l ih => exact hP.cons_regret one i a _ ih

theorem stOK_applyEffs (g : Game ℝ) (es : List (Eff ℝ)) (s : SolveSt ℝ) (he : EffsOK es)
    (h : StOK g s) : StOK g (s.applyEffs es) := by
  induction es generalizing s with
  | nil => exact h
  | cons e es ih =>
    rw [EffsOK, List.forall_mem_cons] at he
    exact ih _ he.2 <| stOK_set g s e.one _ h <|
      tableOK_modify _ (fun n x => infoOK_apply n x _ _ _ he.1) (h e.one) e.info

theorem infoOK_advance (p : RegretParams ℝ) (hγ : 0 ≤ p.strat) (it itAvg n : ℕ) (x : InfoSt ℝ)
    (h : InfoOK n x) :
    InfoOK n (x.advance p it itAvg).1 ∧ 0 ≤ (x.advance p it itAvg).2 := by
  obtain ⟨hd, hl⟩ := regretMatch_isDist p.noPositive x.cumRegret (h.lenR ▸ h.pos)
  obtain ⟨hl2, hn2⟩ := discountAverageStrat_ok p hγ itAvg x.cumStrat h.nonneg
  exact ⟨⟨h.pos, (length_discountCumRegret _ _ _).trans h.lenR, hl2.trans h.lenS, hl.trans h.lenR,
    hn2, hd⟩, cumRegretBound_nonneg _ _⟩

theorem tableOK_advanceAll (p : RegretParams ℝ) (hγ : 0 ≤ p.strat) (it itAvg : ℕ)
    {es : List PInfo} {xs : List (InfoSt ℝ)} (h : TableOK es xs) (acc : ℝ) (hacc : 0 ≤ acc) :
    TableOK es (advanceAll p it itAvg xs acc).1 ∧ 0 ≤ (advanceAll p it itAvg xs acc).2 := by
  rw [tableOK_iff] at h
  induction h generalizing acc with
  | nil => exact ⟨trivial, hacc⟩
  | @cons e x es xs h1 _ ih =>
    obtain ⟨h2, h3⟩ := infoOK_advance p hγ it itAvg _ x h1
    obtain ⟨h4, h5⟩ := ih (acc + (x.advance p it itAvg).2) (add_nonneg hacc h3)
    exact ⟨⟨h2, h4⟩, h5⟩

theorem tableOK_map (f : InfoSt ℝ → List ℝ)
    (hf : ∀ n x, InfoOK n x → IsDist (f x) ∧ (f x).length = n)
    {es : List PInfo} {xs : List (InfoSt ℝ)} (h : TableOK es xs) :
    IsStrat (xs.map f) ∧ (xs.map f).map List.length = es.map (fun i => i.actions.length) := by
  rw [tableOK_iff] at h
  induction h with
  | nil => exact ⟨fun _ hv => absurd hv List.not_mem_nil, rfl⟩
  | @cons e x es xs h1 _ ih =>
    obtain ⟨h3, h4⟩ := hf _ x h1
    exact ⟨List.forall_mem_cons.mpr ⟨h3, ih.1⟩, congrArg₂ List.cons h4 ih.2⟩

theorem tableOK_avg {es : List PInfo} {xs : List (InfoSt ℝ)} (h : TableOK es xs) :
    IsStrat (xs.map (fun x => avgStrat x.cumStrat)) ∧
      (xs.map (fun x => avgStrat x.cumStrat)).map List.length = es.map (fun i => i.actions.length) :=
  tableOK_map _ (fun _ x h1 =>
    (avgStrat_isDist x.cumStrat (h1.lenS ▸ h1.pos) h1.nonneg).imp_right (·.trans h1.lenS)) h

theorem tableOK_profile {es : List PInfo} {xs : List (InfoSt ℝ)} (h : TableOK es xs) :
    IsStrat (xs.map (fun x => x.strat)) ∧
      (xs.map (fun x => x.strat)).map List.length = es.map (fun i => i.actions.length) :=
  tableOK_map _ (fun _ _ h1 => ⟨h1.dist, h1.lenσ⟩) h

theorem stOK_avg (g : Game ℝ) (s : SolveSt ℝ) (h : StOK g s) (one : Bool) :
    IsStrat (s.avg one) ∧ FitsGame g one (s.avg one) :=
  tableOK_avg (h one)

theorem tableOK_mem {es : List PInfo} {xs : List (InfoSt ℝ)} (h : TableOK es xs) {x : InfoSt ℝ}
    (hx : x ∈ xs) : ∃ n, InfoOK n x := by
  rw [tableOK_iff] at h
  induction h with
  | nil => exact absurd hx List.not_mem_nil
  | cons h1 _ ih =>
    rcases List.mem_cons.mp hx with rfl | hx
    · exact ⟨_, h1⟩
    · exact ih hx

theorem stOK_strat_nonneg (g : Game ℝ) (s : SolveSt ℝ) (h : StOK g s) (one : Bool) (i : ℕ) :
    ∀ v ∈ s.strat one i, 0 ≤ v := by
  rw [SolveSt.strat]
  cases hx : (s.get one)[i]? with
  | none => exact fun _ hv => absurd hv List.not_mem_nil
  | some x =>
    obtain ⟨n, hn⟩ := tableOK_mem (h one) (List.mem_of_getElem? hx)
    exact hn.dist.1

theorem stratEffs_ok (one : Bool) (i : ℕ) (own : ℝ) (hown : 0 ≤ own) (σ : List ℝ) (a : ℕ)
    (h : ∀ v ∈ σ, 0 ≤ v) : EffsOK (stratEffs one i own σ a) := by
  induction σ generalizing a with
  | nil => exact EffsOK.nil
  | cons s σ ih =>
    rw [List.forall_mem_cons] at h
    exact List.forall_mem_cons.mpr ⟨fun _ => mul_nonneg hown h.1, ih (a + 1) h.2⟩

/-! The child loops only collect what the traversal of each child produces (and `.regret`
effects). -/

section
variable (c : VCtx ℝ) {ks : List (Node ℝ)}
  (h : ∀ k ∈ ks, ∀ pc p1 p2 d, 0 ≤ p1 → 0 ≤ p2 → EffsOK (vrec c k pc p1 p2 d).2.1)
include h

theorem vrecNth_effsOK_of : ∀ k pc p1 p2 d, 0 ≤ p1 → 0 ≤ p2 →
    EffsOK (vrecNth c ks k pc p1 p2 d).2.1 := by
  induction ks with
  | nil => exact fun _ _ _ _ _ _ _ => EffsOK.nil
  | cons n ks ih =>
    rw [List.forall_mem_cons] at h
    intro k
    cases k with
    | zero => exact h.1
    | succ k => exact ih h.2 k

theorem vrecChance_effsOK_of : ∀ ps pc p1 p2 d acc, 0 ≤ p1 → 0 ≤ p2 →
    EffsOK (vrecChance c ps ks pc p1 p2 d acc).2.1 := by
  induction ks with
  | nil => intro ps pc p1 p2 d acc _ _; rw [vrecChance_nil_right]; exact EffsOK.nil
  | cons n ks ih =>
    rw [List.forall_mem_cons] at h
    intro ps pc p1 p2 d acc h1 h2
    cases ps with
    | nil => exact EffsOK.nil
    | cons p ps =>
      rw [vrecChance_cons]
      exact (h.1 _ _ _ _ h1 h2).append (ih h.2 _ _ _ _ _ _ h1 h2)

theorem vrecActs_effsOK_of (one : Bool) (i : ℕ) (mult : ℝ) : ∀ σ, (∀ v ∈ σ, 0 ≤ v) →
    ∀ pc p1 p2 d a eo ex, 0 ≤ p1 → 0 ≤ p2 →
    EffsOK (vrecActs c one i mult σ ks pc p1 p2 d a eo ex).2.2.1 := by
  induction ks with
  | nil => intro σ _ pc p1 p2 d a eo ex _ _; rw [vrecActs_nil_right]; exact EffsOK.nil
  | cons n ks ih =>
    rw [List.forall_mem_cons] at h
    intro σ hσ pc p1 p2 d a eo ex h1 h2
    cases σ with
    | nil => exact EffsOK.nil
    | cons s σ =>
      rw [List.forall_mem_cons] at hσ
      rw [vrecActs_cons']
      exact (h.1 _ _ _ _ (ite_nonneg (mul_nonneg h1 hσ.1) h1)
        (ite_nonneg h2 (mul_nonneg h2 hσ.1))).append
        (.cons_regret _ _ _ _ (ih h.2 σ hσ.2 _ _ _ _ _ _ _ h1 h2))

end

theorem vrec_effsOK (c : VCtx ℝ) (hc : ∀ one i, ∀ v ∈ c.strat one i, 0 ≤ v) :
    ∀ (n : Node ℝ) (pc p1 p2 : ℝ) (d : DrawSt ℝ), 0 ≤ p1 → 0 ≤ p2 →
      EffsOK (vrec c n pc p1 p2 d).2.1 := by
  intro n
  induction n using Node.induct with
  | term p => exact fun _ _ _ _ _ _ => EffsOK.nil
  | chance i ks ih =>
    intro pc p1 p2 d h1 h2
    cases hs : c.sampled
    · rw [vrec_chance c hs]
      exact vrecChance_effsOK_of c ih _ _ _ _ _ _ h1 h2
    · rw [vrec_chance_s c hs]
      exact vrecNth_effsOK_of c ih _ _ _ _ _ h1 h2
  | player one i ks ih =>
    intro pc p1 p2 d h1 h2
    rw [vrec_player]
    exact ((stratEffs_ok one i _ (ite_nonneg h1 h2) _ 0 (hc one i)).append
      (vrecActs_effsOK_of c ih one i _ _ (hc one i) _ _ _ _ _ _ _ h1 h2)).append
      (EffsOK.closed.of_subEffs one i _ _)

theorem vrecNth_effsOK (c : VCtx ℝ) (hc : ∀ one i, ∀ v ∈ c.strat one i, 0 ≤ v) :
    ∀ (ks : List (Node ℝ)) (k : ℕ) (pc p1 p2 : ℝ) (d : DrawSt ℝ), 0 ≤ p1 → 0 ≤ p2 →
      EffsOK (vrecNth c ks k pc p1 p2 d).2.1 :=
  fun _ => vrecNth_effsOK_of c fun k _ => vrec_effsOK c hc k

theorem vrecChance_effsOK (c : VCtx ℝ) (hc : ∀ one i, ∀ v ∈ c.strat one i, 0 ≤ v) :
    ∀ (ps : List ℝ) (ks : List (Node ℝ)) (pc p1 p2 : ℝ) (d : DrawSt ℝ) (acc : ℝ), 0 ≤ p1 → 0 ≤ p2 →
      EffsOK (vrecChance c ps ks pc p1 p2 d acc).2.1 :=
  fun ps _ => vrecChance_effsOK_of c (fun k _ => vrec_effsOK c hc k) ps

theorem vrecActs_effsOK (c : VCtx ℝ) (hc : ∀ one i, ∀ v ∈ c.strat one i, 0 ≤ v)
    (one : Bool) (i : ℕ) (mult : ℝ) :
    ∀ (σ : List ℝ), (∀ v ∈ σ, 0 ≤ v) → ∀ (ks : List (Node ℝ)) (pc p1 p2 : ℝ) (d : DrawSt ℝ)
      (a : ℕ) (eo ex : ℝ), 0 ≤ p1 → 0 ≤ p2 →
      EffsOK (vrecActs c one i mult σ ks pc p1 p2 d a eo ex).2.2.1 :=
  fun σ hσ _ => vrecActs_effsOK_of c (fun k _ => vrec_effsOK c hc k) one i mult σ hσ

/-! A pass of external sampling collects the strategy additions at the other player's nodes and
accumulations into regret cells: a property of effect lists that holds of the former and that `[]`,
`++` and the latter preserve holds of all effects of the pass. -/

section
variable {P : List (Eff ℝ) → Prop} (hP : EffClosed P) (c : ECtx ℝ)
include hP

theorem EffClosed.of_erecNth {ks : List (Node ℝ)} (h : ∀ k ∈ ks, ∀ d, P (erec c k d).2.1) :
    ∀ k d, P (erecNth c ks k d).2.1 := by
  induction ks with
  | nil => exact fun _ _ => hP.nil
  | cons n ks ih =>
    rw [List.forall_mem_cons] at h
    intro k
    cases k with
    | zero => exact h.1
    | succ k => exact ih h.2 k

theorem EffClosed.of_erecActs {ks : List (Node ℝ)} (h : ∀ k ∈ ks, ∀ d, P (erec c k d).2.1)
    (one : Bool) (i : ℕ) : ∀ σ d a ex, P (erecActs c one i σ ks d a ex).2.1 := by
  induction ks with
  | nil => intro σ d a ex; rw [erecActs_nil_right]; exact hP.nil
  | cons n ks ih =>
    rw [List.forall_mem_cons] at h
    intro σ d a ex
    cases σ with
    | nil => exact hP.nil
    | cons s σ =>
      rw [erecActs_cons_eq]
      exact hP.append (h.1 _) (hP.cons_regret _ _ _ _ (ih h.2 _ _ _ _))

theorem EffClosed.of_erec (hs : ∀ one i, one ≠ c.first → P (stratEffs one i 1 (c.strat one i) 0)) :
    ∀ (n : Node ℝ) (d : DrawSt ℝ), P (erec c n d).2.1 := by
  intro n
  induction n using Node.induct with
  | term p => exact fun _ => hP.nil
  | chance i ks ih =>
    intro d
    rw [erec_chance_eq]
    exact hP.of_erecNth c ih _ _
  | player one i ks ih =>
    intro d
    by_cases h : (one == c.first) = true
    · rw [erec_own_eq c one i ks d h, subEffsE_eq_subEffs]
      exact hP.append (hP.of_erecActs c ih one i _ _ _ _) (hP.of_subEffs one i _ _)
    · rw [erec_opp_eq c one i ks d h, extStratEffs_eq_stratEffs]
      exact hP.append (hs one i (mt beq_iff_eq.mpr h)) (hP.of_erecNth c ih _ _)

end

theorem erec_effsOK (c : ECtx ℝ) (hc : ∀ one i, ∀ v ∈ c.strat one i, 0 ≤ v) :
    ∀ (n : Node ℝ) (d : DrawSt ℝ), EffsOK (erec c n d).2.1 :=
  EffsOK.closed.of_erec c fun one i _ => stratEffs_ok one i 1 zero_le_one _ 0 (hc one i)

theorem erecNth_effsOK (c : ECtx ℝ) (hc : ∀ one i, ∀ v ∈ c.strat one i, 0 ≤ v) :
    ∀ (ks : List (Node ℝ)) (k : ℕ) (d : DrawSt ℝ), EffsOK (erecNth c ks k d).2.1 :=
  fun _ => EffsOK.closed.of_erecNth c fun k _ => erec_effsOK c hc k

theorem erecActs_effsOK (c : ECtx ℝ) (hc : ∀ one i, ∀ v ∈ c.strat one i, 0 ≤ v)
    (one : Bool) (i : ℕ) :
    ∀ (σ : List ℝ) (ks : List (Node ℝ)) (d : DrawSt ℝ) (a : ℕ) (ex : ℝ),
      EffsOK (erecActs c one i σ ks d a ex).2.1 :=
  fun σ _ => EffsOK.closed.of_erecActs c (fun k _ => erec_effsOK c hc k) one i σ

theorem vanillaIter_ok (g : Game ℝ) (sampled : Bool) (p : RegretParams ℝ) (hγ : 0 ≤ p.strat)
    (draw : DrawFn ℝ) (it : ℕ) (s : SolveSt ℝ) (log : List (DrawRec ℝ)) (h : StOK g s) :
    StOK g (vanillaIter g sampled p draw it s log).1 ∧
      0 ≤ (vanillaIter g sampled p draw it s log).2.1 ∧
      0 ≤ (vanillaIter g sampled p draw it s log).2.2.1 := by
  simp only [vanillaIter]
  have he := vrec_effsOK ⟨g.chance, sampled, s.strat, draw, it - 1⟩ (stOK_strat_nonneg g s h)
    g.root 1 1 1 { log := log } zero_le_one zero_le_one
  have h' := stOK_applyEffs g _ s he h
  have h1 := tableOK_advanceAll p hγ it it (h' true) 0 le_rfl
  have h2 := tableOK_advanceAll p hγ it it (h' false) 0 le_rfl
  exact ⟨stOK_mk g _ _ h1.1 h2.1, h1.2, h2.2⟩

theorem externalPass_ok (g : Game ℝ) (first : Bool) (p : RegretParams ℝ) (hγ : 0 ≤ p.strat)
    (draw : DrawFn ℝ) (it : ℕ) (s : SolveSt ℝ) (log : List (DrawRec ℝ)) (h : StOK g s) :
    StOK g (externalPass g first p draw it s log).1 ∧
      0 ≤ (externalPass g first p draw it s log).2.1 := by
  simp only [externalPass]
  have he := erec_effsOK ⟨g.chance, first, s.strat, draw,
      2 * (it - 1) + (if first then 0 else 1), if first then it - 1 else it⟩
    (stOK_strat_nonneg g s h) g.root { log := log }
  have h' := stOK_applyEffs g _ s he h
  have h1 := tableOK_advanceAll p hγ it (if first then it - 1 else it) (h' first) 0 le_rfl
  exact ⟨stOK_set g _ first _ h' h1.1, h1.2⟩

theorem externalIter_ok (g : Game ℝ) (p : RegretParams ℝ) (hγ : 0 ≤ p.strat)
    (draw : DrawFn ℝ) (it : ℕ) (s : SolveSt ℝ) (log : List (DrawRec ℝ)) (h : StOK g s) :
    StOK g (externalIter g p draw it s log).1 ∧
      0 ≤ (externalIter g p draw it s log).2.1 ∧
      0 ≤ (externalIter g p draw it s log).2.2.1 := by
  have ha := externalPass_ok g true p hγ draw it s log h
  unfold externalIter
  generalize externalPass g true p draw it s log = q at ha ⊢
  obtain ⟨s1, r1, log1⟩ := q
  have hb := externalPass_ok g false p hγ draw it s1 log1 ha.1
  dsimp only
  generalize externalPass g false p draw it s1 log1 = q' at hb ⊢
  obtain ⟨s2, r2, log2⟩ := q'
  exact ⟨hb.1, ha.2, hb.2⟩

end Cfr
