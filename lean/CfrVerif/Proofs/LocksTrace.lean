import CfrVerif.Proofs.LocksGeneric
import CfrVerif.Proofs.GameWFLemmas
import CfrVerif.Proofs.FrontierExt
/-!
# The pool's mutexes, specific part: the traces of the external-sampling pass

`TrOK first n t` : what a trace `t` of a traversal of node `n` satisfies (its `try_lock`s are
infosets of the updating player at or below `n`, its blocking locks are other mutexes and are
released at once, everything acquired is released, and under perfect recall no mutex is
`try_lock`ed twice).  Both `etrace` and `etraceC` produce such traces; the frontier of
`eThreshold` consists of nodes no two of which have a common infoset of the updating player below
them.
-/
set_option linter.unusedSectionVars false
namespace Cfr
variable {α : Type} [Field α] [LinearOrder α] [IsStrictOrderedRing α] [Transc α]
namespace Lk

/-- infoset `i` of player `first` occurs at `n` or below it -/
inductive Below (first : Bool) (i : Nat) : Node α → Prop
  | here (ks : List (Node α)) : Below first i (.player first i ks)
  | chance (j : Nat) (ks : List (Node α)) (k : Node α) :
      k ∈ ks → Below first i k → Below first i (.chance j ks)
  | player (one : Bool) (j : Nat) (ks : List (Node α)) (k : Node α) :
      k ∈ ks → Below first i k → Below first i (.player one j ks)

theorem PRD_get (me : Bool) (hist : Nat → Hist) (H : Hist) (j : Nat) (ks : List (Node α)) (a : Nat)
    (h : PRD me hist H j a ks) (m : Nat) (k : Node α) (hk : ks[m]? = some k) :
    PR me hist (H ++ [(j, a + m)]) k := by
  induction ks generalizing a m with
  | nil => cases hk
  | cons x ks ih =>
    cases m with
    | zero => exact Option.some.inj hk ▸ h.1
    | succ m => exact Nat.add_right_comm a 1 m ▸ ih (a + 1) h.2 m hk

/-- perfect recall: an infoset of the player below a node extends the node's own history -/
theorem below_prefix {first : Bool} {i : Nat} {n : Node α} (hist : Nat → Hist)
    (h : Below first i n) : ∀ H, PR first hist H n → H <+: hist i := by
  induction h with
  | here ks =>
    intro H hp
    rw [(PR_player_self.mp hp).1]
  | chance j ks k hk _ ih =>
    intro H hp
    exact ih H ((prl_iff first hist H ks).mp hp k hk)
  | player one j ks k hk _ ih =>
    intro H hp
    by_cases ho : one = first
    · subst ho
      obtain ⟨m, hm⟩ := List.getElem?_of_mem hk
      exact (List.prefix_append _ _).trans
        (ih _ (PRD_get one hist H j ks 0 (PR_player_self.mp hp).2 m k hm))
    · exact ih H ((prl_iff first hist H ks).mp ((PR_player_other ho).mp hp) k hk)

/-- two different children of an own node have no infoset of the player in common -/
theorem below_children_ne {first : Bool} {i : Nat} (hist : Nat → Hist) {H : Hist} {j a : Nat}
    {ks : List (Node α)} (hD : PRD first hist H j a ks) {m1 m2 : Nat} {k1 k2 : Node α}
    (h1 : ks[m1]? = some k1) (h2 : ks[m2]? = some k2) (b1 : Below first i k1)
    (b2 : Below first i k2) : m1 = m2 := by
  have p1 := below_prefix hist b1 _ (PRD_get first hist H j ks a hD m1 k1 h1)
  have p2 := below_prefix hist b2 _ (PRD_get first hist H j ks a hD m2 k2 h2)
  exact Nat.add_left_cancel (Prod.mk.inj (prefix_snoc_inj p1 p2)).2

/-- a later child of an own node shares no infoset of the player with the first child -/
theorem below_head_tail {first : Bool} {i : Nat} (hist : Nat → Hist) {H : Hist} {j a : Nat}
    {k k' : Node α} {ks : List (Node α)} (hD : PRD first hist H j a (k :: ks)) (hk' : k' ∈ ks)
    (b : Below first i k) (b' : Below first i k') : False := by
  obtain ⟨m, hm⟩ := List.getElem?_of_mem hk'
  exact Nat.succ_ne_zero m (below_children_ne hist hD (m1 := 0) (m2 := m + 1) rfl hm b b').symm

/-! ## what a trace of a traversal satisfies -/

structure TrOK (first : Bool) (n : Node α) (t : List LEv) : Prop where
  tryB : ∀ l ∈ tryLocks t, ∃ i, l = LockId.player first i ∧ Below first i n
  block : ∀ l ∈ blockLocks t, ∀ i, l ≠ LockId.player first i
  leaf : LeafCS t
  rel : RelOK t
  nodup : ∀ (hist : Nat → Hist) (H : Hist), PR first hist H n → (tryLocks t).Nodup

/-- the trace of the sampled child, if there is one -/
def TrOKL (first : Bool) (ks : List (Node α)) (t : List LEv) : Prop :=
  t = [] ∨ ∃ k ∈ ks, TrOK first k t

/-- the trace of the visited children of an own node -/
structure TrOKA (first : Bool) (ks : List (Node α)) (t : List LEv) : Prop where
  tryB : ∀ l ∈ tryLocks t, ∃ i, l = LockId.player first i ∧ ∃ k ∈ ks, Below first i k
  block : ∀ l ∈ blockLocks t, ∀ i, l ≠ LockId.player first i
  leaf : LeafCS t
  rel : RelOK t
  nodup : ∀ (hist : Nat → Hist) (H : Hist) (j a : Nat), PRD first hist H j a ks →
    (tryLocks t).Nodup

theorem TrOK.nil (first : Bool) (n : Node α) : TrOK first n [] :=
  ⟨fun _ h => (nomatch h), fun _ h => (nomatch h), trivial, trivial, fun _ _ _ => List.nodup_nil⟩

theorem TrOKA.nil (first : Bool) (ks : List (Node α)) : TrOKA first ks [] :=
  ⟨fun _ h => (nomatch h), fun _ h => (nomatch h), trivial, trivial,
    fun _ _ _ _ _ => List.nodup_nil⟩

theorem TrOKL.cons {first : Bool} {ks : List (Node α)} {t : List LEv} (x : Node α)
    (h : TrOKL first ks t) : TrOKL first (x :: ks) t :=
  h.imp_right fun ⟨k, hk, h⟩ => ⟨k, List.mem_cons_of_mem _ hk, h⟩

/-- a node that is not the updating player's: a leaf section on its own mutex `l`, then the trace
of the sampled child -/
theorem TrOK.acqRel {first : Bool} {n : Node α} {ks : List (Node α)} {t : List LEv} (l : LockId)
    (hl : ∀ i, l ≠ .player first i) (hb : ∀ k ∈ ks, ∀ i, Below first i k → Below first i n)
    (hp : ∀ hist H, PR first hist H n → PRL first hist H ks) (h : TrOKL first ks t) :
    TrOK first n (.acq l :: .rel l :: t) := by
  have hrel : LEv.rel l ∈ LEv.rel l :: t := List.mem_cons_self
  rcases h with rfl | ⟨k, hk, h⟩
  · exact ⟨fun _ h => (nomatch h), fun _ h i => by cases List.mem_singleton.mp h; exact hl i,
      ⟨rfl, trivial⟩, ⟨hrel, trivial⟩, fun _ _ _ => List.nodup_nil⟩
  · exact ⟨fun l' hl' => (h.tryB l' hl').imp fun j hj => ⟨hj.1, hb k hk j hj.2⟩,
      fun l' hl' j => (List.mem_cons.mp hl').elim (· ▸ hl j) (h.block l' · j),
      ⟨rfl, h.leaf⟩, ⟨hrel, h.rel⟩,
      fun hist H hn => h.nodup hist H ((prl_iff first hist H ks).mp (hp hist H hn) k hk)⟩

theorem TrOK.chance {first : Bool} {ks : List (Node α)} {t : List LEv} (i : Nat)
    (h : TrOKL first ks t) :
    TrOK first (.chance i ks) (.acq (.chance i) :: .rel (.chance i) :: t) :=
  TrOK.acqRel _ (fun _ => nofun) (fun k hk _ => Below.chance i ks k hk) (fun _ _ hp => hp) h

theorem TrOK.opp {first : Bool} {ks : List (Node α)} {t : List LEv} (one : Bool) (i : Nat)
    (ho : ¬ one = first) (h : TrOKL first ks t) :
    TrOK first (.player one i ks) (.acq (.player one i) :: .rel (.player one i) :: t) :=
  TrOK.acqRel _ (fun _ e => ho (LockId.player.inj e).1) (fun k hk _ => Below.player one i ks k hk)
    (fun _ _ hp => (PR_player_other ho).mp hp) h

/-- a node of the updating player: its mutex is `try_lock`ed, held over the visited children and
dropped; under perfect recall the infoset does not occur again below -/
theorem TrOK.own {first : Bool} {ks : List (Node α)} {t : List LEv} (i : Nat)
    (h : TrOKA first ks t) :
    TrOK first (.player first i ks)
      (.tryAcq (.player first i) :: t ++ [.rel (.player first i)]) := by
  have htry : tryLocks (.tryAcq (.player first i) :: t ++ [.rel (.player first i)])
      = .player first i :: tryLocks t := by
    rw [List.cons_append, tryLocks_tryAcq, tryLocks_append, tryLocks_rel, tryLocks_nil,
      List.append_nil]
  have hblock : blockLocks (.tryAcq (.player first i) :: t ++ [.rel (.player first i)])
      = blockLocks t := by
    rw [List.cons_append, blockLocks_tryAcq, blockLocks_append, blockLocks_rel, blockLocks_nil,
      List.append_nil]
  refine ⟨fun l hl => ?_, fun l hl => h.block l (hblock ▸ hl), LeafCS_append _ _ h.leaf trivial,
    ⟨List.mem_append_right _ List.mem_cons_self, RelOK_append _ _ h.rel trivial⟩,
    fun hist H hp => ?_⟩
  · rw [htry] at hl
    rcases List.mem_cons.mp hl with rfl | hl
    · exact ⟨i, rfl, Below.here ks⟩
    · obtain ⟨j, hj, k, hk, hb⟩ := h.tryB l hl
      exact ⟨j, hj, Below.player first i ks k hk hb⟩
  · obtain ⟨hH, hD⟩ := PR_player_self.mp hp
    rw [htry, List.nodup_cons]
    refine ⟨fun hl => ?_, h.nodup hist H i 0 hD⟩
    obtain ⟨j, hj, k, hk, hb⟩ := h.tryB _ hl
    cases hj
    -- the infoset would occur below its own child: its history would be longer than itself
    obtain ⟨m, hm⟩ := List.getElem?_of_mem hk
    have := (below_prefix hist hb _ (PRD_get first hist H i ks 0 hD m k hm)).length_le
    rw [hH, List.length_append] at this
    exact Nat.not_succ_le_self _ this

theorem TrOKA.cons {first : Bool} {k : Node α} {ks : List (Node α)} {t t' : List LEv}
    (hk : TrOK first k t) (h : TrOKA first ks t') : TrOKA first (k :: ks) (t ++ t') := by
  refine ⟨fun l hl => ?_, fun l hl j => ?_, LeafCS_append _ _ hk.leaf h.leaf,
    RelOK_append _ _ hk.rel h.rel, fun hist H j a hD => ?_⟩
  · rw [tryLocks_append, List.mem_append] at hl
    rcases hl with hl | hl
    · obtain ⟨j, hj, hb⟩ := hk.tryB l hl
      exact ⟨j, hj, k, List.mem_cons_self, hb⟩
    · obtain ⟨j, hj, k', hk', hb⟩ := h.tryB l hl
      exact ⟨j, hj, k', List.mem_cons_of_mem _ hk', hb⟩
  · rw [blockLocks_append, List.mem_append] at hl
    exact hl.elim (hk.block l · j) (h.block l · j)
  · rw [tryLocks_append, List.nodup_append]
    refine ⟨hk.nodup hist _ hD.1, h.nodup hist H j (a + 1) hD.2, fun x hx y hy hxy => ?_⟩
    subst hxy
    obtain ⟨i, hi, hb⟩ := hk.tryB x hx
    obtain ⟨i', hi', k', hk', hb'⟩ := h.tryB x hy
    cases hi.symm.trans hi'
    exact below_head_tail hist hD hk' hb hb'

/-! ## the traces of the model

`etraceC` without a cache is `etrace` (`LkP.etrace_eq_etraceC`), so the facts about `etrace` are
those about `etraceC` at the empty cache. -/

theorem etraceC_hit (c : ECtx α) (cache : List (Path × α)) (n : Node α) (path : Path)
    (d : DrawSt α) (v : α) (h : cacheGet cache path = some v) :
    etraceC c cache n path d = ([], d) := by
  cases n <;> simp only [etraceC, h]

theorem etraceC_term (c : ECtx α) (cache : List (Path × α)) (p : α) (path : Path) (d : DrawSt α) :
    etraceC c cache (.term p) path d = ([], d) := by
  cases h : cacheGet cache path <;> simp only [etraceC, h]

theorem etraceC_chance (c : ECtx α) (cache : List (Path × α)) (i : Nat) (ks : List (Node α))
    (path : Path) (d : DrawSt α) (h : cacheGet cache path = none) :
    etraceC c cache (.chance i ks) path d =
      (let s := sampleChance c.draw c.chancePass (c.ch.getD i []) i d
       let r := etraceCNth c cache ks s.1 (path ++ [s.1]) s.2
       (.acq (.chance i) :: .rel (.chance i) :: r.1, r.2)) := by
  simp only [etraceC, h]

theorem etraceC_own (c : ECtx α) (cache : List (Path × α)) (one : Bool) (i : Nat)
    (ks : List (Node α)) (path : Path) (d : DrawSt α) (h : cacheGet cache path = none)
    (ho : (one == c.first) = true) :
    etraceC c cache (.player one i ks) path d =
      (let r := etraceCActs c cache (c.strat one i) ks path d 0
       (.tryAcq (.player one i) :: (r.1 ++ [.rel (.player one i)]), r.2)) := by
  simp only [etraceC, h, if_pos ho]
  rfl

theorem etraceC_opp (c : ECtx α) (cache : List (Path × α)) (one : Bool) (i : Nat)
    (ks : List (Node α)) (path : Path) (d : DrawSt α) (h : cacheGet cache path = none)
    (ho : ¬ (one == c.first) = true) :
    etraceC c cache (.player one i ks) path d =
      (let s := samplePlayer c.draw (if one then 1 else 2) c.playerPass (c.strat one i) i d
       let r := etraceCNth c cache ks s.1 (path ++ [s.1]) s.2
       (.acq (.player one i) :: .rel (.player one i) :: r.1, r.2)) := by
  simp only [etraceC, h, if_neg ho]

theorem etraceCActs_cons (c : ECtx α) (cache : List (Path × α)) (s : α) (σ : List α)
    (k : Node α) (ks : List (Node α)) (path : Path) (d : DrawSt α) (a : Nat) :
    etraceCActs c cache (s :: σ) (k :: ks) path d a =
      (let r := etraceC c cache k (path ++ [a]) d
       let r' := etraceCActs c cache σ ks path r.2 (a + 1)
       (r.1 ++ r'.1, r'.2)) := by
  simp only [etraceCActs]

end Lk
namespace LkP

mutual
theorem etrace_eq_etraceC (c : ECtx α) :
    ∀ (n : Node α) (path : Path) (d : DrawSt α), etraceC c [] n path d = etrace c n d
  | .term p, path, d => by rw [Lk.etraceC_term]; simp only [etrace]
  | .chance i ks, path, d => by
    rw [Lk.etraceC_chance _ _ _ _ _ _ (cacheGet_nil _)]
    simp only [etraceNth_eq_etraceCNth c ks, etrace]
  | .player one i ks, path, d => by
    by_cases ho : (one == c.first) = true
    · rw [Lk.etraceC_own _ _ _ _ _ _ _ (cacheGet_nil _) ho]
      simp only [etraceActs_eq_etraceCActs c _ ks, etrace, if_pos ho]
      rfl
    · rw [Lk.etraceC_opp _ _ _ _ _ _ _ (cacheGet_nil _) ho]
      simp only [etraceNth_eq_etraceCNth c ks, etrace, if_neg ho]
theorem etraceNth_eq_etraceCNth (c : ECtx α) :
    ∀ (ks : List (Node α)) (j : Nat) (path : Path) (d : DrawSt α),
      etraceCNth c [] ks j path d = etraceNth c ks j d
  | [], _, _, d => by simp only [etraceCNth, etraceNth]
  | k :: _, 0, path, d => by simp only [etraceCNth, etraceNth]; exact etrace_eq_etraceC c k path d
  | _ :: ks, j + 1, path, d => by
    simp only [etraceCNth, etraceNth]; exact etraceNth_eq_etraceCNth c ks j path d
theorem etraceActs_eq_etraceCActs (c : ECtx α) :
    ∀ (σ : List α) (ks : List (Node α)) (path : Path) (d : DrawSt α) (a : Nat),
      etraceCActs c [] σ ks path d a = etraceActs c σ ks d
  | s :: σ, k :: ks, path, d, a => by
    rw [Lk.etraceCActs_cons]
    simp only [etrace_eq_etraceC c k, etraceActs_eq_etraceCActs c σ ks, etraceActs]
  | [], _, _, d, _ => by simp only [etraceCActs, etraceActs]
  | _ :: _, [], _, d, _ => by simp only [etraceCActs, etraceActs]
end

end LkP
namespace Lk

mutual
theorem etraceC_ok (c : ECtx α) (cache : List (Path × α)) :
    ∀ (n : Node α) (path : Path) (d : DrawSt α), TrOK c.first n (etraceC c cache n path d).1
  | n, path, d => by
    cases hc : cacheGet cache path with
    | some v => rw [etraceC_hit _ _ _ _ _ v hc]; exact TrOK.nil _ _
    | none =>
      cases n with
      | term _ => rw [etraceC_term]; exact TrOK.nil _ _
      | chance i ks =>
        rw [etraceC_chance _ _ _ _ _ _ hc]
        exact TrOK.chance i (etraceCNth_ok c cache ks _ _ _)
      | player one i ks =>
        by_cases ho : (one == c.first) = true
        · rw [etraceC_own _ _ _ _ _ _ _ hc ho]
          cases beq_iff_eq.mp ho
          exact TrOK.own i (etraceCActs_ok c cache _ ks path d 0)
        · rw [etraceC_opp _ _ _ _ _ _ _ hc ho]
          exact TrOK.opp one i (mt beq_iff_eq.mpr ho) (etraceCNth_ok c cache ks _ _ _)
theorem etraceCNth_ok (c : ECtx α) (cache : List (Path × α)) :
    ∀ (ks : List (Node α)) (k : Nat) (path : Path) (d : DrawSt α),
      TrOKL c.first ks (etraceCNth c cache ks k path d).1
  | [], _ => fun _ _ => Or.inl rfl
  | k :: _, 0 => fun path d => Or.inr ⟨k, List.mem_cons_self, etraceC_ok c cache k path d⟩
  | x :: ks, n + 1 => fun path d => (etraceCNth_ok c cache ks n path d).cons x
theorem etraceCActs_ok (c : ECtx α) (cache : List (Path × α)) :
    ∀ (σ : List α) (ks : List (Node α)) (path : Path) (d : DrawSt α) (a : Nat),
      TrOKA c.first ks (etraceCActs c cache σ ks path d a).1
  | _ :: σ, k :: ks => fun path d a => by
    rw [etraceCActs_cons]
    exact TrOKA.cons (etraceC_ok c cache k _ d) (etraceCActs_ok c cache σ ks path _ (a + 1))
  | [], _ => fun _ _ _ => by simp only [etraceCActs]; exact TrOKA.nil _ _
  | _ :: _, [] => fun _ _ _ => by simp only [etraceCActs]; exact TrOKA.nil _ _
end

theorem etrace_ok (c : ECtx α) (n : Node α) (d : DrawSt α) : TrOK c.first n (etrace c n d).1 :=
  LkP.etrace_eq_etraceC c n [] d ▸ etraceC_ok c [] n [] d

theorem etraceNth_ok (c : ECtx α) : ∀ (ks : List (Node α)) (k : Nat) (d : DrawSt α),
    TrOKL c.first ks (etraceNth c ks k d).1 :=
  fun ks k d => LkP.etraceNth_eq_etraceCNth c ks k [] d ▸ etraceCNth_ok c [] ks k [] d

theorem etraceActs_ok (c : ECtx α) : ∀ (σ : List α) (ks : List (Node α)) (d : DrawSt α),
    TrOKA c.first ks (etraceActs c σ ks d).1 :=
  fun σ ks d => LkP.etraceActs_eq_etraceCActs c σ ks [] d 0 ▸ etraceCActs_ok c [] σ ks [] d 0

/-! ## the frontier -/

def Sep (first : Bool) (a b : EItem α) : Prop :=
  ∀ i, ¬ (Below first i a.node ∧ Below first i b.node)

theorem Sep.symm {first : Bool} {a b : EItem α} (h : Sep first a b) : Sep first b a :=
  fun i hi => h i ⟨hi.2, hi.1⟩

/-- every node of the frontier has an own history, and no two nodes share an infoset of the
player below them -/
def ItemsOK (first : Bool) (hist : Nat → Hist) (l : List (EItem α)) : Prop :=
  Cut (fun it => ∃ H, PR first hist H it.node) (Sep first) l

theorem eChildren_sep (first : Bool) (hist : Nat → Hist) (H : Hist) (j : Nat) (P : Path)
    (ks : List (Node α)) (a0 : Nat) (hD : PRD first hist H j a0 ks) :
    (eChildren P ks a0).Pairwise (Sep first) := by
  induction ks generalizing a0 with
  | nil => exact List.Pairwise.nil
  | cons k ks ih =>
    refine List.Pairwise.cons (fun y hy i hi => ?_) (ih (a0 + 1) hD.2)
    obtain ⟨m, hm, _⟩ := mem_eChildren P ks (a0 + 1) y hy
    exact below_head_tail hist hD (List.mem_of_getElem? hm) hi.1 hi.2

theorem ItemsOK.expand {first : Bool} {hist : Nat → Hist} {it : EItem α} {l : List (EItem α)}
    (h : ItemsOK first hist (it :: l)) {P : Path} {j : Nat} {ks : List (Node α)} {H : Hist}
    (hp : PR first hist H (.player first j ks))
    (hb : ∀ i, Below first i (.player first j ks) → Below first i it.node) :
    ItemsOK first hist (eChildren P ks 0 ++ l) := by
  have hD := (PR_player_self.mp hp).2
  obtain ⟨hit, hl⟩ := List.pairwise_cons.mp h.2
  refine ⟨fun x hx => ?_, List.pairwise_append.mpr
    ⟨eChildren_sep first hist H j P ks 0 hD, hl, fun x hx y hy i hi => ?_⟩⟩
  · rcases List.mem_append.mp hx with hx | hx
    · obtain ⟨m, hm, _⟩ := mem_eChildren P ks 0 x hx
      exact ⟨_, PRD_get first hist H j ks 0 hD m x.node hm⟩
    · exact h.1 x (List.mem_cons_of_mem _ hx)
  · obtain ⟨m, hm, _⟩ := mem_eChildren P ks 0 x hx
    exact hit y hy i ⟨hb i (Below.player first j ks x.node (List.mem_of_getElem? hm) hi.1), hi.2⟩

/-- `next_nodes` returns the children of a node of the updating player at or below its argument -/
theorem eNextNodes_below (c : ECtx α) (hist : Nat → Hist) (fuel : Nat) (n : Node α) :
    ∀ (path : Path) (d : DrawSt α) (H : Hist), PR c.first hist H n →
      ∀ items, (eNextNodes c fuel n path d).1 = some items →
        ∃ P j ks H', items = eChildren P ks 0 ∧ PR c.first hist H' (.player c.first j ks) ∧
          ∀ i, Below c.first i (.player c.first j ks) → Below c.first i n := by
  induction fuel generalizing n with
  | zero => intro path d H _ items h; rw [eNextNodes_zero] at h; cases h
  | succ fuel ih =>
    intro path d H hp items h
    cases n with
    | term p => rw [eNextNodes_term] at h; cases h
    | chance i ks =>
      rw [eNextNodes_chance] at h
      split at h
      · rename_i n' hk
        have hmem := List.mem_of_getElem? hk
        obtain ⟨P, j, ks', H', h1, h2, h3⟩ :=
          ih n' _ _ H ((prl_iff c.first hist H ks).mp hp n' hmem) items h
        exact ⟨P, j, ks', H', h1, h2, fun i' hi => Below.chance i ks n' hmem (h3 i' hi)⟩
      · cases h
    | player one i ks =>
      by_cases ho : (one == c.first) = true
      · rw [eNextNodes_own _ _ _ _ _ _ _ ho] at h
        cases beq_iff_eq.mp ho
        exact ⟨path, i, ks, H, (Option.some.inj h).symm, hp, fun _ hi => hi⟩
      · rw [eNextNodes_opp _ _ _ _ _ _ _ ho] at h
        split at h
        · rename_i n' hk
          have hmem := List.mem_of_getElem? hk
          have hp' := (PR_player_other (mt beq_iff_eq.mpr ho)).mp hp
          obtain ⟨P, j, ks', H', h1, h2, h3⟩ :=
            ih n' _ _ H ((prl_iff c.first hist H ks).mp hp' n' hmem) items h
          exact ⟨P, j, ks', H', h1, h2, fun i' hi => Below.player one i ks n' hmem (h3 i' hi)⟩
        · cases h

theorem eThreshold_itemsOK (c : ECtx α) (hist : Nat → Hist) (target depth fuel : Nat)
    (queue work : List (EItem α)) (d : DrawSt α) (h : ItemsOK c.first hist (queue ++ work)) :
    ItemsOK c.first hist ((eThreshold c target depth fuel queue work d).1 ++
      (eThreshold c target depth fuel queue work d).2.1) := by
  rw [eThreshold_eq_loop]
  refine thresholdLoop_inv (eExpand c depth) target (fun l _ => ItemsOK c.first hist l)
    (fun _ _ _ hp h => h.perm (fun _ _ => Sep.symm) hp) (fun it rest d h' => ?_) fuel queue work d h
  -- the popped item is replaced by nothing, or by the children `next_nodes` finds
  unfold eExpand
  cases hN : (eNextNodes c depth it.node it.path d).1 with
  | none => exact h'.tail
  | some nexts =>
    obtain ⟨H, hH⟩ := h'.1 it List.mem_cons_self
    obtain ⟨P, j, ks, H', rfl, h2, h3⟩ :=
      eNextNodes_below c hist depth it.node it.path d H hH nexts hN
    exact h'.expand (P := P) h2 h3

theorem ItemsOK.root (first : Bool) (hist : Nat → Hist) (root : Node α)
    (h : PR first hist [] root) : ItemsOK first hist ([⟨[], root⟩] ++ []) :=
  ⟨fun _ hit => List.mem_singleton.mp hit ▸ ⟨[], h⟩, List.pairwise_singleton _ _⟩

/-! ## the tasks -/

theorem eTaskTraces_cons (c : ECtx α) (it : EItem α) (rest : List (EItem α)) (d : DrawSt α) :
    (eTaskTraces c (it :: rest) d).1 =
      (etrace c it.node d).1 :: (eTaskTraces c rest (etrace c it.node d).2).1 := by
  simp only [eTaskTraces]

theorem eTaskTraces_mem (c : ECtx α) (items : List (EItem α)) (d : DrawSt α) (t : List LEv)
    (h : t ∈ (eTaskTraces c items d).1) : ∃ it ∈ items, TrOK c.first it.node t := by
  induction items generalizing d with
  | nil => cases h
  | cons it rest ih =>
    rw [eTaskTraces_cons, List.mem_cons] at h
    rcases h with rfl | h
    · exact ⟨it, List.mem_cons_self, etrace_ok c it.node d⟩
    · obtain ⟨it', hit', ht⟩ := ih _ h
      exact ⟨it', List.mem_cons_of_mem _ hit', ht⟩

theorem eTaskTraces_nodup (c : ECtx α) (hist : Nat → Hist) (items : List (EItem α)) (d : DrawSt α)
    (h : ItemsOK c.first hist items) : ((eTaskTraces c items d).1.flatMap tryLocks).Nodup := by
  induction items generalizing d with
  | nil => exact List.nodup_nil
  | cons it rest ih =>
    rw [eTaskTraces_cons, List.flatMap_cons, List.nodup_append]
    obtain ⟨H, hH⟩ := h.1 it List.mem_cons_self
    refine ⟨(etrace_ok c it.node d).nodup hist H hH, ih _ h.tail, fun x hx y hy hxy => ?_⟩
    subst hxy
    -- a mutex two tasks `try_lock` is an infoset below two nodes of the frontier
    obtain ⟨i, hi, hb⟩ := (etrace_ok c it.node d).tryB x hx
    obtain ⟨t, ht, hxt⟩ := List.mem_flatMap.mp hy
    obtain ⟨it', hit', hok⟩ := eTaskTraces_mem c rest _ t ht
    obtain ⟨i', hi', hb'⟩ := hok.tryB x hxt
    cases hi.symm.trans hi'
    exact (List.pairwise_cons.mp h.2).1 it' hit' i ⟨hb, hb'⟩

/-- the tasks handed to the pool and the closing recursion of a pass, in terms of the frontier
`thr` that `thread_threshold` returns -/
theorem externalTraces_eq (g : Game α) (c : ECtx α) (target : Nat) (log : List (DrawRec α)) :
    ∀ thr, thr = eThreshold c target g.root.size (2 * g.root.size + 2) [⟨[], g.root⟩] []
        { log := log } →
      externalPoolTraces g c target log = (eTaskTraces c thr.1 thr.2.2).1 ∧
      externalClosingTrace g c target log =
        (etraceC c (eRunTasks c thr.1 thr.2.2).1 g.root [] (eRunTasks c thr.1 thr.2.2).2.2).1 :=
  fun _ h => h ▸ ⟨rfl, rfl⟩

/-- a pool of traces of traversals, no mutex `try_lock`ed twice, satisfies the hypotheses -/
theorem poolOK_of_trOK {first : Bool} {ts : List (List LEv)}
    (hn : (ts.flatMap tryLocks).Nodup) (h : ∀ t ∈ ts, ∃ n : Node α, TrOK first n t) :
    PoolOK ts where
  tryNodup := hn
  leaf := fun t ht => by obtain ⟨n, hok⟩ := h t ht; exact hok.leaf
  disjoint := fun l hl hb => by
    obtain ⟨t, ht, hlt⟩ := List.mem_flatMap.mp hl
    obtain ⟨t', ht', hlt'⟩ := List.mem_flatMap.mp hb
    obtain ⟨n, hok⟩ := h t ht
    obtain ⟨n', hok'⟩ := h t' ht'
    obtain ⟨i, hi, _⟩ := hok.tryB l hlt
    exact hok'.block l hlt' i hi
  released := fun t ht => by
    obtain ⟨n, hok⟩ := h t ht
    exact (RelOK_iff t).mp hok.rel

end Lk
end Cfr
