import CfrVerif.Proofs.Frontier
import CfrVerif.Proofs.FrontierExt
/-!
# The frontier loops terminate by their own exit condition

`thread_threshold` in `vanilla.rs` and `external.rs` is a `while` loop, and `next_nodes` in
`external.rs` follows a path downwards; in the model they are recursions on a fuel argument
(`vThreshold`, `eThreshold`, `eNextNodes`).  A model that stopped *because the fuel ran out* would
hide a loop that never ends.  These theorems show that it never does: with the fuel the solvers
pass (`2 * size + 2` turns, depth `size`), giving the loops any amount of additional fuel changes
nothing — they have already left through their exit condition (frontier large enough, or both
vectors empty), for every game tree, target, strategy table and draw oracle.
-/
set_option linter.unusedSectionVars false
namespace Cfr
variable {α : Type} [Field α] [LinearOrder α] [IsStrictOrderedRing α] [Transc α]

namespace Fuel

/-! ## sizes -/

theorem size_pos : ∀ n : Node α, 0 < n.size
  | .term _ => by simp only [Node.size]; omega
  | .chance _ _ => by simp only [Node.size]; omega
  | .player _ _ _ => by simp only [Node.size]; omega

theorem mem_sizeL : ∀ (ks : List (Node α)) (k : Node α), k ∈ ks → k.size ≤ Node.sizeL ks
  | [], k, h => by simp at h
  | x :: ks, k, h => by
    simp only [Node.sizeL]
    rcases List.mem_cons.1 h with rfl | h
    · omega
    · have := mem_sizeL ks k h; omega

theorem getElem?_size (ks : List (Node α)) (k : Nat) (n : Node α) (h : ks[k]? = some n) :
    n.size ≤ Node.sizeL ks := mem_sizeL ks n (List.mem_of_getElem? h)

def tot {β : Type} (f : β → Node α) (l : List β) : Nat := (l.map (fun x => (f x).size)).sum

theorem tot_nil {β : Type} (f : β → Node α) : tot f [] = 0 := rfl
theorem tot_cons {β : Type} (f : β → Node α) (x : β) (l : List β) :
    tot f (x :: l) = (f x).size + tot f l := by simp [tot]
theorem tot_append {β : Type} (f : β → Node α) (a b : List β) :
    tot f (a ++ b) = tot f a + tot f b := by simp [tot]

/-- the potential of a loop state: twice the total size, plus one when a swap is due -/
def mu {β : Type} (f : β → Node α) (queue work : List β) : Nat :=
  2 * (tot f queue + tot f work) + (if queue.isEmpty then 1 else 0)

/-- a swap (only taken when `queue` is empty and `work` is not) lowers the potential -/
theorem mu_swap {β : Type} (f : β → Node α) (queue work : List β)
    (hq : queue.getLast? = none) (hne : (!(queue.isEmpty && work.isEmpty)) = true) :
    mu f work queue < mu f queue work := by
  have hq' : queue = [] := by simpa using hq
  subst hq'
  cases work with
  | nil => simp at hne
  | cons x w => simp [mu, tot_nil]

theorem mu_pop {β : Type} (f : β → Node α) (queue work new : List β) (it : β)
    (hq : queue.getLast? = some it) (hnew : tot f new < (f it).size) :
    mu f queue.dropLast (work ++ new) < mu f queue work := by
  have h1 : tot f queue = tot f queue.dropLast + (f it).size := by
    conv_lhs => rw [← List.dropLast_append_getLast? it hq]
    rw [tot_append, tot_cons, tot_nil, Nat.add_zero]
  have h2 : queue.isEmpty = false := by
    cases queue with
    | nil => cases hq
    | cons x w => rfl
  have h3 : (if queue.dropLast.isEmpty = true then 1 else 0) ≤ 1 := by split <;> omega
  simp only [mu, h1, h2, tot_append, Bool.false_eq_true, if_false]
  omega

/-- once the fuel exceeds the potential, more fuel changes nothing: every turn of the loop lowers
the potential, provided the entries pushed for an entry are smaller in total than the entry -/
theorem thresholdLoop_extra {β σ : Type} (f : β → Node α) (expand : β → σ → List β × σ)
    (target extra : Nat) (hdec : ∀ it d, tot f (expand it d).1 < (f it).size) :
    ∀ (fuel : Nat) (queue work : List β) (d : σ), mu f queue work < fuel →
      thresholdLoop expand target (fuel + extra) queue work d
        = thresholdLoop expand target fuel queue work d := by
  intro fuel
  induction fuel with
  | zero => exact fun _ _ _ h => absurd h (Nat.not_lt_zero _)
  | succ fuel ih =>
    intro queue work d h
    rw [Nat.add_right_comm, thresholdLoop, thresholdLoop]
    by_cases hc : (!(queue.isEmpty && work.isEmpty) &&
        decide (queue.length + work.length < target)) = true
    · rw [if_pos hc, if_pos hc]
      cases hq : queue.getLast? with
      | none =>
        have := mu_swap f queue work hq (Bool.and_eq_true _ _ ▸ hc).1
        exact ih work queue d (by omega)
      | some it =>
        have := mu_pop f queue work _ it hq (hdec it d)
        exact ih _ _ _ (by omega)
    · rw [if_neg hc, if_neg hc]

/-! ## vanilla -/

/-- the entries pushed for the children `ks` (`f`, `mk` as in `Van.kidItems_spec`) are not larger
in total than `ks` -/
theorem kidItems_tot (mk : Nat → α → Node α → VItem α)
    (f : List α → List (Node α) → Nat → List (VItem α))
    (hcons : ∀ w ws k ks a, f (w :: ws) (k :: ks) a = mk a w k :: f ws ks (a + 1))
    (hnil : ∀ ks a, f [] ks a = []) (hnil' : ∀ ws a, f ws [] a = [])
    (hnode : ∀ a w k, (mk a w k).node = k) :
    ∀ (ks : List (Node α)) (ws : List α) (a : Nat), tot VItem.node (f ws ks a) ≤ Node.sizeL ks := by
  intro ks
  induction ks with
  | nil => intro ws a; rw [hnil']; exact Nat.zero_le _
  | cons k ks ih =>
    intro ws a
    cases ws with
    | nil => rw [hnil]; exact Nat.zero_le _
    | cons w ws =>
      have := ih ws (a + 1)
      rw [hcons, tot_cons, hnode]
      simp only [Node.sizeL]
      omega

theorem vExpand_tot (c : VCtx α) (it : VItem α) (d : DrawSt α) :
    tot VItem.node (Van.vExpand c it d).1 < it.node.size := by
  unfold Van.vExpand
  cases hn : it.node with
  | term p => exact size_pos _
  | chance i ks =>
    simp only [Node.size]
    cases hs : c.sampled with
    | true =>
      simp only [if_true]
      cases hk : ks[(sampleChance c.draw c.pass (c.ch.getD i []) i d).1]? with
      | none => exact Nat.lt_of_lt_of_le Nat.zero_lt_one (Nat.le_add_right _ _)
      | some n =>
        have := getElem?_size ks _ n hk
        simp only [tot_cons, tot_nil]
        omega
    | false =>
      have := kidItems_tot (fun a p n => ⟨it.path ++ [a], n, it.pc * p, it.p1, it.p2⟩)
        (chanceItems it.path it.pc it.p1 it.p2) (fun _ _ _ _ _ => rfl) (fun _ _ => rfl)
        (fun ws _ => by cases ws <;> rfl) (fun _ _ _ => rfl) ks (c.ch.getD i []) 0
      simp only [Bool.false_eq_true, if_false]
      omega
  | player one i ks =>
    have := kidItems_tot
      (fun a s n => if one then ⟨it.path ++ [a], n, it.pc, it.p1 * s, it.p2⟩
        else ⟨it.path ++ [a], n, it.pc, it.p1, it.p2 * s⟩)
      (childItems one it.path it.pc it.p1 it.p2) (fun _ _ _ _ _ => rfl) (fun _ _ => rfl)
      (fun ws _ => by cases ws <;> rfl) (fun _ _ _ => by cases one <;> rfl) ks (c.strat one i) 0
    simp only [Node.size]
    omega

/-! ## external sampling -/

theorem eChildren_tot (path : Path) : ∀ (ks : List (Node α)) (a : Nat),
    tot EItem.node (eChildren path ks a) = Node.sizeL ks
  | [], _ => by simp [eChildren, tot_nil, Node.sizeL]
  | k :: ks, a => by
    have := eChildren_tot path ks (a + 1)
    simp only [eChildren, tot_cons, Node.sizeL]
    omega

theorem eNextNodes_indep (c : ECtx α) : ∀ (f1 f2 : Nat) (n : Node α) (path : Path) (d : DrawSt α),
    n.size ≤ f1 → n.size ≤ f2 → eNextNodes c f1 n path d = eNextNodes c f2 n path d := by
  intro f1
  induction f1 with
  | zero => exact fun _ n _ _ h1 _ => absurd h1 (Nat.not_le_of_gt (size_pos n))
  | succ f1 ih =>
    intro f2 n path d h1 h2
    cases f2 with
    | zero => exact absurd h2 (Nat.not_le_of_gt (size_pos n))
    | succ f2 =>
      -- following child `k` of the children `ks` of `n`
      have follow : ∀ (ks : List (Node α)), Node.sizeL ks < n.size → ∀ (k : Nat) (d' : DrawSt α),
          (match ks[k]? with
            | some n' => eNextNodes c f1 n' (path ++ [k]) d'
            | none => (none, d')) =
          match ks[k]? with
            | some n' => eNextNodes c f2 n' (path ++ [k]) d'
            | none => (none, d') := fun ks hks k d' => by
        cases hk : ks[k]? with
        | none => rfl
        | some n' =>
          have := getElem?_size ks k n' hk
          exact ih f2 n' _ d' (by omega) (by omega)
      cases n with
      | term p => rfl
      | chance i ks =>
        rw [eNextNodes_chance, eNextNodes_chance]
        exact follow ks (by simp only [Node.size]; omega) _ _
      | player one i ks =>
        by_cases ho : (one == c.first) = true
        · rw [eNextNodes_own _ _ _ _ _ _ _ ho, eNextNodes_own _ _ _ _ _ _ _ ho]
        · rw [eNextNodes_opp _ _ _ _ _ _ _ ho, eNextNodes_opp _ _ _ _ _ _ _ ho]
          exact follow ks (by simp only [Node.size]; omega) _ _

/-- the items `next_nodes` returns are the children of a descendant: smaller in total -/
theorem eNextNodes_tot (c : ECtx α) : ∀ (f : Nat) (n : Node α) (path : Path) (d : DrawSt α)
    (items : List (EItem α)) (d' : DrawSt α),
    eNextNodes c f n path d = (some items, d') → tot EItem.node items < n.size := by
  intro f
  induction f with
  | zero => intro _ _ _ _ _ h; cases h
  | succ f ih =>
    intro n path d items d' h
    have follow : ∀ (ks : List (Node α)) (k : Nat) (d1 : DrawSt α),
        (match ks[k]? with
          | some n' => eNextNodes c f n' (path ++ [k]) d1
          | none => (none, d1)) = (some items, d') → tot EItem.node items < 1 + Node.sizeL ks :=
      fun ks k d1 h => by
        cases hk : ks[k]? with
        | none => rw [hk] at h; cases h
        | some n' =>
          rw [hk] at h
          have := ih n' _ d1 items d' h
          have := getElem?_size ks k n' hk
          omega
    cases n with
    | term p => cases h
    | chance i ks => rw [eNextNodes_chance] at h; exact follow ks _ _ h
    | player one i ks =>
      by_cases ho : (one == c.first) = true
      · rw [eNextNodes_own _ _ _ _ _ _ _ ho] at h
        cases h
        rw [eChildren_tot]
        exact Nat.lt_one_add_iff.mpr (Nat.le_refl _)
      · rw [eNextNodes_opp _ _ _ _ _ _ _ ho] at h; exact follow ks _ _ h

theorem eExpand_tot (c : ECtx α) (depth : Nat) (it : EItem α) (d : DrawSt α) :
    tot EItem.node (eExpand c depth it d).1 < it.node.size := by
  unfold eExpand
  rcases he : eNextNodes c depth it.node it.path d with ⟨_ | nexts, d'⟩
  · exact size_pos _
  · exact eNextNodes_tot c depth it.node it.path d nexts d' he

end Fuel

/-- the frontier loop of the vanilla solvers -/
theorem vThreshold_fuel_enough (g : Game α) (c : VCtx α) (target extra : Nat) (d : DrawSt α) :
    vThreshold c target (2 * g.root.size + 2 + extra) [⟨[], g.root, 1, 1, 1⟩] [] d
      = vThreshold c target (2 * g.root.size + 2) [⟨[], g.root, 1, 1, 1⟩] [] d := by
  rw [Van.vThreshold_eq_loop, Van.vThreshold_eq_loop]
  exact Fuel.thresholdLoop_extra VItem.node _ target extra (Fuel.vExpand_tot c) _ _ _ _
    (by simp [Fuel.mu, Fuel.tot])

/-- following the sampled path to the updating player's next node -/
theorem eNextNodes_fuel_enough (c : ECtx α) (n : Node α) (path : Path) (extra : Nat) (d : DrawSt α) :
    eNextNodes c (n.size + extra) n path d = eNextNodes c n.size n path d :=
  Fuel.eNextNodes_indep c _ _ n path d (by omega) (by omega)

/-- the frontier loop of the external-sampling solver -/
theorem eThreshold_fuel_enough (g : Game α) (c : ECtx α) (target extra : Nat) (d : DrawSt α) :
    eThreshold c target g.root.size (2 * g.root.size + 2 + extra) [⟨[], g.root⟩] [] d
      = eThreshold c target g.root.size (2 * g.root.size + 2) [⟨[], g.root⟩] [] d := by
  rw [eThreshold_eq_loop, eThreshold_eq_loop]
  exact Fuel.thresholdLoop_extra EItem.node _ target extra (Fuel.eExpand_tot c _) _ _ _ _
    (by simp [Fuel.mu, Fuel.tot])

end Cfr
