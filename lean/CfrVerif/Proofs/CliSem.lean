import CfrVerif.Model.Cli
import CfrVerif.Proofs.RawSem
/-!
# The game exactly as written in a Gambit file

`efgEV gi ρ who` is the expected *cumulative* payoff of player `who` on the file's tree: every
outcome met on the path (interior nodes included) pays, chance moves follow the file's
probabilities, decisions follow the labelled profile `ρ` (infosets by their resolved names,
actions by their labels).  It never mentions the constant-sum offset.
-/
set_option linter.unusedSectionVars false
namespace Cfr
variable {α : Type} [Field α] [LinearOrder α] [IsStrictOrderedRing α]

/-- the payoff pair of an outcome in the file's outcome table (`(0, 0)` for the null outcome) -/
def outcomePair (tbl : List (Nat × (α × α))) (oc : Nat) : α × α :=
  if oc = 0 then (0, 0) else (assocFind tbl oc).getD (0, 0)

mutual
/-- expected cumulative payoff of player `who` (`true` = player one) below a node, given what
the path has paid so far -/
def efgEV (tbl : List (Nat × (α × α))) (names : Bool → List (Nat × Nat)) (ρ : LProfile α)
    (who : Bool) : Efg α → α → α
  | .term oc _, cum => cum + (if who then (outcomePair tbl oc).1 else (outcomePair tbl oc).2)
  | .chance _ _ probs kids oc _, cum =>
    efgEVC tbl names ρ who probs.sum probs kids
      (cum + (if who then (outcomePair tbl oc).1 else (outcomePair tbl oc).2))
  | .player num info _ acts kids oc _, cum =>
    efgEVP tbl names ρ who (num == 1) ((assocFind (names (num == 1)) info).getD 0) acts kids
      (cum + (if who then (outcomePair tbl oc).1 else (outcomePair tbl oc).2))
def efgEVC (tbl : List (Nat × (α × α))) (names : Bool → List (Nat × Nat)) (ρ : LProfile α)
    (who : Bool) (total : α) : List α → List (Efg α) → α → α
  | p :: ps, k :: ks, cum =>
    p / total * efgEV tbl names ρ who k cum + efgEVC tbl names ρ who total ps ks cum
  | _, _, _ => 0
def efgEVP (tbl : List (Nat × (α × α))) (names : Bool → List (Nat × Nat)) (ρ : LProfile α)
    (who : Bool) (one : Bool) (label : Nat) : List Nat → List (Efg α) → α → α
  | a :: as, k :: ks, cum =>
    ρ one label a * efgEV tbl names ρ who k cum + efgEVP tbl names ρ who one label as ks cum
  | _, _, _ => 0
end

/-- the file is constant-sum `K` exactly: on every root-to-leaf path the two cumulative payoffs
add up to `K` -/
def ExactConstantSum (tbl : List (Nat × (α × α))) (root : Efg α) (K : α) : Prop :=
  ∀ ls, Efg.leaves tbl root (0, 0) = .ok ls → ∀ c ∈ ls, c.1 + c.2 = K

end Cfr
