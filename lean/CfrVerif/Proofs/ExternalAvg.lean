import CfrVerif.Proofs.PresetGameInv
/-!
# External sampling: both players' averages weight iteration `t` by `t^γ`

In `external.rs` the updating player of a pass is advanced right after that pass: player one in
the first pass of iteration `t` with the *average* index `t − 1` (`if FIRST { it - 1 } else { it }`),
player two in the second pass with `t`.  A player's average-strategy accumulator receives its
additions during the *other* player's pass.  The shift by one is exactly what makes both players
weight the additions of iteration `t` by `t^γ`: after `t` iterations

* player two's accumulator times `(t+1)^γ` is `Σ_{k ≤ t} k^γ · (additions of iteration k)`,
* player one's accumulator times `t^γ` is `Σ_{k ≤ t} k^γ · (additions of iteration k)`.
-/
set_option linter.unusedSectionVars false
set_option linter.unusedVariables false
namespace Cfr

/-- the state of the external-sampling solver after `t` iterations (no early termination) -/
noncomputable def extRun (g : Game ℝ) (p : RegretParams ℝ) (draw : DrawFn ℝ) :
    Nat → SolveSt ℝ × List (DrawRec ℝ)
  | 0 => (SolveSt.init g, [])
  | t + 1 =>
    ((externalIter g p draw (t + 1) (extRun g p draw t).1 (extRun g p draw t).2).1,
     (externalIter g p draw (t + 1) (extRun g p draw t).1 (extRun g p draw t).2).2.2.2)

/-- the state in the middle of iteration `t + 1`: after player one's pass, before player two's -/
noncomputable def extMid (g : Game ℝ) (p : RegretParams ℝ) (draw : DrawFn ℝ) (t : Nat) :
    SolveSt ℝ × List (DrawRec ℝ) :=
  ((externalPass g true p draw (t + 1) (extRun g p draw t).1 (extRun g p draw t).2).1,
   (externalPass g true p draw (t + 1) (extRun g p draw t).1 (extRun g p draw t).2).2.2)

noncomputable def xPassCtx (g : Game ℝ) (first : Bool) (draw : DrawFn ℝ) (it : Nat) (s : SolveSt ℝ) : ECtx ℝ :=
  ⟨g.chance, first, s.strat, draw, 2 * (it - 1) + (if first then 0 else 1), if first then it - 1 else it⟩

/-- what iteration `k + 1` adds to the average-strategy accumulator `(me, I, a)`: player two's
accumulators are fed by player one's pass, player one's by player two's pass -/
noncomputable def extStratInc (g : Game ℝ) (p : RegretParams ℝ) (draw : DrawFn ℝ) (k : Nat) (me : Bool)
    (I a : Nat) : ℝ :=
  if me then
    effSum (erec (xPassCtx g false draw (k + 1) (extMid g p draw k).1) g.root
      { log := (extMid g p draw k).2 }).2.1 true I Slot.strat a
  else
    effSum (erec (xPassCtx g true draw (k + 1) (extRun g p draw k).1) g.root
      { log := (extRun g p draw k).2 }).2.1 false I Slot.strat a

namespace XA

theorem extRun_zero (g : Game ℝ) (p : RegretParams ℝ) (draw : DrawFn ℝ) :
    extRun g p draw 0 = (SolveSt.init g, []) := rfl

theorem extRun_succ (g : Game ℝ) (p : RegretParams ℝ) (draw : DrawFn ℝ) (t : Nat) :
    extRun g p draw (t + 1) =
      ((externalIter g p draw (t + 1) (extRun g p draw t).1 (extRun g p draw t).2).1,
       (externalIter g p draw (t + 1) (extRun g p draw t).1 (extRun g p draw t).2).2.2.2) := rfl

theorem extRun_succ_mid (g : Game ℝ) (p : RegretParams ℝ) (draw : DrawFn ℝ) (t : Nat) :
    (extRun g p draw (t + 1)).1 =
      (externalPass g false p draw (t + 1) (extMid g p draw t).1 (extMid g p draw t).2).1 := by
  simp only [extRun, externalIter, extMid]

theorem erecNth_strat_zero (c : ECtx ℝ) (I a : Nat) :
    ∀ (ks : List (Node ℝ)) (k : Nat) (d : DrawSt ℝ),
      effSum (erecNth c ks k d).2.1 c.first I Slot.strat a = 0 :=
  SI.erecNth_strat_zero c I a

theorem erecActs_strat_zero (c : ECtx ℝ) (I a : Nat) (one : Bool) (i : Nat) :
    ∀ (ss : List ℝ) (ks : List (Node ℝ)) (d : DrawSt ℝ) (k : Nat) (ex : ℝ),
      effSum (erecActs c one i ss ks d k ex).2.1 c.first I Slot.strat a = 0 :=
  SI.erecActs_strat_zero c I a one i

theorem externalPass_length (g : Game ℝ) (first : Bool) (p : RegretParams ℝ) (draw : DrawFn ℝ)
    (it : Nat) (s : SolveSt ℝ) (log : List (DrawRec ℝ)) (me : Bool) :
    ((externalPass g first p draw it s log).1.get me).length = (s.get me).length := by
  by_cases h : me = first
  · subst h
    rw [SI.externalPass_get_self, List.length_map]
    exact (applyEffs_cell s _ me).1
  · rw [SI.externalPass_get_other _ _ _ _ _ _ _ _ h]
    exact (applyEffs_cell s _ me).1

/-- the average-strategy accumulator through one pass, entry by entry: the updating player's gets
nothing added and is discounted with the average index, the other player's gets the pass's
additions and no discount -/
theorem externalPass_cumStrat (g : Game ℝ) (first : Bool) (p : RegretParams ℝ) (hp : 0 ≤ p.strat)
    (draw : DrawFn ℝ) (it : Nat) (s : SolveSt ℝ) (log : List (DrawRec ℝ)) (me : Bool) (I : Nat)
    (x : InfoSt ℝ) (hx : (s.get me)[I]? = some x) :
    ∃ x', ((externalPass g first p draw it s log).1.get me)[I]? = some x' ∧
      x'.cumStrat.length = x.cumStrat.length ∧
      ∀ a, a < x.cumStrat.length →
        x'.cumStrat.getD a 0 =
          if me = first then
            x.cumStrat.getD a 0 * (((if first then it - 1 else it : Nat) : ℝ) /
              (((if first then it - 1 else it : Nat) : ℝ) + 1)) ^ p.strat
          else x.cumStrat.getD a 0 + effSum (SI.passEffs g first draw it s log) me I Slot.strat a := by
  obtain ⟨x', hx', hself, hother⟩ := external_pass_update g first p draw it s log me I x hx
  refine ⟨x', hx', ?_⟩
  by_cases hm : me = first
  · obtain ⟨_, e, _⟩ := hself hm
    rw [e, discountAverageStrat_entry p hp, List.length_map]
    exact ⟨rfl, fun a ha => by rw [if_pos hm, getD_map_lt _ _ a ha]⟩
  · obtain ⟨_, _, e⟩ := hother hm
    rw [e, vadd_length, SI.incVec_length, min_self]
    refine ⟨rfl, fun a ha => ?_⟩
    rw [if_neg hm, vadd_getD _ _ a ha (by rw [SI.incVec_length]; exact ha), incVec,
      SI.getD_range_map _ _ a ha]
    rfl

theorem extRun_pred (g : Game ℝ) (p : RegretParams ℝ) (draw : DrawFn ℝ) (t : Nat) (me : Bool)
    (I : Nat) (x'' : InfoSt ℝ) (hx'' : ((extRun g p draw (t + 1)).1.get me)[I]? = some x'') :
    ∃ x, ((extRun g p draw t).1.get me)[I]? = some x := by
  have hI := (List.getElem?_eq_some_iff.mp hx'').1
  rw [extRun_succ_mid, externalPass_length, extMid, externalPass_length] at hI
  exact ⟨_, List.getElem?_eq_getElem hI⟩

/-- an accumulator through iteration `t + 1`.  Player one's: its own pass discounts with the index
`t`, then player two's pass adds.  Player two's: player one's pass adds, its own pass discounts with
the index `t + 1`. -/
theorem step (g : Game ℝ) (p : RegretParams ℝ) (hp : 0 ≤ p.strat) (draw : DrawFn ℝ) (t : Nat)
    (me : Bool) (I : Nat) (x'' : InfoSt ℝ)
    (hx'' : ((extRun g p draw (t + 1)).1.get me)[I]? = some x'') :
    ∃ x, ((extRun g p draw t).1.get me)[I]? = some x ∧
      x''.cumStrat.length = x.cumStrat.length ∧
      ∀ a, a < x.cumStrat.length →
        x''.cumStrat.getD a 0 =
          if me then x.cumStrat.getD a 0 * (((t : Nat) : ℝ) / (((t : Nat) : ℝ) + 1)) ^ p.strat
            + extStratInc g p draw t true I a
          else (x.cumStrat.getD a 0 + extStratInc g p draw t false I a) *
            (((t + 1 : Nat) : ℝ) / (((t + 1 : Nat) : ℝ) + 1)) ^ p.strat := by
  obtain ⟨x, hx⟩ := extRun_pred g p draw t me I x'' hx''
  rw [extRun_succ_mid] at hx''
  obtain ⟨x1, h1, l1, c1⟩ := externalPass_cumStrat g true p hp draw (t + 1) (extRun g p draw t).1
    (extRun g p draw t).2 me I x hx
  obtain ⟨x2, h2, l2, c2⟩ := externalPass_cumStrat g false p hp draw (t + 1) (extMid g p draw t).1
    (extMid g p draw t).2 me I x1 h1
  obtain rfl : x2 = x'' := Option.some.inj (h2.symm.trans hx'')
  refine ⟨x, hx, l2.trans l1, fun a ha => ?_⟩
  rw [c2 a (l1 ▸ ha), c1 a ha]
  cases me
  · rw [if_pos rfl, if_neg (by decide), if_neg (by decide)]
    rfl
  · rw [if_neg (by decide), if_pos rfl, if_pos rfl]
    rfl

end XA

open XA in
/-- the run is what `solve_external_single` computes -/
theorem extRun_returns (g : Game ℝ) (p : RegretParams ℝ) (draw : DrawFn ℝ) (T : Nat) :
    (solveExternalSingle g p draw T none).stratOne = (extRun g p draw T).1.avg true ∧
    (solveExternalSingle g p draw T none).stratTwo = (extRun g p draw T).1.avg false := by
  have := PG.solveLoop_none_avg _ (extRun g p draw) (extRun_succ g p draw) T 0 .posInf .posInf
  rw [zero_add, zero_add] at this
  exact this

open XA in
/-- the `it − 1` of the first player compensates that its additions of iteration `t` arrive after
its advance of iteration `t` -/
theorem external_avg_weights (g : Game ℝ) (p : RegretParams ℝ) (hp : 0 ≤ p.strat)
    (draw : DrawFn ℝ) (t : Nat) (me : Bool) (I : Nat) (x : InfoSt ℝ)
    (hx : ((extRun g p draw t).1.get me)[I]? = some x) (a : Nat) (ha : a < x.cumStrat.length) :
    x.cumStrat.getD a 0 * ((if me then t else t + 1 : Nat) : ℝ) ^ p.strat
      = ((List.range t).map (fun k => ((k + 1 : Nat) : ℝ) ^ p.strat *
          extStratInc g p draw k me I a)).sum := by
  induction t generalizing x with
  | zero =>
    rw [PG.init_cumStrat g me I x hx a, zero_mul]
    rfl
  | succ t ih =>
    obtain ⟨y, hy, ly, cy⟩ := step g p hp draw t me I x hx
    have ha0 : a < y.cumStrat.length := ly ▸ ha
    rw [cy a ha0, List.sum_range_succ, ← ih y hy ha0]
    cases me
    · rw [if_neg Bool.false_ne_true, if_neg Bool.false_ne_true, if_neg Bool.false_ne_true,
        mul_assoc, PG.ratio_rpow]
      ring
    · rw [if_pos rfl, if_pos rfl, if_pos rfl, add_mul, mul_assoc, PG.ratio_rpow]
      ring

end Cfr
