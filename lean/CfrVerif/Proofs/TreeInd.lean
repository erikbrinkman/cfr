import CfrVerif.Proofs.Transforms
import CfrVerif.Proofs.Basic
import CfrVerif.Model.Eval
/-!
# Induction over trees, and the child loops as `List.map`

A function defined by recursion over `Node` or `Raw` comes with a companion over the list of
children.  Where the companion only applies the function to every child it is `List.map`
(`Node.mapPayL_eq_map`, `Raw.mapPayL_eq_map`, `Node.swapL_eq_map`, `Raw.renameL_eq_map`); for
`Node.mapPay` and `Node.swap` the equations at the interior constructors are restated in that
form.  Induction is offered with the statement for every child as hypothesis
(`Node.induct` of `Proofs/NodeInd.lean`, `Raw.induct` here): a fact about a tree then needs one
ordinary induction, and the fact about a child loop it rests on is a lemma about lists with the
hypothesis `∀ k ∈ ks, …`.
-/
set_option linter.unusedSectionVars false
namespace Cfr

section induct
variable {α : Type}

@[elab_as_elim]
theorem Raw.induct {P : Raw α → Prop} (term : ∀ p, P (.term p))
    (chance : ∀ i ws ks, (∀ k ∈ ks, P k) → P (.chance i ws ks))
    (player : ∀ one i as ks, (∀ k ∈ ks, P k) → P (.player one i as ks)) (r : Raw α) : P r :=
  Raw.rec (motive_1 := P) (motive_2 := fun ks => ∀ k ∈ ks, P k) term chance player
    (fun _ h => nomatch h) (fun _ _ hk hks => List.forall_mem_cons.mpr ⟨hk, hks⟩) r

end induct

variable {α : Type} [Field α] [LinearOrder α] [IsStrictOrderedRing α]

/-! ## payoffs -/

theorem Node.mapPayL_eq_map (f : α → α) : ∀ ks : List (Node α), Node.mapPayL f ks = ks.map (Node.mapPay f)
  | [] => rfl
  | k :: ks => by rw [Node.mapPayL, Node.mapPayL_eq_map f ks, List.map_cons]

@[simp] theorem Node.mapPay_chance (f : α → α) (i : Nat) (ks : List (Node α)) :
    (Node.chance i ks).mapPay f = .chance i (ks.map (Node.mapPay f)) := by
  simp only [Node.mapPay, Node.mapPayL_eq_map]
@[simp] theorem Node.mapPay_player (f : α → α) (one : Bool) (i : Nat) (ks : List (Node α)) :
    (Node.player one i ks).mapPay f = .player one i (ks.map (Node.mapPay f)) := by
  simp only [Node.mapPay, Node.mapPayL_eq_map]

theorem Raw.mapPayL_eq_map (f : α → α) : ∀ ks : List (Raw α), Raw.mapPayL f ks = ks.map (Raw.mapPay f)
  | [] => rfl
  | k :: ks => by rw [Raw.mapPayL, Raw.mapPayL_eq_map f ks, List.map_cons]


/-! ## exchanged players -/

theorem Node.swapL_eq_map : ∀ ks : List (Node α), Node.swapL ks = ks.map Node.swap
  | [] => rfl
  | k :: ks => by rw [Node.swapL, Node.swapL_eq_map ks, List.map_cons]

@[simp] theorem Node.swap_chance (i : Nat) (ks : List (Node α)) :
    (Node.chance i ks).swap = .chance i (ks.map Node.swap) := by
  simp only [Node.swap, Node.swapL_eq_map]
@[simp] theorem Node.swap_player (one : Bool) (i : Nat) (ks : List (Node α)) :
    (Node.player one i ks).swap = .player (!one) i (ks.map Node.swap) := by
  simp only [Node.swap, Node.swapL_eq_map]

/-! ## renamed labels -/

theorem Raw.renameL_eq_map (ρ : Renaming) : ∀ ks : List (Raw α), Raw.renameL ρ ks = ks.map (Raw.rename ρ)
  | [] => rfl
  | k :: ks => by rw [Raw.renameL, Raw.renameL_eq_map ρ ks, List.map_cons]


/-! ## evaluation -/

/-- the child loop of `expected` over the images `f k` of trees, when `f` multiplies the value of
every child by `c`: scaled payoffs (`c`), exchanged players (`-1`), renumbered chance infosets (`1`) -/
theorem expectedL_map_smul (c : α) {ch ch' : List (List α)} {σ σ' : Bool → Strat α}
    (f : Node α → Node α) (skip : Bool) {ks : List (Node α)}
    (h : ∀ k ∈ ks, expected ch' σ' (f k) = c * expected ch σ k) (ps : List α) :
    expectedL ch' σ' skip ps (ks.map f) = c * expectedL ch σ skip ps ks := by
  induction ks generalizing ps with
  | nil => cases ps <;> exact (mul_zero c).symm
  | cons k ks ih =>
    rw [List.forall_mem_cons] at h
    cases ps with
    | nil => exact (mul_zero c).symm
    | cons p ps =>
      simp only [List.map_cons, expectedL, h.1, ih h.2, mul_add, mul_ite, mul_zero, mul_left_comm p c]

end Cfr
