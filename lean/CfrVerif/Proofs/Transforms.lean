import CfrVerif.Model.Solve
/-!
# Changes of presentation (C12): definitions

* on input trees (`Raw`): rescaling chance weights, padding with degenerate nodes, renaming labels,
  mapping payoffs, exchanging the players;
* on compiled games (`Game`) and solver results (`SolveOut`): the corresponding images.
-/
set_option linter.unusedSectionVars false
namespace Cfr
variable {α : Type}

/-! ## payoffs -/

mutual
/-- apply `f` to every terminal payoff -/
def Raw.mapPay (f : α → α) : Raw α → Raw α
  | .term p => .term (f p)
  | .chance i ws ks => .chance i ws (Raw.mapPayL f ks)
  | .player o i as ks => .player o i as (Raw.mapPayL f ks)
def Raw.mapPayL (f : α → α) : List (Raw α) → List (Raw α)
  | [] => []
  | k :: ks => Raw.mapPay f k :: Raw.mapPayL f ks
end

mutual
def Node.mapPay (f : α → α) : Node α → Node α
  | .term p => .term (f p)
  | .chance i ks => .chance i (Node.mapPayL f ks)
  | .player o i ks => .player o i (Node.mapPayL f ks)
def Node.mapPayL (f : α → α) : List (Node α) → List (Node α)
  | [] => []
  | k :: ks => Node.mapPay f k :: Node.mapPayL f ks
end

def Game.mapPay (f : α → α) (g : Game α) : Game α := { g with root := g.root.mapPay f }

/-! ## exchanging the players (and negating the payoffs) -/

mutual
def Raw.swap [Neg α] : Raw α → Raw α
  | .term p => .term (-p)
  | .chance i ws ks => .chance i ws (Raw.swapL ks)
  | .player o i as ks => .player (!o) i as (Raw.swapL ks)
def Raw.swapL [Neg α] : List (Raw α) → List (Raw α)
  | [] => []
  | k :: ks => Raw.swap k :: Raw.swapL ks
end

mutual
def Node.swap [Neg α] : Node α → Node α
  | .term p => .term (-p)
  | .chance i ks => .chance i (Node.swapL ks)
  | .player o i ks => .player (!o) i (Node.swapL ks)
def Node.swapL [Neg α] : List (Node α) → List (Node α)
  | [] => []
  | k :: ks => Node.swap k :: Node.swapL ks
end

def Game.swap [Neg α] (g : Game α) : Game α :=
  { chance := g.chance, p1 := g.p2, p2 := g.p1, s1 := g.s2, s2 := g.s1, root := g.root.swap }

/-- the mirrored result: strategies, bounds exchanged -/
def SolveOut.swap (o : SolveOut α) : SolveOut α :=
  { o with regOne := o.regTwo, regTwo := o.regOne, stratOne := o.stratTwo, stratTwo := o.stratOne }

/-- multiply a finite extended value by `c`, leave `±∞` as it is -/
def Ext.scale [Mul α] (c : α) : Ext α → Ext α
  | .fin x => .fin (c * x)
  | e => e

/-- bounds multiplied by `c`, everything else unchanged -/
def SolveOut.scale [Mul α] (c : α) (o : SolveOut α) : SolveOut α :=
  { o with regOne := o.regOne.scale c, regTwo := o.regTwo.scale c }

/-! ## chance weights -/

mutual
/-- `r'` is `r` with the weight lists of some chance nodes multiplied by positive constants
(a different constant at every node, if one likes) -/
def Rescaled [Mul α] [Zero α] [LT α] : Raw α → Raw α → Prop
  | .term p, .term p' => p = p'
  | .chance i ws ks, .chance i' ws' ks' =>
    i = i' ∧ (∃ c : α, 0 < c ∧ ws' = ws.map (fun w => c * w)) ∧ RescaledL ks ks'
  | .player o i as ks, .player o' i' as' ks' => o = o' ∧ i = i' ∧ as = as' ∧ RescaledL ks ks'
  | _, _ => False
def RescaledL [Mul α] [Zero α] [LT α] : List (Raw α) → List (Raw α) → Prop
  | [], [] => True
  | k :: ks, k' :: ks' => Rescaled k k' ∧ RescaledL ks ks'
  | _, _ => False
end

/-! ## degenerate nodes -/

mutual
/-- `Padded fresh act r r'` : `r'` is `r` with single-outcome chance nodes (no infoset name, any
positive weight) and single-action decision nodes (infoset label `l` with `fresh o l = true`, action
`act o l`) inserted anywhere -/
inductive Padded [Zero α] [LT α] (fresh : Bool → Nat → Bool) (act : Bool → Nat → Nat) : Raw α → Raw α → Prop
  | term (p : α) : Padded fresh act (.term p) (.term p)
  | chance (i : Option Nat) (ws : List α) (ks ks' : List (Raw α)) :
      PaddedL fresh act ks ks' → Padded fresh act (.chance i ws ks) (.chance i ws ks')
  | player (o : Bool) (i : Nat) (as : List Nat) (ks ks' : List (Raw α)) :
      PaddedL fresh act ks ks' → Padded fresh act (.player o i as ks) (.player o i as ks')
  | padChance (r k' : Raw α) (w : α) :
      0 < w → Padded fresh act r k' → Padded fresh act r (.chance none [w] [k'])
  | padPlayer (r k' : Raw α) (o : Bool) (l : Nat) :
      fresh o l = true → Padded fresh act r k' → Padded fresh act r (.player o l [act o l] [k'])
inductive PaddedL [Zero α] [LT α] (fresh : Bool → Nat → Bool) (act : Bool → Nat → Nat) :
    List (Raw α) → List (Raw α) → Prop
  | nil : PaddedL fresh act [] []
  | cons (k k' : Raw α) (ks ks' : List (Raw α)) :
      Padded fresh act k k' → PaddedL fresh act ks ks' → PaddedL fresh act (k :: ks) (k' :: ks')
end

mutual
/-- no node of the tree uses an infoset label that is reserved for padding -/
def Raw.AvoidsFresh (fresh : Bool → Nat → Bool) : Raw α → Prop
  | .term _ => True
  | .chance _ _ ks => Raw.AvoidsFreshL fresh ks
  | .player o i _ ks => fresh o i = false ∧ Raw.AvoidsFreshL fresh ks
def Raw.AvoidsFreshL (fresh : Bool → Nat → Bool) : List (Raw α) → Prop
  | [] => True
  | k :: ks => Raw.AvoidsFresh fresh k ∧ Raw.AvoidsFreshL fresh ks
end

/-! ## renaming -/

/-- a renaming of player infoset labels (per player), action labels and chance infoset labels -/
structure Renaming where
  info : Bool → Nat → Nat
  act : Nat → Nat
  chance : Nat → Nat

def Renaming.Injective (ρ : Renaming) : Prop :=
  (∀ o, Function.Injective (ρ.info o)) ∧ Function.Injective ρ.act ∧ Function.Injective ρ.chance

mutual
def Raw.rename (ρ : Renaming) : Raw α → Raw α
  | .term p => .term p
  | .chance i ws ks => .chance (i.map ρ.chance) ws (Raw.renameL ρ ks)
  | .player o i as ks => .player o (ρ.info o i) (as.map ρ.act) (Raw.renameL ρ ks)
def Raw.renameL (ρ : Renaming) : List (Raw α) → List (Raw α)
  | [] => []
  | k :: ks => Raw.rename ρ k :: Raw.renameL ρ ks
end

def PInfo.rename (ρ : Renaming) (o : Bool) (e : PInfo) : PInfo :=
  { label := ρ.info o e.label, actions := e.actions.map ρ.act, prev := e.prev }

/-- the same compiled game under renamed labels: indices, tree, probabilities untouched -/
def Game.rename (ρ : Renaming) (g : Game α) : Game α :=
  { chance := g.chance, p1 := g.p1.map (PInfo.rename ρ true), p2 := g.p2.map (PInfo.rename ρ false),
    s1 := g.s1.map (fun e => (ρ.info true e.1, ρ.act e.2)),
    s2 := g.s2.map (fun e => (ρ.info false e.1, ρ.act e.2)), root := g.root }

/-- two compiled games with the same tree, chance table and per-infoset action counts
(they may differ in labels and in their single-action tables) -/
def Game.SameShape (g g' : Game α) : Prop :=
  g.chance = g'.chance ∧ g.root = g'.root ∧
  g.p1.map (fun e => e.actions.length) = g'.p1.map (fun e => e.actions.length) ∧
  g.p2.map (fun e => e.actions.length) = g'.p2.map (fun e => e.actions.length)

end Cfr
