import CfrVerif.Proofs.LocksVanilla
import CfrVerif.Proofs.Frontier
/-!
# The multi-threaded full / chance-sampled solver takes each infoset's mutex once per visited node

In `src/solve/vanilla.rs` the only place that takes a player infoset's mutex is
`MutexPlayerRecurse::update_cum_strat`: one `lock()` per call, and under it one accumulation
`cum_strat[a] += prob * strat[a]` per action.  In the model those accumulations are the `.strat`
effects (`stratEffs`); the one for action `0` stands for the call (an infoset has at least one
action).  `Proofs/Frontier.lean` shows that the frontier's tasks and the closing recursion together
make a rearrangement of the plain traversal's effects, however the frontier splits the tree.  Hence:

* `vrec_stratUpdates`            : the plain traversal updates the average strategy of an infoset
                                    exactly once per node of the infoset it visits;
* `vanilla_multi_locks_eq_visits`: the tasks and the closing recursion of one multi-threaded
  iteration together update it (take its mutex) exactly as often as the plain traversal's trace
  `vtrace` acquires it — for every task target.  This is the number the harness compares with the
  crate's lock log (`vlocktrace`).
-/
set_option linter.unusedSectionVars false
namespace Cfr

/-- number of `update_cum_strat` calls on infoset `(one, i)` among a list of accumulations: the
accumulations into slot `0` of its average strategy -/
def stratUpdates {α : Type} (one : Bool) (i : Nat) (es : List (Eff α)) : Nat :=
  (es.filter (fun e => e.one == one && e.info == i && e.slot == Slot.strat && e.act == 0)).length

section
variable {α : Type} [Field α] [LinearOrder α] [IsStrictOrderedRing α] [Transc α]

theorem stratUpdates_nil (one : Bool) (i : Nat) : stratUpdates one i ([] : List (Eff α)) = 0 := rfl

theorem stratUpdates_cons (one : Bool) (i : Nat) (e : Eff α) (es : List (Eff α)) :
    stratUpdates one i (e :: es)
      = (if (e.one == one && e.info == i && e.slot == Slot.strat && e.act == 0) = true then 1 else 0)
        + stratUpdates one i es := by
  unfold stratUpdates
  rw [List.filter_cons]
  split
  · exact Nat.add_comm _ 1
  · exact (Nat.zero_add _).symm

theorem stratUpdates_append (one : Bool) (i : Nat) (a b : List (Eff α)) :
    stratUpdates one i (a ++ b) = stratUpdates one i a + stratUpdates one i b := by
  unfold stratUpdates
  rw [List.filter_append, List.length_append]

theorem stratUpdates_perm (one : Bool) (i : Nat) {a b : List (Eff α)} (h : a.Perm b) :
    stratUpdates one i a = stratUpdates one i b :=
  (h.filter _).length_eq

theorem slot_regret_ne : (Slot.regret == Slot.strat) = false := rfl
theorem slot_strat_eq : (Slot.strat == Slot.strat) = true := rfl

theorem stratUpdates_cons_other (one : Bool) (i : Nat) (e : Eff α) (es : List (Eff α))
    (h : e.slot = Slot.regret ∨ (e.act == 0) = false) :
    stratUpdates one i (e :: es) = stratUpdates one i es := by
  rw [stratUpdates_cons, if_neg, Nat.zero_add]
  rcases h with h | h <;> simp [h, slot_regret_ne]

theorem stratUpdates_stratEffs_pos (one : Bool) (i : Nat) (o : Bool) (j : Nat) (own : α)
    (σ : List α) (a : Nat) : stratUpdates one i (stratEffs o j own σ (a + 1)) = 0 := by
  induction σ generalizing a with
  | nil => rfl
  | cons s σ ih => exact (stratUpdates_cons_other one i _ _ (Or.inr rfl)).trans (ih (a + 1))

theorem stratUpdates_stratEffs_zero (one : Bool) (i : Nat) (o : Bool) (j : Nat) (own : α)
    (σ : List α) (hσ : σ ≠ []) :
    stratUpdates one i (stratEffs o j own σ 0) = if o = one ∧ j = i then 1 else 0 := by
  cases σ with
  | nil => exact absurd rfl hσ
  | cons s σ =>
    rw [show stratEffs o j own (s :: σ) 0 = ⟨o, j, .strat, 0, own * s⟩ :: stratEffs o j own σ 1
      from rfl, stratUpdates_cons, stratUpdates_stratEffs_pos, Nat.add_zero]
    simp only [slot_strat_eq, beq_self_eq_true, Bool.and_true, Bool.and_eq_true, beq_iff_eq]

theorem stratUpdates_subEffs (one : Bool) (i : Nat) (o : Bool) (j : Nat) (sub : α) (n : Nat) :
    stratUpdates one i (subEffs o j sub n) = 0 := by
  unfold subEffs
  induction List.range n with
  | nil => rfl
  | cons a l ih => exact (stratUpdates_cons_other one i _ _ (Or.inl rfl)).trans ih

theorem vrec_draws_vvisits (c : VCtx α) (one : Bool) (i : Nat) (n : Node α) (pc p1 p2 : α)
    (d : DrawSt α) : (vrec c n pc p1 p2 d).2.2 = (vvisits c one i n d).2 :=
  (vtrace_draws_eq_vrec c n pc p1 p2 d).symm.trans (vtrace_acq' c one i n d).2

mutual
/-- every player node of the tree finds a non-empty strategy vector in the context -/
def StratsNonempty (c : VCtx α) : Node α → Prop
  | .term _ => True
  | .chance _ ks => StratsNonemptyL c ks
  | .player o j ks => c.strat o j ≠ [] ∧ StratsNonemptyL c ks
def StratsNonemptyL (c : VCtx α) : List (Node α) → Prop
  | [] => True
  | k :: ks => StratsNonempty c k ∧ StratsNonemptyL c ks
end

mutual
/-- the plain traversal updates the average strategy of an infoset once per visited node of it
(every player node of the tree finds a non-empty strategy vector: an infoset has at least one
action) -/
theorem vrec_stratUpdates (c : VCtx α) (n : Node α) (hσ : StratsNonempty c n) (one : Bool) (i : Nat)
    (pc p1 p2 : α) (d : DrawSt α) :
    stratUpdates one i (vrec c n pc p1 p2 d).2.1 = (vvisits c one i n d).1 := by
  cases n with
  | term _ => rfl
  | chance j ks =>
    by_cases hs : c.sampled = true
    · rw [vrec_chance_s c hs]
      simp only [vvisits, if_pos hs]
      exact vrecNth_su c one i ks hσ _ pc p1 p2 _
    · rw [vrec_chance c (Bool.not_eq_true _ ▸ hs)]
      simp only [vvisits, if_neg hs]
      exact vrecChance_su c one i _ ks hσ pc p1 p2 d 0
  | player o j ks =>
    rw [vrec_player]
    simp only [vvisits, stratUpdates_append, stratUpdates_subEffs,
      stratUpdates_stratEffs_zero one i o j _ _ hσ.1, Nat.add_zero]
    rw [vrecActs_su c one i o j _ (c.strat o j) ks hσ.2 pc p1 p2 d 0 0 0]
theorem vrecNth_su (c : VCtx α) (one : Bool) (i : Nat) :
    ∀ (ks : List (Node α)) (_ : StratsNonemptyL c ks) (k : Nat) (pc p1 p2 : α) (d : DrawSt α),
    stratUpdates one i (vrecNth c ks k pc p1 p2 d).2.1 = (vvisitsNth c one i ks k d).1
  | [], _, _ => fun _ _ _ _ => rfl
  | k :: _, hσ, 0 => fun pc p1 p2 d => vrec_stratUpdates c k hσ.1 one i pc p1 p2 d
  | _ :: ks, hσ, n + 1 => vrecNth_su c one i ks hσ.2 n
theorem vrecChance_su (c : VCtx α) (one : Bool) (i : Nat) :
    ∀ (ps : List α) (ks : List (Node α)) (_ : StratsNonemptyL c ks) (pc p1 p2 : α) (d : DrawSt α)
      (acc : α),
    stratUpdates one i (vrecChance c ps ks pc p1 p2 d acc).2.1 = (vvisitsChance c one i ps ks d).1
  | p :: ps, k :: ks, hσ => fun pc p1 p2 d acc => by
    rw [vrecChance_cons]
    simp only [vvisitsChance, stratUpdates_append]
    rw [vrec_stratUpdates c k hσ.1, vrec_draws_vvisits c one i k (pc * p) p1 p2 d,
      vrecChance_su c one i ps ks hσ.2 pc p1 p2 _ _]
  | [], _, _ => fun _ _ _ _ _ => by simp only [vrecChance, vvisitsChance, stratUpdates_nil]
  | _ :: _, [], _ => fun _ _ _ _ _ => rfl
theorem vrecActs_su (c : VCtx α) (one : Bool) (i : Nat)
    (o : Bool) (j : Nat) (mult : α) :
    ∀ (σ : List α) (ks : List (Node α)) (_ : StratsNonemptyL c ks) (pc p1 p2 : α) (d : DrawSt α)
      (a : Nat) (eo ex : α),
    stratUpdates one i (vrecActs c o j mult σ ks pc p1 p2 d a eo ex).2.2.1
      = (vvisitsActs c one i σ ks d).1
  | s :: σ, k :: ks, hσ => fun pc p1 p2 d a eo ex => by
    rw [vrecActs_cons']
    simp only [vvisitsActs, stratUpdates_append,
      stratUpdates_cons_other one i ⟨o, j, .regret, a, _⟩ _ (Or.inl rfl)]
    rw [vrec_stratUpdates c k hσ.1, vrec_draws_vvisits c one i k,
      vrecActs_su c one i o j mult σ ks hσ.2 pc p1 p2 _ _ _ _]
  | [], _, _ => fun _ _ _ _ _ _ _ => by simp only [vrecActs, vvisitsActs, stratUpdates_nil]
  | _ :: _, [], _ => fun _ _ _ _ _ _ _ => rfl
end

/-- **however the frontier splits the tree**, the tasks and the closing recursion of one
multi-threaded iteration together call `update_cum_strat` on each infoset — take its mutex — exactly
as often as the plain traversal's trace acquires it -/
theorem vanilla_multi_locks_eq_visits (g : Game α) (c : VCtx α) (hσ : StratsNonempty c g.root)
    (target : Nat) (log : List (DrawRec α)) (one : Bool) (i : Nat) :
    stratUpdates one i (vanillaMultiEffects g c target log).1
      = acqCount (.player one i) (vtrace c g.root { log := log }).1 := by
  have hp := (Van.vanillaMultiEffects_spec g c target log).1
  have hv := Van.vrec_pv c (Van.rootItem g) { log := log } (Van.Good.init c log).1
  have he : (vrec c g.root 1 1 1 { log := log }).2.1
      = Van.effsOf (Van.pvI c [] (Van.rootItem g)).2 := by
    have := congrArg (fun x => x.2.1) hv
    simpa [Van.rootItem] using this
  rw [stratUpdates_perm one i hp, ← he, vrec_stratUpdates c g.root hσ, vtrace_acqCount]

end

/-! non-vacuity: a chance root over two nodes of player one's infoset `0` (no sampling): the plain
traversal updates that infoset's average strategy twice, the other player's never -/
local instance instTranscRatLvP : Transc ℚ := ⟨id, id, id, fun x _ => x, 0⟩

example : stratUpdates true 0
    (vrec (α := ℚ) ⟨[[1/2, 1/2]], false, fun _ _ => [1/2, 1/2], fun _ _ _ _ => 0, 0⟩
      (.chance 0 [.player true 0 [.term 1, .term 0],
                  .player true 0 [.term 0, .player false 0 [.term 2, .term 3]]]) 1 1 1 {}).2.1 = 2 := by
  decide +kernel

/-- the hypothesis of `vrec_stratUpdates` holds for that context and tree -/
example : StratsNonempty (α := ℚ) ⟨[[1/2, 1/2]], false, fun _ _ => [1/2, 1/2], fun _ _ _ _ => 0, 0⟩
    (.chance 0 [.player true 0 [.term 1, .term 0],
                .player true 0 [.term 0, .player false 0 [.term 2, .term 3]]]) := by
  simp [StratsNonempty, StratsNonemptyL]

example : stratUpdates false 0
    (vrec (α := ℚ) ⟨[[1/2, 1/2]], false, fun _ _ => [1/2, 1/2], fun _ _ _ _ => 0, 0⟩
      (.chance 0 [.player true 0 [.term 1, .term 0],
                  .player true 0 [.term 0, .player false 0 [.term 2, .term 3]]]) 1 1 1 {}).2.1 = 1 := by
  decide +kernel

end Cfr
