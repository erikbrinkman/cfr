import CfrVerif.Proofs.Tables
import CfrVerif.Model.Named
/-!
# Look-ups by key in the infoset tables

The importers find infosets and actions by label, `from_named` through hash maps (last insert
wins: `findLastIdx`), `from_named_eq` by scanning (first match: `List.findIdx?`).  On a table with
distinct keys at most one entry matches, and every look-up that is right in that case (`LookupOK`)
gives the same answer.  What `TablesWF` and `Fits` say position by position is at the end.
-/
namespace Cfr

/-- a look-up function is correct on lists in which at most one element matches -/
def LookupOK {β : Type} (find : (β → Bool) → List β → Option Nat) : Prop :=
  (∀ f l, (∀ x ∈ l, f x = false) → find f l = none) ∧
  (∀ f l k x, l[k]? = some x → f x = true →
    (∀ k' x', l[k']? = some x' → f x' = true → k' = k) → find f l = some k)

theorem lookupOK_findIdx? {β : Type} :
    LookupOK (fun (f : β → Bool) (l : List β) => l.findIdx? f) := by
  refine ⟨fun f l h => List.findIdx?_eq_none_iff.mpr h, fun f l k x hk hx hu => ?_⟩
  obtain ⟨hlt, rfl⟩ := List.getElem?_eq_some_iff.mp hk
  refine List.findIdx?_eq_some_iff_getElem.mpr ⟨hlt, hx, fun j hjk hj => ?_⟩
  exact absurd (hu j l[j] (List.getElem?_eq_getElem (hjk.trans hlt)) hj) hjk.ne

theorem findLastIdx_go_none {β : Type} (f : β → Bool) (l : List β) (i : Nat) (r : Option Nat)
    (h : ∀ x ∈ l, f x = false) : findLastIdx.go f l i r = r := by
  induction l generalizing i r with
  | nil => rfl
  | cons y ys ih =>
    rw [findLastIdx.go, h y List.mem_cons_self]
    exact ih _ _ fun x hx => h x (List.mem_cons_of_mem _ hx)

/-- the accumulator loop ends on the one match, whatever it held before -/
theorem findLastIdx_go_unique {β : Type} (f : β → Bool) (l : List β) (i : Nat) (r : Option Nat)
    (k : Nat) (x : β) (hk : l[k]? = some x) (hx : f x = true)
    (hu : ∀ k' x', l[k']? = some x' → f x' = true → k' = k) :
    findLastIdx.go f l i r = some (i + k) := by
  induction l generalizing i r k with
  | nil => cases hk
  | cons y ys ih =>
    rw [findLastIdx.go]
    cases k with
    | zero =>
      cases (Option.some.inj hk : y = x)
      rw [hx, if_pos rfl]
      refine findLastIdx_go_none f ys _ _ fun z hz => Bool.eq_false_iff.mpr fun hfz => ?_
      obtain ⟨j, hj⟩ := List.getElem?_of_mem hz
      exact Nat.succ_ne_zero j (hu (j + 1) z hj hfz)
    | succ k' =>
      rw [ih (i + 1) _ k' hk fun j z hj hz => Nat.succ_injective (hu (j + 1) z hj hz),
        Nat.add_assoc, Nat.add_comm 1]

theorem lookupOK_findLastIdx {β : Type} :
    LookupOK (fun (f : β → Bool) (l : List β) => findLastIdx f l) :=
  ⟨fun f l h => findLastIdx_go_none f l 0 none h,
    fun f l k x hk hx hu => (findLastIdx_go_unique f l 0 none k x hk hx hu).trans
      (congrArg some (Nat.zero_add k))⟩

theorem nodup_key_inj {β κ : Type} {g : β → κ} {l : List β} (hn : (l.map g).Nodup) {i j : Nat}
    (hi : i < l.length) (hj : j < l.length) (h : g l[i] = g l[j]) : i = j :=
  (hn.getElem_inj_iff (hi := by rwa [List.length_map]) (hj := by rwa [List.length_map])).mp
    (by rw [List.getElem_map, List.getElem_map]; exact h)

section Key
variable {β κ : Type} [BEq κ] [LawfulBEq κ] {find find' : (β → Bool) → List β → Option Nat}

theorem LookupOK.key_some (h : LookupOK find) (g : β → κ) {l : List β} (hn : (l.map g).Nodup)
    {k : Nat} {x : β} (hk : l[k]? = some x) : find (fun y => g y == g x) l = some k := by
  have hgk : (l.map g)[k]? = some (g x) := by rw [List.getElem?_map, hk, Option.map_some]
  refine h.2 _ l k x hk (beq_self_eq_true _) fun k' x' hk' hx' => ?_
  have hgk' : (l.map g)[k']? = some (g x) := by
    rw [List.getElem?_map, hk', Option.map_some, eq_of_beq hx']
  exact (List.getElem?_inj (List.getElem?_eq_some_iff.mp hgk').1 hn).mp (hgk'.trans hgk.symm)

theorem LookupOK.key_none (h : LookupOK find) (g : β → κ) {l : List β} {key : κ}
    (hk : key ∉ l.map g) : find (fun y => g y == key) l = none :=
  h.1 _ l fun x hx => beq_eq_false_iff_ne.mpr fun hg => hk (List.mem_map.mpr ⟨x, hx, hg⟩)

theorem LookupOK.key_eq (h : LookupOK find) (h' : LookupOK find') (g : β → κ) {l : List β}
    (hn : (l.map g).Nodup) (key : κ) :
    find (fun y => g y == key) l = find' (fun y => g y == key) l := by
  by_cases hm : key ∈ l.map g
  · obtain ⟨x, hx, rfl⟩ := List.mem_map.mp hm
    obtain ⟨k, hk⟩ := List.getElem?_of_mem hx
    rw [h.key_some g hn hk, h'.key_some g hn hk]
  · rw [h.key_none g hm, h'.key_none g hm]

end Key

theorem findIdx?_key_some {β κ : Type} [BEq κ] [LawfulBEq κ] (g : β → κ) (k : κ) (xs : List β)
    (i : Nat) (h : xs.findIdx? (fun x => g x == k) = some i) : ∃ h : i < xs.length, g xs[i] = k := by
  obtain ⟨hlt, hi, -⟩ := List.findIdx?_eq_some_iff_getElem.mp h
  exact ⟨hlt, eq_of_beq hi⟩

theorem findIdx?_key_none {β κ : Type} [BEq κ] [LawfulBEq κ] (g : β → κ) (k : κ) (xs : List β) :
    xs.findIdx? (fun x => g x == k) = none ↔ k ∉ xs.map g := by
  rw [List.findIdx?_eq_none_iff]
  simp only [List.mem_map, not_exists, not_and, beq_eq_false_iff_ne, ne_eq]

theorem TablesWF.getD_actionsNodup {infos : List PInfo} {singles : List (Nat × Nat)}
    (hw : TablesWF infos singles) (i : Nat) : (infos.getD i default).actions.Nodup := by
  rw [List.getD_eq_getElem?_getD]
  cases h : infos[i]? with
  | none => exact List.nodup_nil
  | some x => exact hw.actionsNodup x (List.mem_of_getElem? h)

section Fits
variable {α : Type}

theorem Fits.length_eq {infos : List PInfo} {σ : Strat α} (hf : Fits infos σ) :
    σ.length = infos.length := by
  have := congrArg List.length hf
  rwa [List.length_map, List.length_map] at this

theorem Fits.getElem?_length {infos : List PInfo} {σ : Strat α} (hf : Fits infos σ)
    {k : Nat} {i : PInfo} {v : List α} (hi : infos[k]? = some i) (hv : σ[k]? = some v) :
    v.length = i.actions.length := by
  have := congrArg (fun l => l[k]?) hf
  rw [List.getElem?_map, List.getElem?_map, hi, hv] at this
  exact Option.some.inj this

end Fits

end Cfr
