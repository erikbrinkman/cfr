import CfrVerif.Proofs.Basic
import CfrVerif.Model.Vanilla
import CfrVerif.Model.External
/-!
# Unfolding equations of the traversals `vrec` and `erec` and of the sampler they call

The clauses of the traversals that bind the result of a recursive call with `let` are restated
with that result in projection form (`r.1`, `r.2.1`, `r.2.2`), so that a proof can rewrite with
them without destructuring the tuples; beside them, a child loop (`…Chance`, `…Acts`) that runs out
of weights or of children.  `vrecNth`, `erecNth` and `erec` at a terminal bind nothing: rewrite
with the definition.  A sample request (`sampleChance`, `samplePlayer`) has its two cases, cached
and fresh, and the invariant of the cache that both keep.
-/
namespace Cfr

/-! ## looking up a key (`assocGet`, and `cacheGet` of the payoff cache) -/

section
variable {κ β : Type} [BEq κ] [LawfulBEq κ]

theorem find?_fst_cons [DecidableEq κ] (k : κ) (v : β) (l : List (κ × β)) (j : κ) :
    (((k, v) :: l).find? (fun e => e.1 == j)).map (·.2) =
      if k = j then some v else (l.find? (fun e => e.1 == j)).map (·.2) := by
  rw [List.find?_cons]
  by_cases h : k = j
  · rw [if_pos h, beq_iff_eq.mpr h]; rfl
  · rw [if_neg h, beq_eq_false_iff_ne.mpr h]

theorem find?_fst_eq_none_iff (l : List (κ × β)) (j : κ) :
    (l.find? (fun e => e.1 == j)).map (·.2) = none ↔ ∀ e ∈ l, e.1 ≠ j := by
  rw [Option.map_eq_none_iff, List.find?_eq_none]
  exact forall₂_congr fun _ _ => beq_iff_eq.not

end

theorem assocGet_cons (a b : Nat) (l : List (Nat × Nat)) (j : Nat) :
    assocGet ((a, b) :: l) j = if a = j then some b else assocGet l j :=
  find?_fst_cons a b l j

theorem assocGet_eq_none_iff (l : List (Nat × Nat)) (i : Nat) :
    assocGet l i = none ↔ ∀ e ∈ l, e.1 ≠ i :=
  find?_fst_eq_none_iff l i

theorem assocGet_some_mem (l : List (Nat × Nat)) (i k : Nat) (h : assocGet l i = some k) :
    ∃ e ∈ l, e.1 = i := by
  by_contra hne
  rw [(assocGet_eq_none_iff l i).2 fun e he hei => hne ⟨e, he, hei⟩] at h
  cases h

/-- a fact about every cached sample still holds after one more sample is cached -/
theorem cache_cons {P : Nat → Nat → Prop} {l : List (Nat × Nat)} {i k : Nat} (hk : P i k)
    (h : ∀ j v, assocGet l j = some v → P j v) :
    ∀ j v, assocGet ((i, k) :: l) j = some v → P j v := by
  intro j v hj
  rw [assocGet_cons] at hj
  by_cases hij : i = j
  · rw [if_pos hij] at hj
    exact hij ▸ Option.some.inj hj ▸ hk
  · rw [if_neg hij] at hj
    exact h j v hj

/-! ## one sample request -/

section
variable {α : Type}

/-- a cached sample is reused: a second request for the same chance infoset in the same pass
makes no draw and returns the cached outcome -/
theorem sampleChance_cached (draw : DrawFn α) (pass : Nat) (probs : List α) (i k : Nat)
    (d : DrawSt α) (h : assocGet d.chance i = some k) :
    sampleChance draw pass probs i d = (k, d) := by
  simp only [sampleChance, h]

/-- a fresh draw asks the oracle with the declared weights, caches the answer and logs exactly
that -/
theorem sampleChance_fresh (draw : DrawFn α) (pass : Nat) (probs : List α) (i : Nat)
    (d : DrawSt α) (h : assocGet d.chance i = none) :
    sampleChance draw pass probs i d =
      (draw 0 i pass probs, { d with chance := (i, draw 0 i pass probs) :: d.chance,
                                      log := ⟨0, i, pass, probs, draw 0 i pass probs⟩ :: d.log }) := by
  simp only [sampleChance, h]

theorem samplePlayer_cached (draw : DrawFn α) (kind pass : Nat) (strat : List α) (i k : Nat)
    (d : DrawSt α) (h : assocGet d.player i = some k) :
    samplePlayer draw kind pass strat i d = (k, d) := by
  simp only [samplePlayer, h]

theorem samplePlayer_fresh (draw : DrawFn α) (kind pass : Nat) (strat : List α) (i : Nat)
    (d : DrawSt α) (h : assocGet d.player i = none) :
    samplePlayer draw kind pass strat i d =
      (draw kind i pass strat, { d with player := (i, draw kind i pass strat) :: d.player,
                                        log := ⟨kind, i, pass, strat, draw kind i pass strat⟩ :: d.log }) := by
  simp only [samplePlayer, h]

/-- If `P j v` holds of every cached chance sample `(j, v)` and of the oracle's answer for `i`,
it holds of the sample returned for `i` and of every cached sample afterwards.  With
`P j v := v = k j` the cache stays consistent with a draw function `k` and the request returns
`k i`; with `P j v := v < n j` samples stay in range. -/
theorem sampleChance_inv {P : Nat → Nat → Prop} (draw : DrawFn α) (pass : Nat) (probs : List α)
    (i : Nat) (d : DrawSt α) (hd : ∀ j v, assocGet d.chance j = some v → P j v)
    (hdraw : P i (draw 0 i pass probs)) :
    P i (sampleChance draw pass probs i d).1 ∧
      (∀ j v, assocGet (sampleChance draw pass probs i d).2.chance j = some v → P j v) ∧
      (sampleChance draw pass probs i d).2.player = d.player := by
  cases hg : assocGet d.chance i with
  | some k => rw [sampleChance_cached _ _ _ _ k d hg]; exact ⟨hd i k hg, hd, rfl⟩
  | none => rw [sampleChance_fresh _ _ _ _ d hg]; exact ⟨hdraw, cache_cons hdraw hd, rfl⟩

theorem samplePlayer_inv {P : Nat → Nat → Prop} (draw : DrawFn α) (kind pass : Nat)
    (strat : List α) (i : Nat) (d : DrawSt α) (hd : ∀ j v, assocGet d.player j = some v → P j v)
    (hdraw : P i (draw kind i pass strat)) :
    P i (samplePlayer draw kind pass strat i d).1 ∧
      (∀ j v, assocGet (samplePlayer draw kind pass strat i d).2.player j = some v → P j v) ∧
      (samplePlayer draw kind pass strat i d).2.chance = d.chance := by
  cases hg : assocGet d.player i with
  | some k => rw [samplePlayer_cached _ _ _ _ _ k d hg]; exact ⟨hd i k hg, hd, rfl⟩
  | none => rw [samplePlayer_fresh _ _ _ _ _ d hg]; exact ⟨hdraw, cache_cons hdraw hd, rfl⟩

end

/-! ## the traversals -/

variable {α : Type} [Field α]

theorem vrec_term (c : VCtx α) (p pc p1 p2 : α) (d : DrawSt α) :
    vrec c (.term p) pc p1 p2 d = (p, [], d) := by simp only [vrec]
theorem vrec_chance (c : VCtx α) (hs : c.sampled = false) (i : Nat) (ks : List (Node α))
    (pc p1 p2 : α) (d : DrawSt α) :
    vrec c (.chance i ks) pc p1 p2 d = vrecChance c (c.ch.getD i []) ks pc p1 p2 d 0 := by
  simp only [vrec, hs, Bool.false_eq_true, if_false]
theorem vrec_player (c : VCtx α) (one : Bool) (i : Nat) (ks : List (Node α))
    (pc p1 p2 : α) (d : DrawSt α) :
    vrec c (.player one i ks) pc p1 p2 d =
      (let r := vrecActs c one i (if one then pc * p2 else -p1 * pc) (c.strat one i) ks pc p1 p2 d 0 0 0
       (r.1, stratEffs one i (if one then p1 else p2) (c.strat one i) 0 ++ r.2.2.1
          ++ subEffs one i r.2.1 (c.strat one i).length, r.2.2.2)) := by
  simp only [vrec]
theorem vrecChance_cons (c : VCtx α) (p : α) (ps : List α) (k : Node α) (ks : List (Node α))
    (pc p1 p2 : α) (d : DrawSt α) (acc : α) :
    vrecChance c (p :: ps) (k :: ks) pc p1 p2 d acc =
      (let r := vrec c k (pc * p) p1 p2 d
       let r' := vrecChance c ps ks pc p1 p2 r.2.2 (acc + p * r.1)
       (r'.1, r.2.1 ++ r'.2.1, r'.2.2)) := by
  simp only [vrecChance]
theorem vrecActs_cons (c : VCtx α) (one : Bool) (i : Nat) (mult s : α) (σ : List α) (k : Node α)
    (ks : List (Node α)) (pc p1 p2 : α) (d : DrawSt α) (a : Nat) (eo ex : α) :
    vrecActs c one i mult (s :: σ) (k :: ks) pc p1 p2 d a eo ex =
      (let r := if one then vrec c k pc (p1 * s) p2 d else vrec c k pc p1 (p2 * s) d
       let r' := vrecActs c one i mult σ ks pc p1 p2 r.2.2 (a + 1) (eo + s * r.1) (ex + r.1 * mult * s)
       (r'.1, r'.2.1, r.2.1 ++ ⟨one, i, .regret, a, r.1 * mult⟩ :: r'.2.2.1, r'.2.2.2)) := by
  simp only [vrecActs]

theorem vrecChance_nil_right (c : VCtx α) (ws : List α) (pc p1 p2 : α) (d : DrawSt α) (acc : α) :
    vrecChance c ws [] pc p1 p2 d acc = (acc, [], d) := by
  cases ws <;> simp [vrecChance]
theorem vrecActs_nil_right (c : VCtx α) (one : Bool) (i : Nat) (mult : α) (ss : List α)
    (pc p1 p2 : α) (d : DrawSt α) (a : Nat) (eo ex : α) :
    vrecActs c one i mult ss [] pc p1 p2 d a eo ex = (eo, ex, [], d) := by
  cases ss <;> simp [vrecActs]

theorem vrec_chance_s (c : VCtx α) (hs : c.sampled = true) (i : Nat) (ks : List (Node α))
    (pc p1 p2 : α) (d : DrawSt α) :
    vrec c (.chance i ks) pc p1 p2 d =
      vrecNth c ks (sampleChance c.draw c.pass (c.ch.getD i []) i d).1 pc p1 p2
        (sampleChance c.draw c.pass (c.ch.getD i []) i d).2 := by
  simp only [vrec, hs, if_true]

theorem vrecActs_cons' (c : VCtx α) (one : Bool) (i : Nat) (mult s : α) (σ : List α) (k : Node α)
    (ks : List (Node α)) (pc p1 p2 : α) (d : DrawSt α) (a : Nat) (eo ex : α) :
    vrecActs c one i mult (s :: σ) (k :: ks) pc p1 p2 d a eo ex =
      (let r := vrec c k pc (if one then p1 * s else p1) (if one then p2 else p2 * s) d
       let r' := vrecActs c one i mult σ ks pc p1 p2 r.2.2 (a + 1) (eo + s * r.1)
          (ex + r.1 * mult * s)
       (r'.1, r'.2.1, r.2.1 ++ ⟨one, i, .regret, a, r.1 * mult⟩ :: r'.2.2.1, r'.2.2.2)) := by
  rw [vrecActs_cons]
  cases one <;> simp

theorem vrecActs_nil_left (c : VCtx α) (one : Bool) (i : Nat) (mult : α) (ks : List (Node α))
    (pc p1 p2 : α) (d : DrawSt α) (a : Nat) (eo ex : α) :
    vrecActs c one i mult [] ks pc p1 p2 d a eo ex = (eo, ex, [], d) := by
  simp [vrecActs]

theorem erec_chance_eq (c : ECtx α) (i : Nat) (ks : List (Node α)) (d : DrawSt α) :
    erec c (.chance i ks) d =
      erecNth c ks (sampleChance c.draw c.chancePass (c.ch.getD i []) i d).1
        (sampleChance c.draw c.chancePass (c.ch.getD i []) i d).2 := by
  simp only [erec]

theorem erec_own_eq (c : ECtx α) (one : Bool) (i : Nat) (ks : List (Node α)) (d : DrawSt α)
    (h : (one == c.first) = true) :
    erec c (.player one i ks) d =
      ((erecActs c one i (c.strat one i) ks d 0 0).1,
       (erecActs c one i (c.strat one i) ks d 0 0).2.1 ++
         subEffsE one i (erecActs c one i (c.strat one i) ks d 0 0).1 (c.strat one i).length,
       (erecActs c one i (c.strat one i) ks d 0 0).2.2) := by
  simp only [erec, if_pos h]

theorem erec_opp_eq (c : ECtx α) (one : Bool) (i : Nat) (ks : List (Node α)) (d : DrawSt α)
    (h : ¬ (one == c.first) = true) :
    erec c (.player one i ks) d =
      ((erecNth c ks (samplePlayer c.draw (if one then 1 else 2) c.playerPass (c.strat one i) i d).1
          (samplePlayer c.draw (if one then 1 else 2) c.playerPass (c.strat one i) i d).2).1,
       extStratEffs one i (c.strat one i) 0 ++
        (erecNth c ks (samplePlayer c.draw (if one then 1 else 2) c.playerPass (c.strat one i) i d).1
          (samplePlayer c.draw (if one then 1 else 2) c.playerPass (c.strat one i) i d).2).2.1,
       (erecNth c ks (samplePlayer c.draw (if one then 1 else 2) c.playerPass (c.strat one i) i d).1
          (samplePlayer c.draw (if one then 1 else 2) c.playerPass (c.strat one i) i d).2).2.2) := by
  simp only [erec, if_neg h]

theorem erecActs_cons_eq (c : ECtx α) (one : Bool) (j : Nat) (s : α) (σ : List α) (k : Node α)
    (ks : List (Node α)) (d : DrawSt α) (a : Nat) (ex : α) :
    erecActs c one j (s :: σ) (k :: ks) d a ex =
      ((erecActs c one j σ ks (erec c k d).2.2 (a + 1) (ex + s * (erec c k d).1)).1,
       (erec c k d).2.1 ++ ⟨one, j, .regret, a, (erec c k d).1⟩ ::
         (erecActs c one j σ ks (erec c k d).2.2 (a + 1) (ex + s * (erec c k d).1)).2.1,
       (erecActs c one j σ ks (erec c k d).2.2 (a + 1) (ex + s * (erec c k d).1)).2.2) := by
  simp only [erecActs]

theorem erecActs_nil_left (c : ECtx α) (one : Bool) (j : Nat) (ks : List (Node α)) (d : DrawSt α)
    (a : Nat) (ex : α) : erecActs c one j [] ks d a ex = (ex, [], d) := by
  simp [erecActs]

theorem erecActs_nil_right (c : ECtx α) (one : Bool) (j : Nat) (ss : List α) (d : DrawSt α)
    (a : Nat) (ex : α) : erecActs c one j ss [] d a ex = (ex, [], d) := by
  cases ss <;> simp [erecActs]

end Cfr
