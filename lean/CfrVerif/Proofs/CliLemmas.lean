import CfrVerif.Proofs.CliConv
import CfrVerif.Props.C05
import CfrVerif.Props.C13
import CfrVerif.Props.C18
import CfrVerif.Proofs.RawSem
/-!
# The command-line model: loading, reporting, and `cliMain` over `ℝ`

The predicates on the two ASTs that the theorems of C15–C17 assume, and what `main` does after the
game is read.  At any ordered field: every loaded game is well formed, and on a valid profile of a
well-formed game the output record is assembled without dropping or duplicating anything.  Over
`ℝ`, where the solvers are shown to return valid profiles: `cliMain` succeeds exactly when
loading, solving and reporting do (`cliMain_ok_iff`), what it prints is assembled from a valid
profile of a well-formed game (`cliMain_printed`), and it succeeds whenever loading and solving
do (`cliMain_succeeds`).
-/
set_option linter.unusedSectionVars false
namespace Cfr

mutual
/-- the component lists of every node of a Gambit AST have equal lengths (they are the
components of one `actions()` slice) -/
def Efg.ShapeOK {α : Type} : Efg α → Prop
  | .term _ _ => True
  | .chance _ names probs kids _ _ =>
    names.length = kids.length ∧ probs.length = kids.length ∧ Efg.ShapeOKL kids
  | .player _ _ _ acts kids _ _ => acts.length = kids.length ∧ Efg.ShapeOKL kids
def Efg.ShapeOKL {α : Type} : List (Efg α) → Prop
  | [] => True
  | k :: ks => Efg.ShapeOK k ∧ Efg.ShapeOKL ks
end

mutual
/-- the same for the JSON AST (entries of one `BTreeMap`) -/
def JState.ShapeOK {α : Type} : JState α → Prop
  | .terminal _ => True
  | .chance _ names probs kids =>
    names.length = kids.length ∧ probs.length = kids.length ∧ JState.ShapeOKL kids
  | .player _ _ acts kids => acts.length = kids.length ∧ JState.ShapeOKL kids
def JState.ShapeOKL {α : Type} : List (JState α) → Prop
  | [] => True
  | k :: ks => JState.ShapeOK k ∧ JState.ShapeOKL ks
end

def Parsed.ShapeOK {α : Type} (p : Parsed α) : Prop :=
  (∀ s, p.json = some s → s.ShapeOK) ∧ (∀ f, p.gambit = some f → f.root.ShapeOK)

mutual
/-- two facts `gambit_parser`'s `validate` guarantees about an accepted file and that the meaning
of the file depends on: no terminal carries the null outcome `0` (`NullOutcomePayoffs`: a terminal
always has payoffs), and the probabilities of every chance node do not add up to zero
(`ChanceNotDistribution`: they add up to one) -/
def Efg.FileOK {α : Type} [Zero α] [Add α] : Efg α → Prop
  | .term oc _ => oc ≠ 0
  | .chance _ _ probs kids _ _ => probs.sum ≠ 0 ∧ Efg.FileOKL kids
  | .player _ _ _ _ kids _ _ => Efg.FileOKL kids
def Efg.FileOKL {α : Type} [Zero α] [Add α] : List (Efg α) → Prop
  | [] => True
  | k :: ks => Efg.FileOK k ∧ Efg.FileOKL ks
end

theorem Efg.shapeOKL_iff {α : Type} (ks : List (Efg α)) :
    Efg.ShapeOKL ks ↔ ∀ k ∈ ks, k.ShapeOK := by
  induction ks with
  | nil => simp [Efg.ShapeOKL]
  | cons k ks ih => simp [Efg.ShapeOKL, ih]

theorem Efg.fileOKL_iff {α : Type} [Zero α] [Add α] (ks : List (Efg α)) :
    Efg.FileOKL ks ↔ ∀ k ∈ ks, k.FileOK := by
  induction ks with
  | nil => simp [Efg.FileOKL]
  | cons k ks ih => simp [Efg.FileOKL, ih]

namespace CliP

theorem ite_elim {β : Sort*} {motive : β → Prop} {c : Prop} [Decidable c] {a b : β}
    (ha : c → motive a) (hb : ¬c → motive b) : motive (if c then a else b) := by
  split
  exacts [ha ‹_›, hb ‹_›]

theorem hasDupNat_eq_false (l : List Nat) : hasDupNat l = false ↔ l.Nodup := by
  induction l with
  | nil => simp [hasDupNat]
  | cons x xs ih => simp [hasDupNat, ih]

section field
variable {α : Type} [Field α] [LinearOrder α] [IsStrictOrderedRing α]

theorem lvalidL_iff (ρ : LProfile α) (l : List (Raw α)) :
    LValidOnL ρ l ↔ ∀ r ∈ l, LValidOn ρ r := by
  induction l with
  | nil => simp [LValidOnL]
  | cons k ks ih => simp [LValidOnL, ih]

theorem efgL_shape (gi : GlobalInfo α) : ∀ (ks : List (Efg α)) (cum : α) (rs : List (Raw α)),
    Efg.toRawL gi ks cum = .ok rs → ∀ r ∈ rs, Raw.Shape r := by
  intro ks cum rs h
  exact toRawL_shape h

theorem jsonFromState_wf {s : JState α} {g : Game α} {sum : α}
    (h : jsonFromState s = .ok (g, sum)) : GameWF g :=
  compile_ok_wf _ (jstate_shape s) g (fromRootCli_ok h).1

theorem gambitFromAst_wf {numName : Nat → Nat} {f : EfgFile α} {g : Game α} {sum : α}
    (h : gambitFromAst numName f = .ok (g, sum)) : GameWF g := by
  unfold gambitFromAst at h
  split at h
  · cases h
  · exact compile_ok_wf _ (gambitRaw_shape ‹_›) g (fromRootCli_ok h).1

theorem loadGame_cases (numName : Nat → Nat) (fmt : InputFormat) (kind : InputKind) (p : Parsed α) :
    loadGame numName fmt kind p = jsonFromReader p ∨
    loadGame numName fmt kind p = gambitFromReader numName p ∨
    loadGame numName fmt kind p = autoFromReader numName p := by
  cases fmt <;> cases kind <;> simp only [loadGame, true_or, or_true]

/-- every game the program loads is well formed (the shape of the AST is not even needed: the
conversions pair the components up before `from_root` sees them) -/
theorem loadGame_wf {numName : Nat → Nat} {fmt : InputFormat} {kind : InputKind} {p : Parsed α}
    {g : Game α} {sum : α} (h : loadGame numName fmt kind p = .ok (g, sum)) : GameWF g := by
  rcases loadGame_cases numName fmt kind p with e | e | e <;> rw [e] at h
  · unfold jsonFromReader at h
    split at h
    · cases h
    · exact jsonFromState_wf h
  · unfold gambitFromReader at h
    split at h
    · cases h
    · exact gambitFromAst_wf h
  · unfold autoFromReader at h
    split at h
    · exact jsonFromState_wf h
    · split at h
      · exact gambitFromAst_wf h
      · cases h

/-- the conversion to the printed `Strategy` drops nothing from a named view: `as_named` lists only
positive probabilities already -/
theorem strategyOfNamed_asNamed (infos : List PInfo) (singles : List (Nat × Nat)) (σ : Strat α)
    (hn : ((asNamed infos singles σ).map (·.1)).Nodup) :
    strategyOfNamed (asNamed infos singles σ) = some (asNamed infos singles σ) := by
  unfold strategyOfNamed
  rw [if_neg (by rw [(hasDupNat_eq_false _).mpr hn]; simp)]
  congr 1
  unfold asNamed
  rw [List.map_append, List.map_map, List.map_map]
  congr 1
  · apply List.map_congr_left
    rintro ⟨i, v⟩ _
    simp only [Function.comp, ActIter.toList, List.filter_filter, Bool.and_self]
  · apply List.map_congr_left
    rintro ⟨l, a⟩ _
    simp [Function.comp]

theorem assemble_ok {g : Game α} {sum : α} {info : StrategiesInfo α} {one two : Strat α}
    {out : CliOut α} (h : assemble g sum info one two = .ok out) :
    ∃ s1 s2, strategyOfNamed (asNamed g.p1 g.s1 one) = some s1 ∧
      strategyOfNamed (asNamed g.p2 g.s2 two) = some s2 ∧
      out = ⟨info.regret, info.playerUtility true + sum, info.playerUtility false + sum,
        info.playerRegret true, info.playerRegret false, s1, s2⟩ := by
  unfold assemble at h
  split at h
  · rename_i s1 s2 h1 h2
    cases h
    exact ⟨s1, s2, h1, h2, rfl⟩
  · cases h

theorem truncate_fits {infos : List PInfo} {σ : Strat α} (clip : α)
    (h : IsStrat σ ∧ Fits infos σ) : IsStrat (truncate clip σ) ∧ Fits infos (truncate clip σ) := by
  refine ⟨truncate_valid _ _ h.1, ?_⟩
  unfold Fits
  rw [truncate_shape]
  exact h.2

/-- the assertion "internal error: found duplicate infosets" never fires on a valid profile of a
well-formed game -/
theorem assemble_succeeds {g : Game α} (hg : GameWF g) (sum : α) (info : StrategiesInfo α)
    {one two : Strat α} (h1 : IsStrat one ∧ Fits g.p1 one) (h2 : IsStrat two ∧ Fits g.p2 two) :
    ∃ out, assemble g sum info one two = .ok out := by
  unfold assemble
  rw [strategyOfNamed_asNamed _ _ _ (asNamed_keys_nodup g.p1 g.s1 one hg.tables1 h1.2),
    strategyOfNamed_asNamed _ _ _ (asNamed_keys_nodup g.p2 g.s2 two hg.tables2 h2.2)]
  exact ⟨_, rfl⟩

theorem report_succeeds {g : Game α} (hg : GameWF g) (sum clip : α) {one two : Strat α}
    (h1 : IsStrat one ∧ Fits g.p1 one) (h2 : IsStrat two ∧ Fits g.p2 two) :
    ∃ out, report g sum clip one two = .ok out :=
  ite_elim (motive := fun r : Except CliError (CliOut α) => ∃ out, r = .ok out)
    (fun _ => assemble_succeeds hg _ _ (truncate_fits _ h1) (truncate_fits _ h2))
    (fun _ => assemble_succeeds hg _ _ h1 h2)

end field

theorem cliMain_ok_iff {env : Env} {sched : Sched ℝ} {draw : DrawFn ℝ} {numName : Nat → Nat}
    {o : CliOpts ℝ} {fmt : InputFormat} {kind : InputKind} {p : Parsed ℝ} {out : CliOut ℝ} :
    cliMain env sched draw numName o fmt kind p = .ok out ↔
    ∃ g sum sol, loadGame numName fmt kind p = .ok (g, sum) ∧
      gameSolve env sched g o.method o.iters o.maxRegret o.parallel
        (some o.discount.intoParams) draw = .ok sol ∧
      report g sum o.clipThreshold sol.stratOne sol.stratTwo = .ok out := by
  unfold cliMain
  constructor
  · intro h
    split at h
    · cases h
    · rename_i g sum hl
      unfold runGame at h
      split at h
      · cases h
      · rename_i sol hsol
        exact ⟨g, sum, sol, hl, hsol, h⟩
  · rintro ⟨g, sum, sol, hl, hsol, hr⟩
    rw [hl]
    simp only [runGame, hsol]
    exact hr

theorem intoParams_ok (d : Discount) : (d.intoParams : RegretParams ℝ).OK := by
  cases d
  · exact presets_ok.1
  · exact presets_ok.2.1
  · exact presets_ok.2.2.1
  · exact presets_ok.2.2.2.1
  · exact presets_ok.2.2.2.2.1

theorem solve_strats {env : Env} {sched : Sched ℝ} (hs : sched.Fair) {draw : DrawFn ℝ}
    {o : CliOpts ℝ} {g : Game ℝ} (hg : GameWF g) {sol : SolveOut ℝ}
    (hsol : gameSolve env sched g o.method o.iters o.maxRegret o.parallel
      (some o.discount.intoParams) draw = .ok sol) :
    (IsStrat sol.stratOne ∧ Fits g.p1 sol.stratOne) ∧
      (IsStrat sol.stratTwo ∧ Fits g.p2 sol.stratTwo) :=
  have hw := solve_wellformed env sched hs g hg o.method o.iters o.maxRegret o.parallel
    (some o.discount.intoParams) (fun q hq => by cases hq; exact intoParams_ok _) draw sol hsol
  ⟨hw.stratOne, hw.stratTwo⟩

theorem cliMain_printed {env : Env} {sched : Sched ℝ} (hs : sched.Fair) {draw : DrawFn ℝ}
    {numName : Nat → Nat} {o : CliOpts ℝ} {fmt : InputFormat} {kind : InputKind} {p : Parsed ℝ}
    {out : CliOut ℝ} (h : cliMain env sched draw numName o fmt kind p = .ok out) :
    ∃ g sum one two, loadGame numName fmt kind p = .ok (g, sum) ∧ GameWF g ∧
      (IsStrat one ∧ Fits g.p1 one) ∧ (IsStrat two ∧ Fits g.p2 two) ∧
      assemble g sum (getInfo g (fun p => if p then one else two)) one two = .ok out := by
  obtain ⟨g, sum, sol, hl, hsol, hr⟩ := cliMain_ok_iff.1 h
  have hg : GameWF g := loadGame_wf hl
  obtain ⟨h1, h2⟩ := solve_strats hs hg hsol
  revert hr
  exact ite_elim (motive := fun r : Except CliError (CliOut ℝ) => r = .ok out → _)
    (fun _ hr => ⟨g, sum, _, _, hl, hg, truncate_fits _ h1, truncate_fits _ h2, hr⟩)
    (fun _ hr => ⟨g, sum, _, _, hl, hg, h1, h2, hr⟩)

theorem cliMain_succeeds {env : Env} {sched : Sched ℝ} (hs : sched.Fair) {draw : DrawFn ℝ}
    {numName : Nat → Nat} {o : CliOpts ℝ} {fmt : InputFormat} {kind : InputKind} {p : Parsed ℝ}
    {g : Game ℝ} {sum : ℝ} {sol : SolveOut ℝ} (hl : loadGame numName fmt kind p = .ok (g, sum))
    (hsol : gameSolve env sched g o.method o.iters o.maxRegret o.parallel
      (some o.discount.intoParams) draw = .ok sol) :
    ∃ out, cliMain env sched draw numName o fmt kind p = .ok out := by
  have hg : GameWF g := loadGame_wf hl
  obtain ⟨h1, h2⟩ := solve_strats hs hg hsol
  obtain ⟨out, hr⟩ := report_succeeds hg sum o.clipThreshold h1 h2
  exact ⟨out, cliMain_ok_iff.2 ⟨g, sum, sol, hl, hsol, hr⟩⟩

end CliP
end Cfr
