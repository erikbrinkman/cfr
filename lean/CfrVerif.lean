import CfrVerif.Model.Checked
import CfrVerif.Model.Cli
import CfrVerif.Model.Compile
import CfrVerif.Model.Dispatch
import CfrVerif.Model.Eval
import CfrVerif.Model.External
import CfrVerif.Model.Locks
import CfrVerif.Model.LocksVanilla
import CfrVerif.Model.Named
import CfrVerif.Model.Parallel
import CfrVerif.Model.Params
import CfrVerif.Model.Scalar
import CfrVerif.Model.Solve
import CfrVerif.Model.Tree
import CfrVerif.Model.Vanilla
import CfrVerif.Model.Worklist
import CfrVerif.Proofs.Basic
import CfrVerif.Proofs.BestResponse
import CfrVerif.Proofs.CfrSpec
import CfrVerif.Proofs.CliConv
import CfrVerif.Proofs.CliDemo
import CfrVerif.Proofs.CliGambit
import CfrVerif.Proofs.CliInst
import CfrVerif.Proofs.CliLemmas
import CfrVerif.Proofs.CliReject
import CfrVerif.Proofs.CliSem
import CfrVerif.Proofs.CliTwin
import CfrVerif.Proofs.CompileLemmas
import CfrVerif.Proofs.CompileSteps
import CfrVerif.Proofs.CompileValid
import CfrVerif.Proofs.CompileWF
import CfrVerif.Proofs.Dist
import CfrVerif.Proofs.Effects
import CfrVerif.Proofs.ExternalAvg
import CfrVerif.Proofs.Frontier
import CfrVerif.Proofs.FrontierBase
import CfrVerif.Proofs.FrontierExt
import CfrVerif.Proofs.Fuel
import CfrVerif.Proofs.GameWF
import CfrVerif.Proofs.GameWFLemmas
import CfrVerif.Proofs.InvChanceName
import CfrVerif.Proofs.InvChanceNameLemmas
import CfrVerif.Proofs.InvCompile
import CfrVerif.Proofs.InvCompileLemmas
import CfrVerif.Proofs.InvScale
import CfrVerif.Proofs.InvScaleLemmas
import CfrVerif.Proofs.InvShiftSwap
import CfrVerif.Proofs.InvShiftSwapLemmas
import CfrVerif.Proofs.Locks
import CfrVerif.Proofs.LocksCheck
import CfrVerif.Proofs.LocksGeneric
import CfrVerif.Proofs.LocksPerm
import CfrVerif.Proofs.LocksTrace
import CfrVerif.Proofs.LocksVanilla
import CfrVerif.Proofs.LocksVanillaPerm
import CfrVerif.Proofs.LocksVanillaRun
import CfrVerif.Proofs.LocksWide
import CfrVerif.Proofs.Lookup
import CfrVerif.Proofs.NoPanic
import CfrVerif.Proofs.NoRepeat
import CfrVerif.Proofs.NodeInd
import CfrVerif.Proofs.ParamSemantics
import CfrVerif.Proofs.PresetFinal
import CfrVerif.Proofs.PresetGame
import CfrVerif.Proofs.PresetGameAsm
import CfrVerif.Proofs.PresetGameInv
import CfrVerif.Proofs.PresetGameRange
import CfrVerif.Proofs.PresetScalar
import CfrVerif.Proofs.PresetScalarCore
import CfrVerif.Proofs.PresetSpec
import CfrVerif.Proofs.PresetSpecLemmas
import CfrVerif.Proofs.Rate
import CfrVerif.Proofs.RateExternal
import CfrVerif.Proofs.RatePotential
import CfrVerif.Proofs.RateProps
import CfrVerif.Proofs.RateSolve
import CfrVerif.Proofs.RateTree
import CfrVerif.Proofs.RateVanilla
import CfrVerif.Proofs.RawSem
import CfrVerif.Proofs.RealInst
import CfrVerif.Proofs.RegretDecomp
import CfrVerif.Proofs.SampledIter
import CfrVerif.Proofs.Tables
import CfrVerif.Proofs.TablesOK
import CfrVerif.Proofs.Trajectory
import CfrVerif.Proofs.Transforms
import CfrVerif.Proofs.Traversal
import CfrVerif.Proofs.TreeInd
import CfrVerif.Proofs.Unbiased
import CfrVerif.Proofs.UnbiasedExt
import CfrVerif.Proofs.VanillaBound
import CfrVerif.Proofs.ViewBridge
import CfrVerif.Proofs.ViewSpec
import CfrVerif.Proofs.WellFormed
import CfrVerif.Proofs.WorklistEq
import CfrVerif.Proofs.WorklistLemmas
import CfrVerif.Props.C01
import CfrVerif.Props.C02
import CfrVerif.Props.C03
import CfrVerif.Props.C04
import CfrVerif.Props.C05
import CfrVerif.Props.C06
import CfrVerif.Props.C07
import CfrVerif.Props.C08
import CfrVerif.Props.C09
import CfrVerif.Props.C10
import CfrVerif.Props.C11
import CfrVerif.Props.C12
import CfrVerif.Props.C13
import CfrVerif.Props.C14
import CfrVerif.Props.C15
import CfrVerif.Props.C16
import CfrVerif.Props.C17
import CfrVerif.Props.C18
import CfrVerif.Props.C19
